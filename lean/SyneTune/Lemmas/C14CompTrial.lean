import SyneTune.Lemmas.C14CompMgrView
import SyneTune.Lemmas.SearcherData
/- C14 composed system: `CInv` is a conjunction over trials (`TOK`) and an operation touches the record of one
trial (`Upd1`), so it owes the invariant for that trial only (`cinv_upd1`).  On this: the operations which end a
trial (`on_trial_remove`, `on_trial_error`, `on_trial_complete`: `_cleanup_trial` plus searcher calls,
`cinv_cleanup`) and `_suggest`, which launches one (`cinv_launch`).  Everything after the rung system's answer
(`afterSchedule`) is proved for any answer satisfying `SchedOK`, which holds of every rung system whose answer is a
`SchedEff` (the promotion scan; DyHPO's scan-or-pick).  Last, what `Props/C14Comp` and `Props/C14Dy` read off
`CInv` (`CInv.pending_running`, `CInv.rungs_milestone`, `CInv.no_pending_unless_running`) and that a completed or
failed trial has no pending entry (`stepC_complete_no_pending`, `stepC_error_no_pending`). -/
namespace SyneTune.C14Comp
open SyneTune SyneTune.C14

structure TOK (y : Sys) (t : Nat) : Prop where
  ent : ∀ L e, EntIn y.sched.mgr.systems L e → e.tid = t →
    ∃ rec, alookup t y.sched.active = some rec ∧ L ≤ lastRep rec ∧
      (y.sched.mgr.type.pauseResume = true → e.promoted = false → lastRep rec ≤ L)
  run : ∀ rec, alookup t y.sched.active = some rec → rec.decision = .continue →
    lastRep rec < milestoneOf y.sched.mgr t (lastRep rec) ∧
    (milestoneOf y.sched.mgr t (lastRep rec) = y.sched.mgr.maxT ∨ milestoneOf y.sched.mgr t (lastRep rec) ∈ y.sched.mgr.rungLevels)
  upd : ∀ rec, alookup t y.sched.active = some rec → ∀ l, rec.largestUpdate = some l → l ≤ lastRep rec
  pend : ∀ r, (t, r) ∈ y.st.pending → ∃ rec, alookup t y.sched.active = some rec ∧ rec.decision = .continue ∧
    lastRep rec < r ∧ r ≤ milestoneOf y.sched.mgr t (lastRep rec) ∧
    (y.sched.searcherData = .rungs → r = milestoneOf y.sched.mgr t (lastRep rec))
  obs : ∀ r, y.st.isLabeled t r = true → ∃ rec, alookup t y.sched.active = some rec ∧ r ≤ lastRep rec
  last : y.sched.searcherData = .rungsAndLast → ∀ rec, alookup t y.sched.active = some rec → ∀ p, rec.reported = some p →
    rec.keepCase = false → y.st.isLabeled t p.2 = true

theorem CInv.trial {y : Sys} (h : CInv y) (t : Nat) : TOK y t :=
  ⟨fun L e he ht => ht ▸ h.ent L e he, h.run t, h.upd t, fun r hp => h.pend (t, r) hp, h.obs t, fun hsd => h.last hsd t⟩

theorem TOK.not_labeled {y : Sys} {t : Nat} (h : TOK y t) {r : Nat}
    (hr : ∀ rec, alookup t y.sched.active = some rec → lastRep rec < r) : y.st.isLabeled t r = false := by
  cases hl : y.st.isLabeled t r with
  | false => rfl
  | true =>
    obtain ⟨rec, k1, k2⟩ := h.obs r hl
    exact absurd (hr rec k1) (Nat.not_lt.mpr k2)

theorem CInv.of_trials {y : Sys} (wf : MgrWF y.sched.mgr) (kinv : y.sched.mgr.type.pauseResume = true → KInv y.sched)
    (pnd : y.st.pending.Nodup) (owf : ObsWF y.st) (h : ∀ t, TOK y t) : CInv y :=
  ⟨wf, kinv, fun L e he => (h e.tid).ent L e he rfl, fun t => (h t).run, fun t => (h t).upd, pnd,
    fun p hp => (h p.1).pend p.2 hp, owf, fun t => (h t).obs, fun hsd t => (h t).last hsd⟩

theorem CInv.of_no_trials {y : Sys} (wf : MgrWF y.sched.mgr) (kinv : y.sched.mgr.type.pauseResume = true → KInv y.sched)
    (hent : ∀ L e, ¬ EntIn y.sched.mgr.systems L e) (hact : y.sched.active = []) (hp : y.st.pending = [])
    (ho : y.st.observed = []) : CInv y := by
  refine ⟨wf, kinv, fun L e he => absurd he (hent L e), ?_, ?_, hp ▸ List.nodup_nil, ?_, ObsWF_of_empty ho, ?_, ?_⟩
  · intro t rec ht; rw [hact] at ht; cases ht
  · intro t rec ht; rw [hact] at ht; cases ht
  · intro p hp'; rw [hp] at hp'; cases hp'
  · intro t r hl; rw [lab_iff, obsAt_of_empty ho] at hl; cases hl
  · intro _ t rec ht; rw [hact] at ht; cases ht

theorem TOK.congr {y y' : Sys} {t : Nat} (h : TOK y t) (hact : alookup t y'.sched.active = alookup t y.sched.active)
    (hsh : shape y'.sched.mgr = shape y.sched.mgr) (hsd : y'.sched.searcherData = y.sched.searcherData)
    (hv : trialView y'.sched.mgr t = trialView y.sched.mgr t)
    (hents : ∀ L e, EntIn y'.sched.mgr.systems L e → e.tid = t →
      ∃ e0, EntIn y.sched.mgr.systems L e0 ∧ e0.tid = t ∧ (e.promoted = false → e0.promoted = false))
    (hp : ∀ r, (t, r) ∈ y'.st.pending → (t, r) ∈ y.st.pending)
    (hl : ∀ r, y'.st.isLabeled t r = y.st.isLabeled t r) : TOK y' t := by
  have hM : ∀ l, milestoneOf y'.sched.mgr t l = milestoneOf y.sched.mgr t l := milestoneOf_congr hsh hv
  refine ⟨fun L e he ht => ?_, ?_, ?_, ?_, ?_, ?_⟩
  · obtain ⟨e0, h0, ht0, hp0⟩ := hents L e he ht
    obtain ⟨rec, g1, g2, g3⟩ := h.ent L e0 h0 ht0
    exact ⟨rec, hact ▸ g1, g2, fun hpr hpe => g3 (shape_type hsh ▸ hpr) (hp0 hpe)⟩
  · simp only [hact, hM, shape_maxT hsh, shape_levels hsh]; exact h.run
  · simp only [hact]; exact h.upd
  · simp only [hact, hM, hsd]; exact fun r hr => h.pend r (hp r hr)
  · simp only [hact, hl]; exact h.obs
  · simp only [hact, hl, hsd]; exact h.last

/-- the invariant looks at the scheduler only through the trial records, `searcher_data`, the
manager's shape, the per-trial views and the rung entries -/
theorem cinv_congr {y : Sys} (h : CInv y) {s' : Sched} (hact : s'.active = y.sched.active)
    (hsd : s'.searcherData = y.sched.searcherData) (hsh : shape s'.mgr = shape y.sched.mgr)
    (hv : ∀ t, trialView s'.mgr t = trialView y.sched.mgr t)
    (hents : ∀ L e, EntIn s'.mgr.systems L e → EntIn y.sched.mgr.systems L e)
    (hk : y.sched.mgr.type.pauseResume = true → KInv s') : CInv ⟨s', y.st⟩ :=
  .of_trials (MgrWF_of_shape hsh h.wf) (fun hpr => hk (shape_type hsh ▸ hpr)) h.pnd h.owf fun t =>
    (h.trial t).congr (y' := ⟨s', y.st⟩) (by rw [hact]) hsh hsd (hv t) (fun L e he ht => ⟨e, hents L e he, ht, id⟩)
      (fun _ hp => hp) fun _ => rfl

/-- the scheduler state `s'` differs from `s` in the record of trial `tid` only (new record
`new`, `none` = trial unknown before and after) -/
structure Upd1 (s s' : Sched) (tid : Nat) (new : Option TrialInfo) : Prop where
  act : ∀ t, alookup t s'.active = if t = tid then new else alookup t s.active
  shape : shape s'.mgr = shape s.mgr
  sd : s'.searcherData = s.searcherData
  view : ∀ t, t ≠ tid → trialView s'.mgr t = trialView s.mgr t

theorem Upd1.levels {s s' : Sched} {tid : Nat} {new : Option TrialInfo} (u : Upd1 s s' tid new) :
    s'.mgr.rungLevels = s.mgr.rungLevels := shape_levels u.shape

theorem Upd1.other {s s' : Sched} {tid : Nat} {new : Option TrialInfo} (u : Upd1 s s' tid new)
    {t : Nat} (h : t ≠ tid) : alookup t s'.active = alookup t s.active := by
  rw [u.act]; simp [h]

theorem Upd1.self {s s' : Sched} {tid : Nat} {new : Option TrialInfo} (u : Upd1 s s' tid new) :
    alookup tid s'.active = new := by
  rw [u.act]; simp

theorem cinv_upd1 {y : Sys} (h : CInv y) {s' : Sched} {st' : SState} {t : Nat} {new : Option TrialInfo}
    (u : Upd1 y.sched s' t new) (hk : y.sched.mgr.type.pauseResume = true → KInv s')
    (pnd : st'.pending.Nodup) (owf : ObsWF st')
    (hents : ∀ L e, EntIn s'.mgr.systems L e → e.tid ≠ t →
      ∃ e0, EntIn y.sched.mgr.systems L e0 ∧ e0.tid = e.tid ∧ (e.promoted = false → e0.promoted = false))
    (hp : ∀ p ∈ st'.pending, p.1 ≠ t → p ∈ y.st.pending)
    (hl : ∀ t' r, t' ≠ t → st'.isLabeled t' r = y.st.isLabeled t' r) (ht : TOK ⟨s', st'⟩ t) : CInv ⟨s', st'⟩ := by
  refine .of_trials (MgrWF_of_shape u.shape h.wf) (fun hpr => hk (shape_type u.shape ▸ hpr)) pnd owf fun t' => ?_
  by_cases he : t' = t
  · exact he ▸ ht
  · exact (h.trial t').congr (u.other he) u.shape u.sd (u.view t' he) (fun L e h1 h2 => h2 ▸ hents L e h1 (h2 ▸ he))
      (fun r hr => hp _ hr he) fun r => hl t' r he

theorem cleanup_upd1 (s : Sched) (tid : Nat) (d : Decision) :
    Upd1 s (s.cleanup tid d) tid ((alookup tid s.active).map fun rec => { rec with decision := d }) := by
  exact ⟨Sched.cleanup_active s tid d, shape_of_const (s.mgr.taskRemove_const tid), rfl, (taskRemove_effect s.mgr tid).1⟩

/-- `_cleanup_trial(tid, d)` with `d ≠ CONTINUE`, together with a searcher state which has lost
the pending entries of `tid` (and possibly gained an observation of `tid` at a reported level) -/
theorem cinv_cleanup (y : Sys) (tid : Nat) (d : Decision) (hd : d ≠ .continue) (st' : SState) (h : CInv y)
    (hp1 : st'.pending.Nodup) (hp2 : ∀ p ∈ st'.pending, p ∈ y.st.pending ∧ p.1 ≠ tid) (hwf : ObsWF st')
    (hl0 : ∀ t r, t ≠ tid → st'.isLabeled t r = y.st.isLabeled t r)
    (hl1 : ∀ r, st'.isLabeled tid r = true → y.st.isLabeled tid r = true ∨
      ∃ rec, alookup tid y.sched.active = some rec ∧ r ≤ lastRep rec)
    (hl2 : ∀ r, y.st.isLabeled tid r = true → st'.isLabeled tid r = true) :
    CInv ⟨y.sched.cleanup tid d, st'⟩ := by
  have u := cleanup_upd1 y.sched tid d
  have e3 := (taskRemove_effect y.sched.mgr tid).2
  have t0 := h.trial tid
  have hnew : ∀ rec', alookup tid (y.sched.cleanup tid d).active = some rec' →
      ∃ rec, alookup tid y.sched.active = some rec ∧ rec' = { rec with decision := d } := by
    intro rec' hr
    rw [u.self] at hr
    cases hl : alookup tid y.sched.active with
    | none => rw [hl] at hr; cases hr
    | some rec => rw [hl] at hr; exact ⟨rec, rfl, (Option.some.inj hr).symm⟩
  have hold : ∀ rec, alookup tid y.sched.active = some rec →
      alookup tid (y.sched.cleanup tid d).active = some { rec with decision := d } := fun rec hr => by rw [u.self, hr]; rfl
  refine cinv_upd1 h u (fun hpr => cleanup_KInv y.sched tid d hd (h.kinv hpr)) hp1 hwf
    (fun L e he _ => ⟨e, e3 L e he, rfl, id⟩) (fun p hp _ => (hp2 p hp).1) hl0
    { ent := ?ent, run := ?run, upd := ?upd, pend := ?pend, obs := ?obs, last := ?last }
  case ent =>
    intro L e he ht
    obtain ⟨rec, g1, g2, g3⟩ := t0.ent L e (e3 L e he) ht
    exact ⟨_, hold rec g1, g2, fun hpr => g3 (shape_type u.shape ▸ hpr)⟩
  case run =>
    intro rec' hr hdc
    obtain ⟨rec, _, rfl⟩ := hnew rec' hr
    exact absurd hdc hd
  case upd =>
    intro rec' hr l hl
    obtain ⟨rec, g1, rfl⟩ := hnew rec' hr
    exact t0.upd rec g1 l hl
  case pend =>
    exact fun r hp => absurd rfl (hp2 _ hp).2
  case obs =>
    intro r hl
    rcases hl1 r hl with hl | ⟨rec, g1, g2⟩
    · obtain ⟨rec, g1, g2⟩ := t0.obs r hl
      exact ⟨_, hold rec g1, g2⟩
    · exact ⟨_, hold rec g1, g2⟩
  case last =>
    intro hsd rec' hr p hp hk
    obtain ⟨rec, g1, rfl⟩ := hnew rec' hr
    exact hl2 _ (t0.last (u.sd ▸ hsd) rec g1 p hp hk)

theorem cinv_remove (y : Sys) (t : Nat) (h : CInv y) (hok : OpOK y (.remove t)) :
    CInv ⟨y.sched.cleanup t .pause, y.st⟩ := by
  apply cinv_cleanup y t .pause (by simp) y.st h h.pnd ?_ h.owf (fun _ _ _ => rfl) (fun _ hl => Or.inl hl) (fun _ hl => hl)
  intro p hp
  refine ⟨hp, ?_⟩
  intro he
  obtain ⟨rec, h1, h2, _⟩ := h.pend p hp
  rw [he] at h1
  exact hok rec h1 h2

theorem stepC_error (y : Sys) (t : Nat) :
    stepC y (.error t) = ⟨y.sched.cleanup t .stop,
      if (y.st.cleanupPending t).failed.contains t then y.st.cleanupPending t
      else { y.st.cleanupPending t with failed := (y.st.cleanupPending t).failed ++ [t] }⟩ := rfl

/-- stated for any `st'` with the pending list after `cleanup_pending(tid)` and the old observations, since
`evaluation_failed` may or may not extend `failed` on top -/
theorem cinv_cleanupPending (y : Sys) (tid : Nat) (h : CInv y) (st' : SState)
    (hp : st'.pending = (y.st.cleanupPending tid).pending) (ho : st'.observed = y.st.observed) :
    CInv ⟨y.sched.cleanup tid .stop, st'⟩ := by
  have hlab : ∀ t' r', st'.isLabeled t' r' = y.st.isLabeled t' r' := fun t' r' => by
    rw [isLabeled_eq, isLabeled_eq, obsAt_congr ho]
  apply cinv_cleanup y tid .stop (by simp) st' h
  · rw [hp]; exact nodup_cleanupPending y.st tid h.pnd
  · intro p hpm; rw [hp] at hpm; exact (mem_cleanupPending y.st tid p).mp hpm
  · exact obsWF_congr ho h.owf
  · exact fun t' r' _ => hlab t' r'
  · intro r' hl; rw [hlab] at hl; exact Or.inl hl
  · intro r' hl; rw [hlab]; exact hl

theorem cinv_error (y : Sys) (t : Nat) (h : CInv y) : CInv (stepC y (.error t)) := by
  rw [stepC_error]
  split
  · exact cinv_cleanupPending y t h _ rfl rfl
  · exact cinv_cleanupPending y t h _ rfl rfl

/-- the searcher calls of `on_trial_complete` -/
def completeCalls (rec : TrialInfo) (t r : Nat) (v : Rat) : List SCall :=
  (match rec.largestUpdate with
    | some l => if l < r then [SCall.update t r v true] else []
    | none => []) ++ [SCall.cleanup t]

/-- the searcher accepts them: an update at `r` or none, then the trial's pending entries go -/
theorem applyAll_completeCalls (st : SState) (rec : TrialInfo) (t r : Nat) (v : Rat) :
    ∃ st0, (st0 = st ∨ st0 = st.label t r (st.crit v)) ∧
      st.applyAll (completeCalls rec t r v) = .ok (st0.cleanupPending t) := by
  unfold completeCalls
  cases rec.largestUpdate with
  | none => exact ⟨st, Or.inl rfl, applyAll_single st _⟩
  | some l =>
    by_cases hlr : l < r
    · refine ⟨_, Or.inr rfl, ?_⟩
      simp [hlr, SState.applyAll, SState.apply]
    · simp only [hlr, if_false]
      exact ⟨st, Or.inl rfl, applyAll_single st _⟩

theorem opStep_complete (s : Sched) (t r : Nat) (v : Rat) :
    opStep s (.complete t r v) = match alookup t s.active with
      | none => (s, [])
      | some rec => (s.cleanup t .stop, completeCalls rec t r v) := by
  simp only [opStep, Sched.onComplete]
  cases alookup t s.active <;> rfl

/-- **`on_trial_complete`**: the invariant is preserved, and the searcher accepts every call the operation makes -/
theorem cinv_complete (y : Sys) (t r : Nat) (v : Rat) (h : CInv y) (hok : OpOK y (.complete t r v)) :
    ∃ st', y.st.applyAll (opStep y.sched (.complete t r v)).2 = .ok st' ∧
      CInv ⟨(opStep y.sched (.complete t r v)).1, st'⟩ := by
  rw [opStep_complete]
  cases hl : alookup t y.sched.active with
  | none => exact ⟨y.st, rfl, h⟩
  | some rec =>
    have hle := hok rec hl
    simp only
    have upd : CInv ⟨y.sched.cleanup t .stop, (y.st.label t r (y.st.crit v)).cleanupPending t⟩ := by
      have hlabel : ∀ t' r', ((y.st.label t r (y.st.crit v)).cleanupPending t).isLabeled t' r' =
          (decide (t' = t ∧ r' = r) || y.st.isLabeled t' r') := fun t' r' => isLabeled_label y.st t r _ t' r'
      apply cinv_cleanup y t .stop (by simp) _ h
      · exact nodup_cleanupPending _ t (by rw [label_pending]; exact h.pnd.erase _)
      · intro p hp
        obtain ⟨g1, g2⟩ := (mem_cleanupPending _ t p).mp hp
        rw [label_pending] at g1
        exact ⟨List.mem_of_mem_erase g1, g2⟩
      · exact apply_preserves_wf y.st (y.st.label t r (y.st.crit v)) (.update t r v true) rfl h.owf
      · intro t' r' ht
        rw [hlabel]; simp [ht]
      · intro r' hlab
        rw [hlabel] at hlab
        simp only [Bool.or_eq_true, decide_eq_true_eq] at hlab
        rcases hlab with ⟨_, rfl⟩ | hlab
        · exact Or.inr ⟨rec, hl, hle⟩
        · exact Or.inl hlab
      · intro r' hlab
        rw [hlabel, hlab]; simp
    obtain ⟨st0, rfl | rfl, hap⟩ := applyAll_completeCalls y.st rec t r v
    · exact ⟨_, hap, cinv_cleanupPending y t h _ rfl rfl⟩
    · exact ⟨_, hap, upd⟩

/-- what `terminator.on_task_schedule` guarantees when it returns manager `g'` and answer `so` -/
structure SchedOK (g g' : Manager) (so : Option SchedOut) : Prop where
  shape : shape g' = shape g
  view : ∀ t, trialView g' t = trialView g t
  ents : EntsFrom g.systems g'.systems
  promo : ∀ o, so = some o → g.type.pauseResume = true ∧
    (∃ e, EntIn g.systems o.resumeFrom e ∧ e.tid = o.trial ∧ e.promoted = false) ∧
    (o.milestone = g.maxT ∨ o.milestone ∈ g.rungLevels)

theorem _root_.SyneTune.MgrSchedEff.ok {g g' : Manager} {so : Option SchedOut} (h : MgrSchedEff g g' so) (hw : MgrWF g) :
    SchedOK g g' so := by
  rcases h with ⟨rfl, rfl⟩ | ⟨i, sys, sys', hpr, hs, rfl, eff⟩
  · exact ⟨rfl, fun _ => rfl, .of_subset fun _ _ he => he, nofun⟩
  have hmem : sys ∈ g.systems := List.mem_of_getElem? hs
  obtain ⟨w1, w2, w3⟩ := MgrWF_sys hw hmem
  have hc := RungSys.const_eq eff.maxT eff.steps
  refine ⟨shape_of_const (g.setSys_const hs hc), trialView_setSys g hs eff.running (sig_of_const hc),
    .of_set hs eff.entries, ?_⟩
  intro o ho
  cases ho
  obtain ⟨⟨rg, hrg, hl, e, he, ht, hp⟩, _⟩ := (eff.mark o rfl).1.eligible
  refine ⟨hpr, ⟨e, ⟨sys, hmem, rg, hrg, hl, he⟩, ht, hp⟩, ?_⟩
  rcases eff.milestone_mem w2 with hmile | ⟨rg2, hrg2, hl2⟩
  · exact Or.inl (hmile.trans w1)
  · exact Or.inr (hl2 ▸ (w3 rg2 hrg2).2.2)

/-- the manager `g'` differs from `g` in what concerns trial `tid` only -/
structure MgrStep (g g' : Manager) (tid : Nat) : Prop where
  shape : shape g' = shape g
  view : ∀ t, t ≠ tid → trialView g' t = trialView g t
  ents : EntsFrom g.systems g'.systems

theorem SchedOK.then_add {g g1 g2 : Manager} {so : Option SchedOut} (t : SchedOK g g1 so) {tid b : Nat}
    {resume : Option (Nat × Nat)} {first : Nat} (hta : g1.taskAdd tid b resume = .ok (g2, first)) :
    MgrStep g g2 tid := by
  obtain ⟨a2, a3⟩ := taskAdd_mgrStep hta
  exact ⟨(shape_of_const (Manager.taskAdd_const hta)).trans t.shape, fun t' ht => (a2 t' ht).trans (t.view t'),
    t.ents.trans (.of_subset a3)⟩

/-- **A trial is launched**: trial `t` gets the running record `R` (new, or the record of a
trial which was not running), the manager `g2` sends it to milestone `M`, and the levels `ls`
between its last report and `M` are registered as pending.  The invariant is preserved and the
searcher accepts the calls: none of the levels has an observation. -/
theorem cinv_launch (y : Sys) (h : CInv y) (g2 : Manager) (t : Nat) (R : TrialInfo) (ls : List Nat) (M : Nat)
    (st : MgrStep y.sched.mgr g2 t)
    (hk : y.sched.mgr.type.pauseResume = true →
      KInv { y.sched with mgr := g2, active := aset t R y.sched.active })
    (hR : R.decision = .continue)
    (hold : ∀ rec0, alookup t y.sched.active = some rec0 → rec0.decision ≠ .continue ∧ lastRep rec0 = lastRep R)
    (hupd : ∀ l, R.largestUpdate = some l → l ≤ lastRep R)
    (hlast : y.sched.searcherData = .rungsAndLast → ∀ p, R.reported = some p → R.keepCase = false →
      y.st.isLabeled t p.2 = true)
    (hM : milestoneOf g2 t (lastRep R) = M) (hlt : lastRep R < M)
    (hMl : M = y.sched.mgr.maxT ∨ M ∈ y.sched.mgr.rungLevels)
    (hls : ∀ r ∈ ls, lastRep R < r ∧ r ≤ M ∧ (y.sched.searcherData = .rungs → r = M)) :
    ∃ st', y.st.applyAll (ls.map (SCall.pending t)) = .ok st' ∧
      CInv { sched := { y.sched with mgr := g2, active := aset t R y.sched.active }, st := st' } := by
  have u : Upd1 y.sched { y.sched with mgr := g2, active := aset t R y.sched.active } t (some R) :=
    ⟨fun _ => alookup_aset _ _ _ _, st.shape, rfl, st.view⟩
  have t0 := h.trial t
  have hunl : ∀ r ∈ ls, y.st.isLabeled t r = false := fun r hr =>
    t0.not_labeled fun rec0 k1 => (hold rec0 k1).2 ▸ (hls r hr).1
  refine ⟨_, applyAll_pending y.st t ls hunl, cinv_upd1 h u hk (nodup_addPend _ _ _ h.pnd) h.owf
    (fun L e he _ => st.ents L e he) (fun p hp hne => ((mem_addPend t _ _ p).mp hp).resolve_right fun hp' => hne hp'.1)
    (fun _ _ _ => rfl) { ent := ?ent, run := ?run, upd := ?upd, pend := ?pend, obs := ?obs, last := ?last }⟩
  all_goals simp only [alookup_aset_self, Option.some.injEq, forall_eq']
  case ent =>
    intro L e he ht
    obtain ⟨e0, h0, ht0, hp0⟩ := st.ents L e he
    obtain ⟨rec0, k1, k2, k3⟩ := t0.ent L e0 h0 (ht0.trans ht)
    exact ⟨R, rfl, (hold rec0 k1).2 ▸ k2, fun hp hpe => (hold rec0 k1).2 ▸ k3 (shape_type u.shape ▸ hp) (hp0 hpe)⟩
  case run =>
    intro _
    show _ < milestoneOf g2 t _ ∧ (milestoneOf g2 t _ = g2.maxT ∨ milestoneOf g2 t _ ∈ g2.rungLevels)
    rw [hM, shape_maxT u.shape, u.levels]; exact ⟨hlt, hMl⟩
  case upd =>
    exact hupd
  case pend =>
    intro r hp
    rcases (mem_addPend t _ _ (t, r)).mp hp with hp | ⟨_, hp⟩
    · obtain ⟨rec0, k1, k2, _⟩ := t0.pend r hp
      exact absurd k2 (hold rec0 k1).1
    · refine ⟨R, rfl, hR, ?_⟩
      show _ < r ∧ r ≤ milestoneOf g2 t _ ∧ (y.sched.searcherData = .rungs → r = milestoneOf g2 t _)
      rw [hM]; exact hls r hp
  case obs =>
    intro r hl
    obtain ⟨rec0, k1, k2⟩ := t0.obs r hl
    exact ⟨R, rfl, (hold rec0 k1).2 ▸ k2⟩
  case last =>
    exact hlast

/-- `KInv` of the new scheduler is a hypothesis: each caller (`suggest`, DyHPO's `suggestDy`) has its own theorem for it -/
theorem cinv_afterSchedule {y : Sys} (h : CInv y) {g1 : Manager} {so : Option SchedOut} {n b ms : Nat}
    {fr0 : Bool} {s' : Sched} {sg : Suggestion} {calls : List SCall} {fr : Bool}
    (t : SchedOK y.sched.mgr g1 so) (hkinv : y.sched.mgr.type.pauseResume = true → KInv s')
    (hs : y.sched.afterSchedule g1 so n b ms fr0 = .ok (s', sg, calls, fr)) :
    ∃ st', y.st.applyAll calls = .ok st' ∧ CInv { sched := s', st := st' } := by
  have hw1 : MgrWF g1 := MgrWF_of_shape t.shape h.wf
  obtain ⟨g2, first, ⟨rfl, hnone, hta, rfl, rfl, _⟩ | ⟨o, rec, rfl, hta, hrec, hdec, rfl, rfl, _⟩⟩ :=
    Sched.afterSchedule_ok hs
  · -- a new trial is started
    obtain ⟨m1, m2, m3⟩ := taskAdd_new hta hw1
    exact cinv_launch y h g2 n { bracket := b } _ first (t.then_add hta) hkinv (hR := rfl)
      (hold := fun rec0 hr => by rw [hnone] at hr; cases hr) (hupd := nofun) (hlast := fun _ => nofun)
      (hM := m1) (hlt := m2) (hMl := shape_maxT t.shape ▸ shape_levels t.shape ▸ m3)
      -- a new trial is a trial resumed at level 0: `pendingNew first` unfolds to `pendingResume ⟨0, 0, first⟩`
      (hls := fun r hr => mem_pendingResume (o := ⟨0, 0, first⟩) hr m2)
  · -- a paused trial is promoted
    obtain ⟨hpr, ⟨e, he, het, hep⟩, hmile⟩ := t.promo o rfl
    obtain ⟨m1, m2⟩ := taskAdd_resumed hta (shape_type t.shape ▸ hpr)
    -- the promoted trial last reported at the level it is promoted from
    have hlast : lastRep rec ≤ o.resumeFrom := by
      obtain ⟨rec0, k1, _, k3⟩ := h.ent o.resumeFrom e he
      rw [het, hrec] at k1; cases k1
      exact k3 hpr hep
    refine cinv_launch y h g2 o.trial { rec with decision := .continue } _ o.milestone (t.then_add hta) hkinv
      (hR := rfl) (hold := fun rec0 hr => by rw [hrec] at hr; cases hr; exact ⟨hdec, rfl⟩) (hupd := h.upd _ rec hrec)
      (hlast := fun hsd => h.last hsd _ rec hrec) (hM := m2 _) (hlt := Nat.lt_of_le_of_lt hlast m1) (hMl := hmile)
      (hls := ?_)
    intro r hr
    obtain ⟨k1, k2⟩ := mem_pendingResume hr m1
    exact ⟨Nat.lt_of_le_of_lt hlast k1, k2⟩

theorem opStep_suggest (s : Sched) (n b : Nat) (hint : Option Nat) :
    opStep s (.suggest n b hint) =
      match s.suggest n b hint with | .ok res => (res.1, res.2.2.1) | .error _ => (s, []) := rfl

/-- **`suggest`**: the invariant is preserved, and the searcher accepts every call the operation makes -/
theorem cinv_suggest (y : Sys) (n b : Nat) (hint : Option Nat) (h : CInv y) :
    ∃ st', y.st.applyAll (opStep y.sched (.suggest n b hint)).2 = .ok st' ∧
      CInv ⟨(opStep y.sched (.suggest n b hint)).1, st'⟩ := by
  rw [opStep_suggest]
  cases hs : y.sched.suggest n b hint with
  | error e => exact ⟨y.st, rfl, h⟩
  | ok res =>
    obtain ⟨s', sg, calls, fr⟩ := res
    obtain ⟨g, so, ms, fr0, hts, ha⟩ := Sched.suggest_ok hs
    exact cinv_afterSchedule h ((Manager.taskSchedule_eff hts).ok h.wf)
      (fun hpr => (suggest_KInv (h.kinv hpr) hs).1) ha

theorem CInv.pending_running {y : Sys} (h : CInv y) {t r : Nat} (hp : (t, r) ∈ y.st.pending) :
    ∃ rec, alookup t y.sched.active = some rec ∧ rec.decision = .continue ∧
      lastRep rec < r ∧ r ≤ milestoneOf y.sched.mgr t (lastRep rec) ∧ y.st.isLabeled t r = false := by
  obtain ⟨rec, h1, h2, h3, h4, _⟩ := h.pend (t, r) hp
  -- an observed level is a reported one, a pending level is above them
  exact ⟨rec, h1, h2, h3, h4, (h.trial t).not_labeled fun rec' k1 => by rw [h1] at k1; cases k1; exact h3⟩

theorem CInv.rungs_milestone {y : Sys} (h : CInv y) (hsd : y.sched.searcherData = .rungs) {t r : Nat}
    (hp : (t, r) ∈ y.st.pending) {rec : TrialInfo} (hrec : alookup t y.sched.active = some rec) :
    r = milestoneOf y.sched.mgr t (lastRep rec) := by
  obtain ⟨rec', h1, _, _, _, h5⟩ := h.pend (t, r) hp
  rw [hrec] at h1; cases h1
  exact h5 hsd

theorem CInv.no_pending_unless_running {y : Sys} (h : CInv y) {t : Nat}
    (hnr : NotRunning y.sched t ∨ alookup t y.sched.active = none) : ∀ p ∈ y.st.pending, p.1 ≠ t := by
  rintro ⟨a, b⟩ hp rfl
  obtain ⟨rec, h1, h2, _⟩ := h.pending_running hp
  rcases hnr with ⟨rec', k1, k2⟩ | hn
  · rw [h1] at k1; cases k1; exact k2 h2
  · rw [h1] at hn; cases hn

theorem stepC_complete_no_pending (y : Sys) (h : CInv y) (t r : Nat) (v : Rat) :
    ∀ p ∈ (stepC y (.complete t r v)).st.pending, p.1 ≠ t := by
  unfold stepC
  rw [opStep_complete]
  cases hrec : alookup t y.sched.active with
  | none =>
    -- unknown trial: the operation is rejected, the state unchanged, and `t` has no pending entry
    exact h.no_pending_unless_running (.inr hrec)
  | some rec =>
    obtain ⟨st0, _, hap⟩ := applyAll_completeCalls y.st rec t r v
    simp only [hap]
    exact fun p hp => ((mem_cleanupPending st0 t p).mp hp).2

theorem stepC_error_no_pending (y : Sys) (t : Nat) : ∀ p ∈ (stepC y (.error t)).st.pending, p.1 ≠ t := by
  rw [stepC_error]
  intro p hp
  simp only at hp
  split at hp <;> exact ((mem_cleanupPending _ t p).mp hp).2

end SyneTune.C14Comp
