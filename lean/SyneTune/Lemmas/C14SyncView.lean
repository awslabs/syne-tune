import SyneTune.Lemmas.C14SyncDefs
/- C14 synchronous composition: rung levels from the rung systems (`lvl`, `prevLvl`, `level_to_prev_level`);
the new state of the scheduler as the composed invariant sees it:
which trials are running, which of them were started for their slot (`Started`), which slots are
finished (`SameView`, `Answered`, `Registered`, derived from the `Frame` of the bracket manager). -/
namespace SyneTune.Sync.C14S

theorem lvl_of_spec {sys : List (List (Nat × Nat))} {id k : Nat} {spec : List (Nat × Nat)} {a : Nat × Nat}
    (hs : sys[id % sys.length]? = some spec) (hk : spec[k]? = some a) : lvl sys id k = a.2 := by
  simp [lvl, specAt, hs, hk]

theorem lvl_lt_lvl {sys : List (List (Nat × Nat))} {id k k' : Nat} {spec : List (Nat × Nat)}
    (hs : sys[id % sys.length]? = some spec) (hck : checkRungs spec = true) (hk : k < spec.length) (hlt : k' < k) :
    lvl sys id k' < lvl sys id k := by
  have hinc := (checkRungs_levels spec hck).1
  have hk' : k' < spec.length := Nat.lt_trans hlt hk
  rw [lvl_of_spec hs (List.getElem?_eq_getElem hk), lvl_of_spec hs (List.getElem?_eq_getElem hk')]
  rw [List.pairwise_map, List.pairwise_iff_getElem] at hinc
  exact hinc k' k hk' hk hlt

theorem rung_levels {g : Manager} (hw : MWF g) {id k : Nat} {br : Bracket} {rg : Rung}
    (hbr : g.brackets[id]? = some br) (hrg : br.rungs[k]? = some rg) :
    lvl g.bracketRungs id k = rg.level ∧
    g.levelToPrevLevel id rg.level = .ok (prevLvl g.bracketRungs id k) ∧
    prevLvl g.bracketRungs id k < lvl g.bracketRungs id k := by
  obtain ⟨spec, hspec, hck, hk⟩ := spec_of_rung hw hbr hrg
  have hl := lvl_of_spec hspec hk
  refine ⟨hl, ?_, ?_⟩
  · rw [levelToPrevLevel_rung hw hbr hspec hck hk]
    cases k with
    | zero => rfl
    | succ k' =>
      have hk' := List.getElem?_eq_getElem (Nat.lt_of_succ_lt (getElem?_lt hk))
      rw [List.getElem?_cons_succ, List.getElem?_map, hk']
      exact congrArg _ (lvl_of_spec hspec hk').symm
  · cases k with
    | zero => rw [hl]; exact (checkRungs_levels spec hck).2 _ (List.mem_of_getElem? hk)
    | succ k' => exact lvl_lt_lvl hspec hck (getElem?_lt hk) (Nat.lt_succ_self k')

theorem lvl_le_prevLvl {g : Manager} (hw : MWF g) {id k k' : Nat} {br : Bracket} {rg : Rung}
    (hbr : g.brackets[id]? = some br) (hrg : br.rungs[k]? = some rg) (hlt : k' < k) :
    lvl g.bracketRungs id k' ≤ prevLvl g.bracketRungs id k := by
  obtain ⟨spec, hspec, hck, hk⟩ := spec_of_rung hw hbr hrg
  cases k with
  | zero => omega
  | succ k1 =>
    rcases Nat.lt_or_ge k' k1 with h | h
    · exact Nat.le_of_lt (lvl_lt_lvl hspec hck (Nat.lt_of_succ_lt (getElem?_lt hk)) h)
    · rw [show k' = k1 by omega]; exact Nat.le_refl _

theorem pend_level {s : Sched} (hI : Inv s) {t id : Nat} {sl : SlotInRung}
    (hlook : alookup t s.pending = some (id, sl)) :
    sl.level = s.lvl id sl.rungIndex ∧ s.prevLvl id sl.rungIndex < s.lvl id sl.rungIndex ∧
    s.mgr.levelToPrevLevel id sl.level = .ok (s.prevLvl id sl.rungIndex) := by
  obtain ⟨br, rg, x, hbr, hps, _⟩ := hI.pend t id sl hlook
  obtain ⟨h1, h2, h3⟩ := rung_levels hI.mwf hbr (k := sl.rungIndex) (hps.ri ▸ hps.hrg)
  exact ⟨hps.lvl.trans h1.symm, h3, hps.lvl ▸ h2⟩

/-- trial `t` is running and was STARTED for its slot — the slot of the bracket still holds
`(None, None)`; a resumed trial sits in its slot as `(trial_id, None)` — and `r` is the milestone
of the slot: the pairs `register_pending` was called for and which are not answered yet -/
def Started (s : Sched) (t r : Nat) : Prop :=
  ∃ id sl, alookup t s.pending = some (id, sl) ∧ r = sl.level ∧
    s.mgr.SlotAt id sl.rungIndex sl.slotIndex ⟨none, none⟩

/-- what every operation re-establishes or leaves alone -/
structure SchedTr (s s' : Sched) : Prop where
  inv : Inv s'
  sa : s'.searcherAll = s.searcherAll
  sys : s'.mgr.bracketRungs = s.mgr.bracketRungs

theorem SchedTr.lvl {s s' : Sched} (h : SchedTr s s') (j k : Nat) : s'.lvl j k = s.lvl j k := by
  simp only [Sched.lvl, h.sys]

theorem SchedTr.prevLvl {s s' : Sched} (h : SchedTr s s') (j k : Nat) : s'.prevLvl j k = s.prevLvl j k := by
  simp only [Sched.prevLvl, h.sys]

/-- running trials, started trials and finished slots are what they were -/
structure SameView (s s' : Sched) : Prop extends SchedTr s s' where
  pend : s'.pending = s.pending
  started : ∀ u r, Started s' u r ↔ Started s u r
  fin : ∀ j k p u m, s'.mgr.SlotAt j k p ⟨some u, some m⟩ ↔ s.mgr.SlotAt j k p ⟨some u, some m⟩

/-- the slot `sl` of bracket `id`, for which the running trial `t` is registered, is answered
with `v`; the trial leaves `_trial_to_pending_slot` -/
structure Answered (s s' : Sched) (t id : Nat) (sl : SlotInRung) (v : Metric) : Prop extends SchedTr s s' where
  look : alookup t s.pending = some (id, sl)
  run : ∀ u w, alookup u s'.pending = some w ↔ u ≠ t ∧ alookup u s.pending = some w
  started : ∀ u r, Started s' u r ↔ u ≠ t ∧ Started s u r
  fin : ∀ j k p u m, s'.mgr.SlotAt j k p ⟨some u, some m⟩ ↔
    s.mgr.SlotAt j k p ⟨some u, some m⟩ ∨ ((j, k, p) = (id, sl.rungIndex, sl.slotIndex) ∧ u = t ∧ m = v)

/-- trial `t`, not running so far, is registered for the slot `sl` of bracket `id`, which holds
`(o, None)`: `o = none` for a trial started there, `o = some t` for a resumed one -/
structure Registered (s s' : Sched) (t id : Nat) (sl : SlotInRung) (o : Option Nat) : Prop extends SchedTr s s' where
  look : alookup t s.pending = none
  run : ∀ u w, alookup u s'.pending = some w ↔ (u = t ∧ w = (id, sl)) ∨ (u ≠ t ∧ alookup u s.pending = some w)
  started : ∀ u r, Started s' u r ↔ Started s u r ∨ (u = t ∧ o = none ∧ r = sl.level)
  fin : ∀ j k p u m, s'.mgr.SlotAt j k p ⟨some u, some m⟩ ↔ s.mgr.SlotAt j k p ⟨some u, some m⟩

theorem SameView.of_eq {s s' : Sched} (hI : Inv s') (hm : s'.mgr = s.mgr) (hp : s'.pending = s.pending)
    (hsa : s'.searcherAll = s.searcherAll) : SameView s s' :=
  ⟨⟨hI, hsa, congrArg _ hm⟩, hp, fun _ _ => by unfold Started; rw [hp, hm], fun _ _ _ _ _ => by rw [hm]⟩

theorem Frame.started_iff {s s' : Sched} (hI : Inv s) {ans : Option (Nat × Nat × Nat)} (hfr : Frame s.mgr s'.mgr ans)
    {u : Nat} (hu : alookup u s'.pending = alookup u s.pending)
    (hne : ∀ id sl, alookup u s.pending = some (id, sl) → ans ≠ some (id, sl.rungIndex, sl.slotIndex)) (r : Nat) :
    Started s' u r ↔ Started s u r := by
  unfold Started
  rw [hu]
  refine exists_congr fun id => exists_congr fun sl => and_congr_right fun hl => and_congr_right fun _ => ?_
  obtain ⟨x0, hx0, _⟩ := hI.pend_slotAt hl
  have hx0' := hfr.fwd _ _ _ x0 hx0 (hne id sl hl)
  exact ⟨fun h => slotAt_functional h hx0' ▸ hx0, fun h => slotAt_functional h hx0 ▸ hx0'⟩

theorem Frame.fin_iff {g g' : Manager} {a : Nat × Nat × Nat} (hfr : Frame g g' (some a))
    (hempty : ∀ x, g.SlotAt a.1 a.2.1 a.2.2 x → x.metric = none) {x' : Slot}
    (hans : g'.SlotAt a.1 a.2.1 a.2.2 x') (j k p u : Nat) (m : Metric) :
    g'.SlotAt j k p ⟨some u, some m⟩ ↔ g.SlotAt j k p ⟨some u, some m⟩ ∨ ((j, k, p) = a ∧ x' = ⟨some u, some m⟩) := by
  constructor
  · intro h
    rcases hfr.bwd j k p u m h with h0 | he
    · exact Or.inl h0
    · cases he; exact Or.inr ⟨rfl, slotAt_functional hans h⟩
  · rintro (h | ⟨rfl, rfl⟩)
    · refine hfr.fwd j k p _ h fun he => ?_
      cases he; cases hempty _ h
    · exact hans

theorem Registered.of_frame {s s' : Sched} (hI : Inv s) (hs : SchedTr s s') {t id : Nat} {sl : SlotInRung} {o : Option Nat}
    (hnp : alookup t s.pending = none) (hp : s'.pending = aset t (id, sl) s.pending)
    (hfr : Frame s.mgr s'.mgr none) (hslot : s'.mgr.SlotAt id sl.rungIndex sl.slotIndex ⟨o, none⟩) :
    Registered s s' t id sl o := by
  have hrun : ∀ u w, alookup u s'.pending = some w ↔
      (u = t ∧ w = (id, sl)) ∨ (u ≠ t ∧ alookup u s.pending = some w) :=
    fun u w => hp ▸ alookup_aset_eq_some
  have hnone : ∀ a : Nat × Nat × Nat, (none : Option (Nat × Nat × Nat)) ≠ some a := fun _ h => by cases h
  refine ⟨hs, hnp, hrun, fun u r => ?_, fun j k p u m => ⟨fun h => ?_, fun h => hfr.fwd _ _ _ _ h (hnone _)⟩⟩
  · by_cases hu : u = t
    · subst hu
      have h0 : ¬ Started s u r := fun ⟨_, _, hl, _⟩ => by rw [hnp] at hl; cases hl
      rw [or_iff_right h0, and_iff_right rfl]
      constructor
      · rintro ⟨id', sl', hl, hr, hs⟩
        rcases (hrun _ _).mp hl with ⟨-, hw⟩ | ⟨hne, -⟩
        · cases hw
          exact ⟨by cases slotAt_functional hs hslot; rfl, hr⟩
        · exact absurd rfl hne
      · rintro ⟨rfl, rfl⟩
        exact ⟨id, sl, (hrun _ _).mpr (Or.inl ⟨rfl, rfl⟩), rfl, hslot⟩
    · rw [hfr.started_iff hI (by rw [hp]; exact alookup_aset_ne hu _ _) (fun _ _ _ => hnone _) r]
      exact (or_iff_left fun h => hu h.1).symm
  · exact (hfr.bwd _ _ _ _ _ h).resolve_right (hnone _)

/-- `_suggest` without a configuration: the slot handed out, which no running trial is registered
for, is reported as failed, `(None, NaN)` -/
theorem sameView_noconfig {s : Sched} (hI : Inv s) {g1 g' : Manager} {id : Nat} {br : Bracket}
    {rg : Rung} {x : Slot} {np} (hj : JobStruct s.mgr g1 id br rg x) (hx : x.tid = none)
    (hr : Reported g1 id { slotOf br rg x with metric := some .nan } g' np)
    (hne : ∀ u id' sl', alookup u s.pending = some (id', sl') → (id', sl'.slotIndex) ≠ (id, br.firstFree))
    (hI' : Inv (s.afterReport g' np)) : SameView s (s.afterReport g' np) := by
  have hfj := frame_job hj
  have hfr : Frame s.mgr (s.afterReport g' np).mgr (some (id, br.current, br.firstFree)) :=
    hfj.trans (frame_report hr :)
  have hans : (s.afterReport g' np).mgr.SlotAt id br.current br.firstFree ⟨none, some .nan⟩ := by
    have := hr.slotAt
    simp only [slotOf, hx] at this
    exact this
  have hne' : ∀ u id' sl', alookup u s.pending = some (id', sl') →
      some (id, br.current, br.firstFree) ≠ some (id', sl'.rungIndex, sl'.slotIndex) := fun u id' sl' hl' he => by
    simp only [Option.some.injEq, Prod.mk.injEq] at he
    exact hne u _ _ hl' (by rw [he.1, he.2.2])
  refine ⟨⟨hI', rfl, hr.sys.1.trans hj.sys⟩, rfl, fun u r => ?_, fun j k p u m => ?_⟩
  · exact hfr.started_iff hI rfl (hne' u) r
  · rw [hfr.fin_iff (fun y hy => ?_) hans]
    · simp
    · rw [slotAt_functional (hfj.fwd _ _ _ y hy nofun) (hj.slotAt hx)]

theorem _root_.SyneTune.Sync.Reported.answered {s : Sched} (hI : Inv s) {t id : Nat} {sl : SlotInRung} {mv : Metric} {g' np}
    (hlook : alookup t s.pending = some (id, sl)) (hr : Reported s.mgr id { sl with metric := some mv } g' np)
    (hI' : Inv (s.answered t g' np)) :
    Answered s (s.answered t g' np) t id sl mv := by
  obtain ⟨_, _, _, _, hps, _⟩ := hI.pend t id sl hlook
  have hfr : Frame s.mgr (s.answered t g' np).mgr (some (id, sl.rungIndex, sl.slotIndex)) :=
    (frame_report hr :)
  have hans : (s.answered t g' np).mgr.SlotAt id sl.rungIndex sl.slotIndex ⟨some t, some mv⟩ := hps.tid ▸ (hr.slotAt :)
  have hrun : ∀ u w, alookup u (s.answered t g' np).pending = some w ↔ u ≠ t ∧ alookup u s.pending = some w :=
    fun u w => alookup_adel_eq_some hI.keys
  -- the slot of another running trial is not the answered one
  have hother : ∀ {u id' sl'}, u ≠ t → alookup u s.pending = some (id', sl') →
      some (id, sl.rungIndex, sl.slotIndex) ≠ some (id', sl'.rungIndex, sl'.slotIndex) :=
    fun hu hl he => by
      simp only [Option.some.injEq, Prod.mk.injEq] at he
      obtain ⟨rfl, -, h3⟩ := he
      exact hu (hI.distinct _ t id _ sl hl hlook h3.symm)
  refine ⟨⟨hI', rfl, hr.sys.1⟩, hlook, hrun, fun u r => ?_, fun j k p u m => ?_⟩
  · by_cases hu : u = t
    · exact iff_of_false (fun ⟨_, _, hl, _⟩ => ((hrun _ _).mp hl).1 hu) fun h => h.1 hu
    · rw [hfr.started_iff hI (alookup_adel_ne hu _) (fun _ _ hl => hother hu hl) r]
      exact (and_iff_right hu).symm
  · rw [hfr.fin_iff (fun x hx => ?_) hans]
    · simp only [Slot.mk.injEq, Option.some.injEq, eq_comm]
    · obtain ⟨x0, hx0, hm⟩ := hI.pend_slotAt hlook
      exact slotAt_functional hx hx0 ▸ hm

theorem Answered.slot {s s' : Sched} {t id : Nat} {sl : SlotInRung} {v : Metric} (h : Answered s s' t id sl v) :
    s'.mgr.SlotAt id sl.rungIndex sl.slotIndex ⟨some t, some v⟩ :=
  (h.fin _ _ _ _ _).mpr (Or.inr ⟨rfl, rfl, rfl⟩)

end SyneTune.Sync.C14S
