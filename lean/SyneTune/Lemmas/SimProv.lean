import SyneTune.Lemmas.SimFlow
import SyneTune.Lemmas.SimTabRun
/-
Provenance of simulated results: every result event in the heap, every arrived result and
every log entry stems from a recorded run (start event), with the time stamp
`(start ⊕ elapsed) ⊕ delay_on_trial_result`.  And where the job call of that run sits: the job
state only moves up a preorder that the job and the hooks respect (`JsUp`), so every recorded
run lies between the initial and the current job state (`RunsUp`); for the tabular job the
preorder says that table and constants stay and seeds are never overwritten (`tabUp`).
-/
namespace SyneTune.SimL
open SyneTune SyneTune.Backend

variable {J : Type}

theorem Prov.mono {A : Arith} {job : JobFn J} {s s' : Sim J} {t : Nat} {res : Res} {time : Rat} {tag : Tag}
    (h : Prov A job s t res time tag) (hr : ∀ ρ ∈ s.runs, ρ ∈ s'.runs) (hc : s'.cfg = s.cfg) :
    Prov A job s' t res time tag := by
  obtain ⟨ρ, hm, h1, h2, h3, h4, h5⟩ := h
  exact ⟨ρ, hr ρ hm, h1, h2, h3, h4, by rw [hc]; exact h5⟩

theorem Prov.of_eq {A : Arith} {job : JobFn J} {s s' : Sim J} {t : Nat} {res : Res} {time : Rat} {tag : Tag}
    (h : Prov A job s t res time tag) (hr : s'.runs = s.runs) (hc : s'.cfg = s.cfg) :
    Prov A job s' t res time tag :=
  h.mono (by rw [hr]; exact fun _ h => h) hc

def ProvAll (A : Arith) (job : JobFn J) (s : Sim J) : Prop :=
  ∀ k : Tok, k.In s → Prov A job s k.trial k.res k.time k.tag

theorem ProvAll.prim {A : Arith} {job : JobFn J} {H : J → J → Prop} (s s' : Sim J) (hp : Prim A job H s s')
    (h : ProvAll A job s) : ProvAll A job s' :=
  Tok.keeps (P := fun s k => Prov A job s k.trial k.res k.time k.tag) (fun _ hk => hk.mono hp.grow.1 hp.cfg)
    (fun _ hb => hb.prov) hp h

theorem ProvAll.run {A : Arith} {job : JobFn TabState} (ops : List SOp) {s s' : TB} (h : ProvAll A job s)
    (hs : TB.run A job s ops = .ok s') : ProvAll A job s' :=
  run_induct ProvAll.prim (fun _ _ _ h k hk => (h k (hk.of_eq rfl rfl rfl)).of_eq rfl rfl) ops h hs

theorem ProvAll.init (A : Arith) (job : JobFn TabState) (cfg : SimCfg) (js : TabState) : ProvAll A job (TB.init cfg js) :=
  fun k hk => by rcases hk with (⟨_, h, _⟩ | ⟨_, h, _⟩) | ⟨_, h, _⟩ <;> cases h

theorem fetch_provAll (A : Arith) (job : JobFn TabState) (s s' : TB) (ids : List Nat) (sts : List (Nat × St))
    (res : List (Nat × Arrived)) (hinv : ProvAll A job s) (h : s.fetch A job ids = .ok (s', sts, res)) :
    ∀ p ∈ res, Prov A job s' p.1 p.2.res p.2.time p.2.tag := by
  obtain ⟨s1, s2, h1, h2, rfl, rfl⟩ := fetch_ok h
  have a2 : ProvAll A job s2 :=
    Path.keeps ProvAll.prim ((advance_path (H := TabHook) h1).trans (processUntil_path h2)) hinv
  have hf := deliver_frame s2 ids
  intro p hpm
  obtain ⟨l, hl, ha⟩ := mem_fetchCovered ids s2 p hpm
  exact (a2 ⟨p.1, p.2.res, p.2.time, p.2.tag⟩ (Or.inl (Or.inr ⟨l, hl, ha⟩))).of_eq hf.runs hf.cfg

/-- what a state predicate has to satisfy in order to be kept by every operation -/
structure Pres (A : Arith) (job : JobFn TabState) (P : TB → Prop) : Prop where
  ev : ∀ (s : TB) (e : Ev) (rest : List Ev) (s' : TB), P s → s.heap = e :: rest →
      ({ s with heap := rest } : TB).processEvent A job e = .ok s' → P s'
  frame : ∀ (s s' : TB), P s → s'.cfg = s.cfg → s'.heap = s.heap → s'.next = s.next → s'.log = s.log →
      s'.runs = s.runs → s'.js = s.js → P s'
  push : ∀ (s : TB) (tm : Rat) (t : Nat) (k : EvKind), (∀ r tag, k ≠ .result r tag) → P s → P (s.push tm t k)
  js : ∀ (s : TB) (js' : TabState), js'.table = s.js.table → js'.seedFix = s.js.seedFix →
      js'.checkpointing = s.js.checkpointing → js'.maxResAttr = s.js.maxResAttr → js'.minStep = s.js.minStep →
      js'.seedFor = s.js.seedFor → P s → P { s with js := js' }
  fetch : ∀ (s : TB) (ids : List Nat), P s → P (dropRest (fetchCovered s ids).1 (fetchCovered s ids).1.next)

section pres
variable {A : Arith} {job : JobFn TabState} {P : TB → Prop}

theorem Pres.prim (hp : Pres A job P) (s s' : TB) (h : Prim A job TabHook s s') (hs : P s) : P s' := by
  cases h with
  | event hh _ hev => exact hp.ev _ _ _ _ hs hh hev
  | push tm t hk _ => exact hp.push _ tm t _ hk hs
  | hook hh =>
    obtain ⟨h1, h2, h3, h4, h5⟩ := consts_eq hh.1
    exact hp.js _ _ h1 h2 h3 h4 h5 hh.2 hs
  | deliver ids => exact hp.fetch _ ids hs
  | _ => exact hp.frame _ _ hs rfl rfl rfl rfl rfl rfl

theorem Pres.advance (hp : Pres A job P) {s s' : TB} {step : Rat} (h : P s) (ha : s.advance A step = .ok s') : P s' :=
  (advance_path ha).keeps hp.prim h

theorem Pres.schedule (hp : Pres A job P) {s s' : TB} {t : Nat} (h : P s) (hs : s.schedule A job t = .ok s') : P s' :=
  (schedule_path hs).keeps hp.prim h

end pres

structure JsUp (H : J → J → Prop) (R : J → J → Prop) (job : JobFn J) : Prop where
  refl : ∀ a, R a a
  trans : ∀ {a b c}, R a b → R b c → R a c
  job : ∀ js t js' st rs, job js t = .ok (js', st, rs) → R js js'
  hook : ∀ js js', H js js' → R js js'

structure RunsUp (R : J → J → Prop) (j0 : J) (s : Sim J) : Prop where
  cur : R j0 s.js
  before : ∀ ρ ∈ s.runs, R j0 ρ.jsBefore
  after : ∀ ρ ∈ s.runs, R ρ.jsAfter s.js

section
variable {A : Arith} {job : JobFn J} {H R : J → J → Prop} {s s' : Sim J}

theorem Prim.js_up (hR : JsUp H R job) (hp : Prim A job H s s') :
    R s.js s'.js ∧ (s'.runs = s.runs ∨ ∃ ρ, s'.runs = s.runs ++ [ρ] ∧ ρ.jsBefore = s.js ∧ ρ.jsAfter = s'.js) := by
  cases hp with
  | event _ _ hev =>
    rcases processEvent_cases hev with ⟨x, js', st, rs, _, _, hj, rfl⟩ | ⟨st, nat, _, _, rfl⟩ | ⟨_, rfl⟩ | ⟨r, tag, _, _, rfl⟩
    · exact ⟨hR.job _ _ _ _ _ hj, Or.inr ⟨_, rfl, rfl, rfl⟩⟩
    all_goals exact ⟨hR.refl _, Or.inl rfl⟩
  | hook hh => exact ⟨hR.hook _ _ hh, Or.inl rfl⟩
  | deliver ids =>
    exact ⟨(deliver_frame s ids).js ▸ hR.refl _, Or.inl (deliver_frame s ids).runs⟩
  | _ => exact ⟨hR.refl _, Or.inl rfl⟩

theorem RunsUp.prim (hR : JsUp H R job) {j0 : J} (s s' : Sim J) (hp : Prim A job H s s') (h : RunsUp R j0 s) :
    RunsUp R j0 s' := by
  obtain ⟨hj, hr⟩ := hp.js_up hR
  have mem : ∀ ρ ∈ s'.runs, ρ ∈ s.runs ∨ (ρ.jsBefore = s.js ∧ ρ.jsAfter = s'.js) := by
    intro ρ hρ
    rcases hr with hr | ⟨ρ', hr, hb, ha⟩
    · exact Or.inl (hr ▸ hρ)
    · rcases List.mem_append.mp (hr ▸ hρ) with hρ | hρ
      · exact Or.inl hρ
      · cases List.mem_singleton.mp hρ; exact Or.inr ⟨hb, ha⟩
  exact {
    cur := hR.trans h.cur hj
    before := fun ρ hρ => (mem ρ hρ).elim (h.before ρ) fun e => e.1 ▸ h.cur
    after := fun ρ hρ => (mem ρ hρ).elim (fun hρ => hR.trans (h.after ρ hρ) hj) fun e => e.2 ▸ hR.refl _ }

end

theorem tabJob_up (A : Arith) : JsUp TabHook tabUp (tabJob A) where
  refl := fun _ => ⟨rfl, fun _ _ h => h⟩
  trans := fun h1 h2 => ⟨h2.consts_eq.trans h1.consts_eq, fun u sd h => h2.seeds u sd (h1.seeds u sd h)⟩
  job := fun js t js' st rs hj => tabJob_stable A js js' t st rs hj
  hook := fun js js' hh => ⟨hh.1, fun u sd h => by rw [hh.2]; exact h⟩

theorem tabUp_run (A : Arith) (ops : List SOp) {s s' : TB} (h : TB.run A (tabJob A) s ops = .ok s') : tabUp s.js s'.js :=
  run_induct (P := fun x => tabUp s.js x.js) (fun _ _ hp h => (tabJob_up A).trans h (hp.js_up (tabJob_up A)).1)
    (fun _ _ _ h => h) ops ((tabJob_up A).refl _) h

theorem runsUp_run (A : Arith) (cfg : SimCfg) (js : TabState) (ops : List SOp) {s' : TB}
    (h : TB.run A (tabJob A) (TB.init cfg js) ops = .ok s') : RunsUp tabUp js s' :=
  run_induct (RunsUp.prim (tabJob_up A)) (fun _ _ _ h => ⟨h.cur, h.before, h.after⟩) ops
    { cur := (tabJob_up A).refl _, before := fun _ hρ => (by cases hρ), after := fun _ hρ => (by cases hρ) } h

end SyneTune.SimL
