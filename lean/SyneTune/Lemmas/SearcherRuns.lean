import SyneTune.Model.Exclusion
/-
What the searcher models share: the exclusion list as a set of match strings, histories as
folds of a step function with the induction principles of such folds (the random and the grid
searcher's histories are folds: `XState.run_eq`, `GState.run_eq`), answers served from a queue
(`Served`: initial configurations first); then the BO loop's exclusion filter
(`pickFromLocallyOptimized`) and the GP searchers' state codec.
Core Lean only.
-/
namespace SyneTune.Srch

theorem exclAdd_eq_insert (x : String) (l : List String) : exclAdd x l = l.insert x := by
  unfold exclAdd; simp [List.insert]

theorem mem_exclAdd {m x : String} {l : List String} : m ∈ exclAdd x l ↔ m = x ∨ m ∈ l :=
  exclAdd_eq_insert x l ▸ List.mem_insert_iff

theorem exclAdd_nodup {l : List String} (x : String) (h : l.Nodup) : (exclAdd x l).Nodup := by
  unfold exclAdd
  split
  · exact h
  · exact List.nodup_cons.2 ⟨‹_›, h⟩

theorem exclAdd_perm {l l' : List String} (x : String) (h : l.Perm l') :
    (exclAdd x l).Perm (exclAdd x l') :=
  exclAdd_eq_insert x l ▸ exclAdd_eq_insert x l' ▸ h.insert x

def Grown (excl ex : List String) : Prop := ex = excl ∨ ∃ m, ex = exclAdd m excl

theorem Grown.subset {excl ex : List String} (h : Grown excl ex) {m : String} (hm : m ∈ excl) : m ∈ ex := by
  rcases h with rfl | ⟨x, rfl⟩
  · exact hm
  · exact mem_exclAdd.2 (Or.inr hm)

theorem Grown.nodup {excl ex : List String} (h : Grown excl ex) (hn : excl.Nodup) : ex.Nodup := by
  rcases h with rfl | ⟨x, rfl⟩
  · exact hn
  · exact exclAdd_nodup x hn

def Excluded (mk : MK) (excl : List String) (c : Config) : Prop := ∃ m, mk c = .ok m ∧ m ∈ excl

theorem Excluded.mono {mk : MK} {excl ex : List String} {c : Config} (hs : ∀ m ∈ excl, m ∈ ex) :
    Excluded mk excl c → Excluded mk ex c
  | ⟨m, hm, hin⟩ => ⟨m, hm, hs m hin⟩

def Tracked (mk : MK) (excl : List String) (R : List Config) : Prop := ∀ c ∈ R, Excluded mk excl c

theorem Tracked.mono {mk : MK} {excl ex : List String} {R : List Config} (h : Tracked mk excl R)
    (hs : ∀ m ∈ excl, m ∈ ex) : Tracked mk ex R :=
  fun c hc => let ⟨m, hm, hin⟩ := h c hc; ⟨m, hm, hs m hin⟩

theorem Tracked.snoc {mk : MK} {excl : List String} {R : List Config} (h : Tracked mk excl R)
    {c : Config} {m : String} (hm : mk c = .ok m) : Tracked mk (exclAdd m excl) (R ++ [c]) := by
  intro d hd
  rcases List.mem_append.1 hd with hd | hd
  · exact (h.mono fun _ hx => mem_exclAdd.2 (Or.inr hx)) d hd
  · rw [List.mem_singleton.1 hd]; exact ⟨m, hm, mem_exclAdd.2 (Or.inl rfl)⟩

/-- the one argument behind all "no repeat" statements -/
theorem Tracked.fresh {mk : MK} {excl : List String} {R : List Config} (h : Tracked mk excl R)
    {c : Config} {m : String} (hm : mk c = .ok m) (hne : m ∉ excl) : ∀ c' ∈ R, mk c' ≠ mk c := by
  intro c' hc' heq
  obtain ⟨m', hm', hin⟩ := h c' hc'
  rw [hm', hm] at heq
  exact hne (Except.ok.inj heq ▸ hin)

theorem eraseDups_of_nodup {l : List String} (h : l.Nodup) : l.eraseDups = l := by
  induction l with
  | nil => rfl
  | cons a l ih =>
    have hn := List.nodup_cons.1 h
    rw [List.eraseDups_cons, List.filter_eq_self.2, ih hn.2]
    intro b hb
    simpa using fun e : b = a => hn.1 (e ▸ hb)

def ExRel {α β} (R : α → β → Prop) : Except Err α → Except Err β → Prop
  | .ok a, .ok b => R a b
  | .error e, .error e' => e = e'
  | _, _ => False

theorem ExRel.ok {α β} {R : α → β → Prop} {a : α} {b : β} (h : R a b) : ExRel R (.ok a) (.ok b) := h

theorem ExRel.error {α β} {R : α → β → Prop} (e : Err) : ExRel R (.error e) (.error e) := rfl

@[elab_as_elim]
theorem ExRel.elim {α β} {R : α → β → Prop} {P : Except Err α → Except Err β → Prop} {a : Except Err α}
    {b : Except Err β} (h : ExRel R a b) (error : ∀ e, P (.error e) (.error e))
    (ok : ∀ x y, R x y → P (.ok x) (.ok y)) : P a b := by
  cases a <;> cases b
  · exact h ▸ error _
  · exact False.elim h
  · exact False.elim h
  · exact ok _ _ h

abbrev StepRel {σ τ γ} (R : σ → τ → Prop) (a : σ × γ) (b : τ × γ) : Prop := R a.1 b.1 ∧ a.2 = b.2

theorem ExRel.map_snd {σ τ γ} {R : σ → τ → Prop} {a : Except Err (σ × γ)} {b : Except Err (τ × γ)}
    (h : ExRel (StepRel R) a b) : b.map Prod.snd = a.map Prod.snd := by
  exact h.elim (fun _ => rfl) fun x y hxy => congrArg Except.ok hxy.2.symm

def foldRun {σ ι ο} (step : σ → ι → Except Err (σ × Option ο)) : σ → List ι → Except Err (σ × List ο)
  | s, [] => .ok (s, [])
  | s, op :: ops =>
    match step s op with
    | .error e => .error e
    | .ok (s1, o) =>
      match foldRun step s1 ops with
      | .error e => .error e
      | .ok (s2, os) => .ok (s2, o.toList ++ os)

section
variable {σ τ ι ο : Type} {step : σ → ι → Except Err (σ × Option ο)}

theorem foldRun_invariant {P : σ → List ο → Prop}
    (hstep : ∀ s R op s1 o, P s R → step s op = .ok (s1, o) → P s1 (R ++ o.toList)) (ops : List ι) (s : σ) :
    ∀ (R : List ο) (s' : σ) (outs : List ο), P s R → foldRun step s ops = .ok (s', outs) → P s' (R ++ outs) := by
  fun_induction foldRun step s ops with
  | case1 s =>
    intro R s' outs hP h
    obtain ⟨rfl, rfl⟩ := Prod.mk.inj (Except.ok.inj h)
    rwa [List.append_nil]
  | case4 s op ops s1 o h1 s2 os h2 ih =>
    intro R s' outs hP h
    obtain ⟨rfl, rfl⟩ := Prod.mk.inj (Except.ok.inj h)
    rw [← List.append_assoc]
    exact ih _ _ _ (hstep s R op s1 o hP h1) h2
  | _ => exact fun _ _ _ _ h => nomatch h

theorem foldRun_forward {I : σ → Prop} {Q : σ → List ι → List ο → Prop}
    (hI : ∀ s op s1 o, I s → step s op = .ok (s1, o) → I s1) (nil : ∀ s, I s → Q s [] [])
    (cons : ∀ s op ops s1 o os, I s → step s op = .ok (s1, o) → Q s1 ops os → Q s (op :: ops) (o.toList ++ os))
    (ops : List ι) (s : σ) :
    ∀ (s' : σ) (outs : List ο), I s → foldRun step s ops = .ok (s', outs) → Q s ops outs := by
  fun_induction foldRun step s ops with
  | case1 s =>
    intro s' outs hs h
    obtain ⟨-, rfl⟩ := Prod.mk.inj (Except.ok.inj h)
    exact nil s hs
  | case4 s op ops s1 o h1 s2 os h2 ih =>
    intro s' outs hs h
    obtain ⟨-, rfl⟩ := Prod.mk.inj (Except.ok.inj h)
    exact cons s op ops s1 o os hs h1 (ih s2 os (hI s op s1 o hs h1) h2)
  | _ => exact fun _ _ _ h => nomatch h

theorem foldRun_length {g : ι → Bool} (hg : ∀ s op s1 o, step s op = .ok (s1, o) → o.isSome = g op)
    (ops : List ι) (s s' : σ) (outs : List ο) (h : foldRun step s ops = .ok (s', outs)) :
    outs.length = ops.countP g := by
  refine foldRun_forward (I := fun _ => True) (Q := fun _ ops outs => outs.length = ops.countP g)
    (fun _ _ _ _ _ _ => trivial) (fun _ _ => rfl) ?_ ops s s' outs trivial h
  intro s op ops s1 o os _ h1 hQ
  rw [List.countP_cons, ← hg s op s1 o h1, ← hQ]
  cases o <;> rfl

theorem foldRun_rel {step' : τ → ι → Except Err (τ × Option ο)} {R : σ → τ → Prop}
    (hstep : ∀ s t op, R s t → ExRel (StepRel R) (step s op) (step' t op)) :
    ∀ (ops : List ι) (s : σ) (t : τ), R s t →
      ExRel (StepRel R) (foldRun step s ops) (foldRun step' t ops)
  | [], _, _, h => ⟨h, rfl⟩
  | op :: ops, s, t, h => by
    simp only [foldRun]
    refine (hstep s t op h).elim (fun e => .error e) fun (s1, o) (t1, o') ⟨hxy, ho⟩ => ?_
    dsimp only at ho ⊢
    subst ho
    exact (foldRun_rel hstep ops s1 t1 hxy).elim (fun e => .error e) fun x y h' =>
      .ok ⟨h'.1, congrArg (o.toList ++ ·) h'.2⟩

variable {α : Type} {q : List α} {A : α → Prop} {outs : List (Option α)}

/-- the queue `q` is served first and in order, then answers that are `none` or satisfy `A`
(`_next_initial_config` of the base class; for the grid searcher the queue is everything it owes) -/
def Served (q : List α) (A : α → Prop) (outs : List (Option α)) : Prop :=
  ∃ post, (∀ c, some c ∈ post → A c) ∧ outs <+: q.map some ++ post

theorem Served.nil : Served q A [] := ⟨[], nofun, List.nil_prefix⟩

theorem Served.imp {B : α → Prop} (hAB : ∀ c, A c → B c) : Served q A outs → Served q B outs
  | ⟨post, hA, hp⟩ => ⟨post, fun c hc => hAB c (hA c hc), hp⟩

theorem Served.cons {q' : List α} {c : α} (hq : q = c :: q') : Served q' A outs → Served q A (some c :: outs)
  | ⟨post, hA, hp⟩ => ⟨post, hA, hq ▸ List.cons_prefix_cons.2 ⟨rfl, hp⟩⟩

theorem Served.extra {q' : List α} {a : Option α} (hq : q = []) (hq' : q' = []) (ha : ∀ c, a = some c → A c) :
    Served q' A outs → Served q A (a :: outs) := by
  subst hq hq'
  exact fun ⟨post, hA, hp⟩ => ⟨a :: post, fun c hc => (List.mem_cons.1 hc).elim (fun e => ha c e.symm) (hA c),
    List.cons_prefix_cons.2 ⟨rfl, hp⟩⟩

theorem Served.take_eq (h : Served q A outs) : outs.take q.length = (q.map some).take outs.length := by
  obtain ⟨post, -, hp⟩ := h
  -- both sides are the common prefix of `outs` and `q.map some`, of length `min |q| |outs|`
  have : outs.take q.length <+: q.map some :=
    List.prefix_of_prefix_length_le ((List.take_prefix _ _).trans hp) (List.prefix_append _ _)
      (by rw [List.length_take, List.length_map]; exact Nat.min_le_left _ _)
  rw [List.prefix_iff_eq_take.1 this, List.length_take, Nat.min_comm, ← List.length_map (as := q) some]
  exact List.take_eq_take_min.symm

theorem Served.mem (h : Served q A outs) {c : α} (hc : some c ∈ outs) : c ∈ q ∨ A c :=
  let ⟨_, hA, hp⟩ := h
  (List.mem_append.1 (hp.subset hc)).imp (fun h => let ⟨_, h1, h2⟩ := List.mem_map.1 h; Option.some.inj h2 ▸ h1) (hA c)

theorem Served.later (h : Served q A outs) {j : Nat} {c : α} (hj : q.length ≤ j) (hc : outs[j]? = some (some c)) :
    A c := by
  obtain ⟨post, hA, t, e⟩ := h
  -- read position `j` on both sides of `outs ++ t = q.map some ++ post`
  have := congrArg (·[j]?) e
  simp only [List.getElem?_append_left (List.getElem?_eq_some_iff.1 hc).1, hc,
    List.getElem?_append_right (List.length_map (as := q) some ▸ hj)] at this
  exact hA c (List.mem_of_getElem? this.symm)

theorem Served.padded (h : Served q (fun _ => False) outs) {n : Nat} (hn : outs.length = n) :
    outs = (q.map some ++ List.replicate n none).take n := by
  obtain ⟨post, hA, hp⟩ := h
  have : post = List.replicate post.length none :=
    List.eq_replicate_iff.2 ⟨rfl, fun a ha => by cases a with | none => rfl | some c => exact (hA c ha).elim⟩
  rw [this] at hp
  have hl := hp.length_le
  rw [List.length_append, List.length_replicate, hn] at hl
  -- `outs` is the `n`-prefix of `q.map some ++ replicate k none`, and with `n ≤ |q| + k` (`hl`) that
  -- prefix is `q.map some` cut at `n` followed by `n - |q|` times `none`, whatever `k`
  refine (List.prefix_iff_eq_take.1 hp).trans ?_
  rw [hn, List.take_append, List.take_append, List.take_replicate, List.take_replicate,
    Nat.min_eq_left (Nat.sub_le_iff_le_add'.2 hl), Nat.min_eq_left (Nat.sub_le _ _)]

end

structure PickInv (mk : MK) (excl0 : List String) (all : List (Config × Config))
    (excl : List String) (acc : List Config) : Prop where
  sub : ∀ m ∈ excl0, m ∈ excl
  tracked : Tracked mk excl acc
  new : ∀ c ∈ acc, ∀ m, mk c = .ok m → m ∉ excl0
  pw : acc.Pairwise (fun a b => mk a ≠ mk b)
  src : ∀ c ∈ acc, ∃ p ∈ all, c = p.1 ∨ c = p.2

theorem PickInv.step {mk : MK} {excl0 : List String} {all : List (Config × Config)}
    {excl : List String} {acc : List Config} (hI : PickInv mk excl0 all excl acc)
    {c : Config} {m : String} (hm : mk c = .ok m) (hne : m ∉ excl)
    (hsrc : ∃ p ∈ all, c = p.1 ∨ c = p.2) :
    PickInv mk excl0 all (exclAdd m excl) (acc ++ [c]) := by
  have snoc : ∀ {P : Config → Prop}, (∀ d ∈ acc, P d) → P c → ∀ d ∈ acc ++ [c], P d := fun h hc d hd =>
    (List.mem_append.1 hd).elim (h d) fun hd => List.mem_singleton.1 hd ▸ hc
  exact ⟨fun x hx => mem_exclAdd.2 (Or.inr (hI.sub x hx)), hI.tracked.snoc hm,
    snoc hI.new fun m' hm' h0 => hne (Except.ok.inj (hm.symm.trans hm') ▸ hI.sub m' h0),
    List.pairwise_append.2 ⟨hI.pw, List.pairwise_singleton _ _, fun a ha b hb =>
      List.mem_singleton.1 hb ▸ hI.tracked.fresh hm hne a ha⟩,
    snoc hI.src hsrc⟩

theorem pickLoop_spec (mk : MK) (excl0 : List String) (num : Nat) (all pairs : List (Config × Config))
    (excl : List String) (acc : List Config) :
    ∀ {res : List Config}, pickLoop mk num pairs excl acc = .ok res →
      (∀ p ∈ pairs, p ∈ all) → PickInv mk excl0 all excl acc → (1 ≤ num → acc.length < num) →
      (∃ excl', PickInv mk excl0 all excl' res) ∧ (1 ≤ num → res.length ≤ num) := by
  have grow : ∀ {acc : List Config} (c : Config), (1 ≤ num → acc.length < num) → 1 ≤ num →
      (acc ++ [c]).length ≤ num := fun c hlen h1 => by
    rw [List.length_append]; exact Nat.succ_le_of_lt (hlen h1)
  fun_induction pickLoop mk num pairs excl acc with
  -- no pair left
  | case1 excl acc =>
    intro _ h _ hI hlen
    exact Except.ok.inj h ▸ ⟨⟨excl, hI⟩, fun h1 => Nat.le_of_lt (hlen h1)⟩
  -- both excluded, and already full
  | case4 orig opt rest excl acc =>
    intro _ h _ hI hlen
    exact Except.ok.inj h ▸ ⟨⟨excl, hI⟩, fun h1 => Nat.le_of_lt (hlen h1)⟩
  -- both excluded: go on
  | case5 orig opt rest excl acc _ _ _ _ _ _ _ ih =>
    exact fun h hsub => ih h fun p hp => hsub p (List.mem_cons_of_mem _ hp)
  -- the original is taken, and that fills the result
  | case6 orig opt rest excl acc _ _ _ mg hmg hne =>
    intro _ h hsub hI hlen
    exact Except.ok.inj h ▸
      ⟨⟨_, hI.step hmg hne ⟨_, hsub _ List.mem_cons_self, Or.inl rfl⟩⟩, grow orig hlen⟩
  -- the original is taken: go on
  | case7 orig opt rest excl acc _ _ _ mg hmg hne hnum ih =>
    intro _ h hsub hI hlen
    exact ih h (fun p hp => hsub p (List.mem_cons_of_mem _ hp))
      (hI.step hmg hne ⟨_, hsub _ List.mem_cons_self, Or.inl rfl⟩)
      fun h1 => Nat.lt_of_le_of_ne (grow orig hlen h1) hnum
  -- the optimised candidate is taken, and that fills the result
  | case8 orig opt rest excl acc mo hmo hne =>
    intro _ h hsub hI hlen
    exact Except.ok.inj h ▸
      ⟨⟨_, hI.step hmo hne ⟨_, hsub _ List.mem_cons_self, Or.inr rfl⟩⟩, grow opt hlen⟩
  -- the optimised candidate is taken: go on
  | case9 orig opt rest excl acc mo hmo hne hnum ih =>
    intro _ h hsub hI hlen
    exact ih h (fun p hp => hsub p (List.mem_cons_of_mem _ hp))
      (hI.step hmo hne ⟨_, hsub _ List.mem_cons_self, Or.inr rfl⟩)
      fun h1 => Nat.lt_of_le_of_ne (grow opt hlen h1) hnum
  | _ => exact fun h => nomatch h

/-- the BO loop's final filter, for arbitrary proposals (`C06.no_repeat_bo` says it in full) -/
theorem pick_spec (mk : MK) (excl : List String) (num : Nat) (pairs : List (Config × Config))
    (res : List Config) (h : pickFromLocallyOptimized mk excl num pairs = .ok res) :
    (∀ c ∈ res, ∃ m, mk c = .ok m ∧ m ∉ excl) ∧
    res.Pairwise (fun a b => mk a ≠ mk b) ∧
    (∀ c ∈ res, ∃ p ∈ pairs, c = p.1 ∨ c = p.2) ∧
    (1 ≤ num → res.length ≤ num) := by
  obtain ⟨⟨excl', hI⟩, hlen⟩ := pickLoop_spec mk excl num pairs pairs excl [] h (fun _ hp => hp)
    ⟨fun _ hm => hm, List.forall_mem_nil _, List.forall_mem_nil _, .nil, List.forall_mem_nil _⟩ (fun h1 => h1)
  exact ⟨fun c hc => let ⟨m, hm, _⟩ := hI.tracked c hc; ⟨m, hm, hI.new c hc m hm⟩, hI.pw, hI.src, hlen⟩

theorem decVal_encVal (v : Val) : decVal (encVal v) = .ok v := by
  cases v <;> rfl

theorem decKVs_map {α} (f : J → Except Err α) (g : α → J) (hfg : ∀ x, f (g x) = .ok x)
    (l : List (String × α)) : decKVs f (l.map fun kv => (kv.1, g kv.2)) = .ok l := by
  induction l with
  | nil => rfl
  | cons a l ih => simp only [List.map_cons, decKVs, hfg, ih]

theorem decList_map {α} (f : J → Except Err α) (g : α → J) (hfg : ∀ x, f (g x) = .ok x)
    (l : List α) : decList f (l.map g) = .ok l := by
  induction l with
  | nil => rfl
  | cons a l ih => simp only [List.map_cons, decList, hfg, ih]

theorem decConfig_encConfig (c : Config) : decConfig (encConfig c) = .ok c :=
  decKVs_map decVal encVal decVal_encVal c

theorem decMetric_encMetric (m : MetricVal) : decMetric (encMetric m) = .ok m := by
  cases m with
  | scalar x => rfl
  | byRes m => simp only [encMetric, decMetric, decKVs_map decNum J.num (fun _ => rfl) m]

theorem decEval_encEval (e : TrialEval) : decEval (encEval e) = .ok e := by
  simp [encEval, decEval, J.get, decKVs_map decMetric encMetric decMetric_encMetric]

theorem decPending_encPending (p : Pending) : decPending (encPending p) = .ok p := by
  obtain ⟨tid, _ | r⟩ := p <;> simp [encPending, decPending, J.get]

theorem decodeState_encodeState (st : TJState) :
    decodeState (encodeState st) =
      if st.idsRegistered then .ok st else .error (.assertion "trial ids not in config_for_trial") := by
  simp [encodeState, decodeState, J.get, decKVs_map decConfig encConfig decConfig_encConfig,
    decList_map decEval encEval decEval_encEval, decList_map decStr J.str (fun _ => rfl),
    decList_map decPending encPending decPending_encPending]

end SyneTune.Srch
