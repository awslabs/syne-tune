import SyneTune.Props.C15
import SyneTune.Props.C04K
/-
min/max symmetry lifted from the rung primitives (`Lemmas/Symmetry.lean`, `Props/C15.lean`) to the rung
systems of all six asynchronous-Hyperband types, to the bracket manager and to the scheduler (`_suggest`,
`on_trial_result`, `on_trial_remove/error/complete`).  Every lemma is a simulation step "mode `max` on the
negated state and negated metric = negation of mode `min` on the original"; the converse direction follows
from the negation being an involution (`symm_of_min`).  Last: no operation changes the mode or a promotion
quantile.
-/
namespace SyneTune.C15Sched
open SyneTune SyneTune.C15 SyneTune.C04K

/-- a table of metric values (RUSH thresholds by resource, PASHA ranking lists by trial), negated -/
abbrev negThr (l : List (Nat × Rat)) : List (Nat × Rat) := l.map (fun p => (p.1, -p.2))

def negFind (f : FindOut) : FindOut := { f with thr := negThr f.thr }

def negScan (o : ScanOut) : ScanOut := { o with rungs := o.rungs.map negRung, thr := negThr o.thr }

/-- the bracket manager of the mirrored experiment: mode flipped, every rung entry's metric
negated, RUSH thresholds negated; everything else identical -/
def negMgr (g : Manager) : Manager := { g with mode := g.mode.flip, systems := g.systems.map negSys }

theorem negSys_maxT (s : RungSys) : (negSys s).maxT = s.maxT := rfl
theorem negSys_running (s : RungSys) : (negSys s).running = s.running := rfl
theorem negSys_numThr (s : RungSys) : (negSys s).numThr = s.numThr := rfl
theorem negSys_rungs (s : RungSys) : (negSys s).rungs = s.rungs.map negRung := rfl
theorem negSys_thresholds (s : RungSys) : (negSys s).thresholds = negThr s.thresholds := rfl
theorem negSys_levelsAsc (s : RungSys) : (negSys s).levelsAsc = s.levelsAsc := rfl
theorem negSys_curIdx (s : RungSys) : (negSys s).curIdx = s.curIdx := rfl
theorem negSys_curMaxT (s : RungSys) : (negSys s).curMaxT = s.curMaxT := rfl
theorem negSys_epsilon (s : RungSys) : (negSys s).epsilon = s.epsilon := rfl

theorem negE_negE (e : Entry) : negE (negE e) = e := by
  cases e; simp [negE]

theorem negRung_negRung (rg : Rung) : negRung (negRung rg) = rg := by
  cases rg with
  | mk level q data =>
    simp only [negRung, List.map_map]
    congr 1
    exact List.map_id'' (fun e => negE_negE e) data

theorem negThr_negThr (l : List (Nat × Rat)) : negThr (negThr l) = l := by
  simp only [negThr, List.map_map]
  exact List.map_id'' (fun p => by simp) l

theorem negSys_negSys (s : RungSys) : negSys (negSys s) = s := by
  cases s with
  | mk rungs maxT running numThr thresholds levelsAsc curIdx curMaxT epsilon =>
    simp only [negSys, List.map_map]
    congr 1
    · exact List.map_id'' (fun rg => negRung_negRung rg) rungs
    · exact List.map_id'' (fun p => by simp) thresholds

theorem flip_flip (m : Mode) : m.flip.flip = m := by cases m <;> rfl

theorem negMgr_negMgr (g : Manager) : negMgr (negMgr g) = g := by
  cases g with
  | mk type mode maxT rungLevels numBrackets perBracket systems taskInfo =>
    simp only [negMgr, flip_flip, List.map_map]
    congr 1
    exact List.map_id'' (fun s => negSys_negSys s) systems

theorem milestones_neg (s : RungSys) (skip : Nat) : (negSys s).milestones skip = s.milestones skip := by
  unfold RungSys.milestones milestoneRungs
  simp only [negSys_rungs, List.length_map, ← List.map_take, List.map_map]
  rfl

theorem firstOfList_neg (s : RungSys) (skip maxT : Nat) :
    (negSys s).firstOfList skip maxT = s.firstOfList skip maxT := by
  unfold RungSys.firstOfList
  rw [milestones_neg]

theorem firstMilestone_neg (s : RungSys) (skip : Nat) : (negSys s).firstMilestone skip = s.firstMilestone skip := by
  rw [firstMilestone_eq, firstMilestone_eq, firstOfList_neg]; rfl

theorem cap_neg (s : RungSys) (ty : HBType) : (negSys s).cap ty = s.cap ty := rfl

theorem sysTaskAdd_symm (s : RungSys) (pr : Bool) (tid skip : Nat) (resume : Option (Nat × Nat)) :
    (negSys s).taskAdd pr tid skip resume = (s.taskAdd pr tid skip resume).map negSys := by
  unfold RungSys.taskAdd
  cases pr with
  | false => rfl
  | true =>
    simp only [if_true]
    cases resume with
    | none => simp only [firstMilestone_neg]; rfl
    | some mr =>
      simp only
      split <;> rfl

theorem rushStopReport_symm (s : RungSys) (tid r : Nat) (v : Rat) (skip : Nat) (hint : Bool)
    (hq : QOK s.rungs) :
    (negSys s).rushStopReport .max tid r (-v) skip hint =
      (negSys (s.rushStopReport .min tid r v skip hint).1, (s.rushStopReport .min tid r v skip hint).2) := by
  unfold RungSys.rushStopReport
  simp only [stopping_symm s tid r v skip hint hq, negSys_maxT, negSys_numThr, negSys_thresholds]
  split
  · rw [rush_symm]; rfl
  · rfl

theorem rushFirstPromotable_symm (numThr level : Nat) (data : List Entry) (pos : Nat)
    (thr : List (Nat × Rat)) :
    rushFirstPromotable .max numThr level (data.map negE) pos (negThr thr) =
      ((rushFirstPromotable .min numThr level data pos thr).1.map (fun p => (negE p.1, p.2)),
       negThr (rushFirstPromotable .min numThr level data pos thr).2) := by
  induction data generalizing pos thr with
  | nil => rfl
  | cons e es ih =>
    simp only [List.map_cons, rushFirstPromotable]
    have h1 : (negE e).promoted = e.promoted := rfl
    have h2 : (negE e).tid = e.tid := rfl
    have h3 : (negE e).val = -e.val := rfl
    rw [h1, h2, h3, rush_symm]
    simp only
    split
    · rfl
    · exact ih (pos + 1) _

theorem quantileTest_symm (rg : Rung) (c : Rat) (hint : Option Nat) (cand : Option (Entry × Nat))
    (thr : List (Nat × Rat)) :
    quantileTest .max (negRung rg) (-c) hint (cand.map (fun p => (negE p.1, p.2))) (negThr thr) =
      negFind (quantileTest .min rg c hint cand thr) := by
  unfold quantileTest
  cases cand with
  | none => rfl
  | some ep =>
    simp only [Option.map_some, scale_neg, negRung_level]
    have h3 : (negE ep.1).val = -ep.1.val := rfl
    have h2 : (negE ep.1).tid = ep.1.tid := rfl
    rw [h3, h2, cmpNoWorse_neg]
    split <;> rfl

theorem findPromotableQ_symm (rush : Bool) (numThr : Nat) (thr : List (Nat × Rat)) (rg : Rung)
    (hint : Option Nat) (hq0 : 0 < rg.q) (hq1 : rg.q < 1) :
    findPromotableQ rush .max numThr (negThr thr) (negRung rg) hint =
      negFind (findPromotableQ rush .min numThr thr rg hint) := by
  unfold findPromotableQ
  rw [cutoff_symm rg hq0 hq1]
  cases rg.cutoff .min with
  | none => rfl
  | some c =>
    simp only [Option.map_some]
    cases rush with
    | true =>
      simp only [if_true, negRung_level]
      have hd : (negRung rg).data = rg.data.map negE := rfl
      rw [hd, rushFirstPromotable_symm]
      exact quantileTest_symm rg c hint _ _
    | false =>
      simp only [Bool.false_eq_true, if_false]
      have hd : (negRung rg).data = rg.data.map negE := rfl
      rw [hd, firstUnpromoted_neg]
      exact quantileTest_symm rg c hint _ _

theorem sumCost_neg (data : List Entry) :
    ((data.map negE).map (·.cost)).foldl (· + ·) 0 = (data.map (·.cost)).foldl (· + ·) 0 := by
  simp only [List.map_map]
  rfl

theorem findPromotableCost_symm (thr : List (Nat × Rat)) (rg : Rung) (hint : Option Nat) :
    findPromotableCost (negThr thr) (negRung rg) hint = negFind (findPromotableCost thr rg hint) := by
  unfold findPromotableCost
  have hd : (negRung rg).data = rg.data.map negE := rfl
  simp only [hd, sumCost_neg, List.length_map, negRung_level, negRung_q, cost_symm]
  split
  · simp only [negFind, Option.map_map]
    rfl
  · rfl

theorem findPromotable_symm (ty : HBType) (numThr : Nat) (thr : List (Nat × Rat)) (rg : Rung)
    (hint : Option Nat) (hq0 : 0 < rg.q) (hq1 : rg.q < 1) :
    findPromotable ty .max numThr (negThr thr) (negRung rg) hint =
      negFind (findPromotable ty .min numThr thr rg hint) := by
  cases ty with
  | costPromotion => exact findPromotableCost_symm thr rg hint
  | rushPromotion => exact findPromotableQ_symm true numThr thr rg hint hq0 hq1
  | stopping => exact findPromotableQ_symm false numThr thr rg hint hq0 hq1
  | rushStopping => exact findPromotableQ_symm false numThr thr rg hint hq0 hq1
  | promotion => exact findPromotableQ_symm false numThr thr rg hint hq0 hq1
  | pasha => exact findPromotableQ_symm false numThr thr rg hint hq0 hq1

theorem promoScan_full_symm (ty : HBType) (numThr cap : Nat) (hint : Option Nat) (next : Nat)
    (thr : List (Nat × Rat)) (rs : List Rung) (hq : QOK rs) :
    promoScan ty .max numThr cap hint next (negThr thr) (rs.map negRung) =
      negScan (promoScan ty .min numThr cap hint next thr rs) := by
  induction rs generalizing next thr with
  | nil => rfl
  | cons rg rest ih =>
    have hq' : QOK rest := fun x hx => hq x (List.mem_cons_of_mem _ hx)
    have hrg := hq rg (by simp)
    simp only [List.map_cons]
    unfold promoScan
    simp only [negRung_level]
    by_cases hc : rg.level < cap
    · simp only [hc, if_true]
      rw [findPromotable_symm ty numThr thr rg hint hrg.1 hrg.2]
      have hp : (negFind (findPromotable ty .min numThr thr rg hint)).pick
          = (findPromotable ty .min numThr thr rg hint).pick := rfl
      have hf : (negFind (findPromotable ty .min numThr thr rg hint)).free
          = (findPromotable ty .min numThr thr rg hint).free := rfl
      have ht : (negFind (findPromotable ty .min numThr thr rg hint)).thr
          = negThr (findPromotable ty .min numThr thr rg hint).thr := rfl
      rw [hp, hf, ht]
      cases (findPromotable ty .min numThr thr rg hint).pick with
      | some tp =>
        simp only [negScan, List.map_cons, markPromoted_symm]
      | none =>
        simp only [ih rg.level _ hq']
        rfl
    · simp only [hc, if_false, ih rg.level thr hq']
      rfl

theorem promoSchedule_symm (s : RungSys) (ty : HBType) (hint : Option Nat) (hq : QOK s.rungs) :
    (negSys s).promoSchedule ty .max hint =
      (negSys (s.promoSchedule ty .min hint).1, (s.promoSchedule ty .min hint).2) := by
  unfold RungSys.promoSchedule
  simp only [negSys_numThr, cap_neg, negSys_maxT, negSys_thresholds, negSys_rungs,
    promoScan_full_symm ty s.numThr (s.cap ty) hint s.maxT s.thresholds s.rungs hq]
  rfl

theorem group_symm (eps v : Rat) (l : List (Nat × Rat)) :
    groupForward .max eps (-v) (negThr l) = groupForward .min eps v l ∧
    groupBackward .max eps (-v) (negThr l) = groupBackward .min eps v l := by
  induction l with
  | nil => exact ⟨rfl, rfl⟩
  | cons p rest ih =>
    obtain ⟨t, x⟩ := p
    simp only [negThr, List.map_cons, groupForward, groupBackward]
    have h1 : decide (-x < -v - eps) = decide (x > v + eps) := by
      apply decide_eq_decide.mpr; constructor <;> intro h <;> linarith
    have h2 : decide (-x > -v + eps) = decide (x < v - eps) := by
      apply decide_eq_decide.mpr; constructor <;> intro h <;> linarith
    rw [h1, h2, ← ih.1, ← ih.2]
    exact ⟨rfl, rfl⟩

/-- the rung lists are kept best-first in both modes, so the negated list in mode max yields the same
ε-groups, index by index -/
theorem softGroups_symm (eps : Rat) (prev : List (Nat × Rat)) :
    softGroups .max eps (negThr prev) = softGroups .min eps prev := by
  unfold softGroups
  simp only [List.length_map]
  apply List.map_congr_left
  intro idx _
  simp only [negThr, List.getElem?_map]
  cases prev[idx]? with
  | none => rfl
  | some p =>
    obtain ⟨t, v⟩ := p
    simp only [Option.map_some]
    have h1 := (group_symm eps v (prev.drop (idx + 1))).1
    have h2 := (group_symm eps v (prev.take idx).reverse).2
    simp only [negThr, List.map_drop, List.map_reverse, List.map_take] at h1 h2
    simp only [h1, h2]

theorem softGo_neg (groups : List (List Nat)) (top : List (Nat × Rat)) (idx : Nat) :
    softRankingKeeps.go groups (negThr top) idx = softRankingKeeps.go groups top idx := by
  induction top generalizing idx with
  | nil => rfl
  | cons p rest ih =>
    obtain ⟨t, x⟩ := p
    simp only [negThr, List.map_cons, softRankingKeeps.go]
    cases groups[idx]? with
    | none => rfl
    | some g =>
      simp only
      split
      · exact ih (idx + 1)
      · rfl

theorem softRankingKeeps_symm (epsilon : Rat) (top prev : List (Nat × Rat)) :
    softRankingKeeps .max epsilon (negThr top) (negThr prev) = softRankingKeeps .min epsilon top prev := by
  unfold softRankingKeeps
  simp only [List.length_map, softGroups_symm, softGo_neg]

theorem pyIndex_map {α β} (f : α → β) (l : List α) (i : Int) :
    pyIndex (l.map f) i = (pyIndex l i).map f := by
  unfold pyIndex
  simp only [List.length_map, List.getElem?_map]
  split
  · rfl
  · split <;> rfl

theorem rankingOf_neg (rg : Rung) : rankingOf (negRung rg) = negThr (rankingOf rg) := by
  simp only [rankingOf, negRung, negThr, List.map_map]
  rfl

theorem filter_negThr (top l : List (Nat × Rat)) :
    (negThr l).filter (fun e => (negThr top).any (fun x => x.1 == e.1)) =
      negThr (l.filter (fun e => top.any (fun x => x.1 == e.1))) := by
  simp only [negThr, List.filter_map, List.any_map]
  rfl

theorem pashaIncrease_symm (s : RungSys) : (negSys s).pashaIncrease .max = s.pashaIncrease .min := by
  unfold RungSys.pashaIncrease
  simp only [negSys_rungs, negSys_curIdx, negSys_epsilon, pyIndex_map]
  cases pyIndex s.rungs (-(s.curIdx : Int)) with
  | none => rfl
  | some topR =>
    cases pyIndex s.rungs (-(s.curIdx : Int) + 1) with
    | none => rfl
    | some prevR =>
      simp only [Option.map_some]
      have e1 : (negRung topR).data.isEmpty = topR.data.isEmpty := by simp [negRung]
      have e2 : (negRung prevR).data.isEmpty = prevR.data.isEmpty := by simp [negRung]
      rw [e1, e2, rankingOf_neg, rankingOf_neg, filter_negThr, softRankingKeeps_symm]

theorem pashaReport_symm (s : RungSys) (tid r : Nat) (v eps : Rat) :
    (negSys s).pashaReport .max tid r (-v) eps =
      (s.pashaReport .min tid r v eps).map (fun res => (negSys res.1, res.2)) := by
  unfold RungSys.pashaReport
  rw [promoReport_symm]
  cases s.promoReport .min tid r v with
  | error e => rfl
  | ok res =>
    simp only
    have hs1 : ({ negSys res.1 with epsilon := eps } : RungSys) = negSys { res.1 with epsilon := eps } := rfl
    rw [hs1, pashaIncrease_symm]
    cases ({ res.1 with epsilon := eps } : RungSys).pashaIncrease .min with
    | error e => rfl
    | ok inc =>
      simp only [negSys_curIdx, negSys_rungs, List.length_map, negSys_levelsAsc, negSys_maxT]
      cases inc with
      | false => rfl
      | true =>
        simp only [if_true]
        split
        · cases res.1.levelsAsc[res.1.curIdx]? <;> rfl
        · rfl

/-- every rung system of the manager has its promotion quantiles in (0,1); `C15Sched.WF s` is `MgrQOK s.mgr` -/
def MgrQOK (g : Manager) : Prop := ∀ sys ∈ g.systems, QOK sys.rungs

theorem negMgr_sysFor (g : Manager) (b : Nat) : (negMgr g).sysFor b = g.sysFor b := rfl
theorem negMgr_type (g : Manager) : (negMgr g).type = g.type := rfl
theorem negMgr_maxT (g : Manager) : (negMgr g).maxT = g.maxT := rfl
theorem negMgr_taskInfo (g : Manager) : (negMgr g).taskInfo = g.taskInfo := rfl
theorem negMgr_rungLevels (g : Manager) : (negMgr g).rungLevels = g.rungLevels := rfl
theorem negMgr_systems (g : Manager) : (negMgr g).systems = g.systems.map negSys := rfl
theorem negMgr_mode (g : Manager) (hm : g.mode = .min) : (negMgr g).mode = .max := by
  simp [negMgr, hm, Mode.flip]

theorem negMgr_setSys (g : Manager) (i : Nat) (s : RungSys) :
    (negMgr g).setSys i (negSys s) = negMgr (g.setSys i s) := by
  simp only [Manager.setSys, negMgr, List.map_set]

theorem mgrTaskAdd_symm (g : Manager) (tid bracket : Nat) (resume : Option (Nat × Nat)) :
    (negMgr g).taskAdd tid bracket resume =
      (g.taskAdd tid bracket resume).map (fun res => (negMgr res.1, res.2)) := by
  unfold Manager.taskAdd
  simp only [negMgr_sysFor, negMgr_systems, List.getElem?_map, negMgr_type, negMgr_maxT, negMgr_taskInfo]
  cases g.systems[(g.sysFor bracket).1]? with
  | none => rfl
  | some s =>
    simp only [Option.map_some, sysTaskAdd_symm]
    cases s.taskAdd g.type.pauseResume tid (g.sysFor bracket).2 resume with
    | error e => rfl
    | ok s' =>
      simp only [Except.map, firstOfList_neg]
      rw [← negMgr_setSys]
      rfl

theorem sysReport_symm (g : Manager) (hm : g.mode = .min) (s : RungSys) (hq : QOK s.rungs) (tid r : Nat) (v : Rat)
    (skip : Nat) (hint : Bool) (cost eps : Rat) :
    (negMgr g).sysReport (negSys s) tid r (-v) skip hint cost eps =
      (g.sysReport s tid r v skip hint cost eps).map (fun res => (negSys res.1, res.2)) := by
  unfold Manager.sysReport
  rw [negMgr_type, negMgr_mode g hm, hm]
  cases g.type with
  | stopping => simp only [stopping_symm s tid r v skip hint hq]; rfl
  | rushStopping => simp only [rushStopReport_symm s tid r v skip hint hq]; rfl
  | promotion => simp only [promoReport_symm]; cases s.promoReport .min tid r v <;> rfl
  | rushPromotion => simp only [promoReport_symm]; cases s.promoReport .min tid r v <;> rfl
  | costPromotion => simp only [promoReport_symm]; cases s.promoReport .min tid r v cost <;> rfl
  | pasha => simp only [pashaReport_symm]

theorem taskReport_symm (g : Manager) (hm : g.mode = .min) (hq : MgrQOK g) (tid r : Nat) (v : Rat) (hint : Bool)
    (cost eps : Rat) :
    (negMgr g).taskReport tid r (-v) hint cost eps =
      (g.taskReport tid r v hint cost eps).map (fun res => (negMgr res.1, res.2)) := by
  unfold Manager.taskReport
  simp only [negMgr_taskInfo, negMgr_sysFor, negMgr_systems, List.getElem?_map, negMgr_maxT]
  cases alookup tid g.taskInfo with
  | none => rfl
  | some bracket =>
    simp only
    cases hs : g.systems[(g.sysFor bracket).1]? with
    | none => rfl
    | some s =>
      simp only [Option.map_some]
      by_cases hr : r < g.maxT
      · simp only [hr, if_true]
        rw [sysReport_symm g hm s (hq s (List.mem_of_getElem? hs))]
        cases g.sysReport s tid r v (g.sysFor bracket).2 hint cost eps with
        | error e => rfl
        | ok res => simp only [Except.map, negMgr_setSys]
      · simp only [hr, if_false]
        rfl

theorem delRunningAt_neg (systems : List RungSys) (i tid : Nat) :
    delRunningAt (systems.map negSys) i tid = (delRunningAt systems i tid).map negSys := by
  unfold delRunningAt
  simp only [List.getElem?_map]
  cases systems[i]? with
  | none => rfl
  | some s => simp only [Option.map_some, List.map_set]; rfl

theorem taskRemove_symm (g : Manager) (tid : Nat) : (negMgr g).taskRemove tid = negMgr (g.taskRemove tid) := by
  unfold Manager.taskRemove
  simp only [negMgr_taskInfo, negMgr_sysFor, negMgr_systems]
  cases alookup tid g.taskInfo with
  | none => rfl
  | some bracket => simp only [delRunningAt_neg]; rfl

theorem taskSchedule_symm (g : Manager) (hm : g.mode = .min) (hq : MgrQOK g) (bracket : Nat) (hint : Option Nat) :
    (negMgr g).taskSchedule bracket hint =
      (g.taskSchedule bracket hint).map (fun res => (negMgr res.1, res.2)) := by
  unfold Manager.taskSchedule
  simp only [negMgr_sysFor, negMgr_systems, List.getElem?_map, negMgr_type, negMgr_mode g hm, hm]
  cases hs : g.systems[(g.sysFor bracket).1]? with
  | none => rfl
  | some s =>
    simp only [Option.map_some, firstMilestone_neg,
      promoSchedule_symm s g.type hint (hq s (List.mem_of_getElem? hs))]
    split
    · rfl
    · cases (s.promoSchedule g.type .min hint).2.1 with
      | some o => simp only [Except.map, negMgr_setSys]
      | none => simp only [Except.map, negMgr_setSys]

/-- `TrialInformation`: the stored last reported metric value is negated -/
def negTI (ti : TrialInfo) : TrialInfo := { ti with reported := ti.reported.map (fun p => (-p.1, p.2)) }

abbrev negActive (l : List (Nat × TrialInfo)) : List (Nat × TrialInfo) := l.map (fun p => (p.1, negTI p.2))

/-- the scheduler of the mirrored experiment -/
def negSched (s : Sched) : Sched := { s with mgr := negMgr s.mgr, active := negActive s.active }

/-- the mirrored operation: metric of `result` / `complete` negated; hints, cost, eps unchanged -/
def negOp : SOp → SOp
  | .result t r v h c e => .result t r (-v) h c e
  | .complete t r v => .complete t r (-v)
  | .suggest n b h => .suggest n b h
  | .remove t => .remove t
  | .error t => .error t

/-- searcher calls carrying a metric value have it negated -/
def negCall : SCall → SCall
  | .update t r v u => .update t r (-v) u
  | .removeCase t r v => .removeCase t r (-v)
  | .pending t r => .pending t r
  | .cleanup t => .cleanup t
  | .evalFailed t => .evalFailed t

def negRes (o : ResOut) : ResOut := { o with calls := o.calls.map negCall }

theorem negTI_negTI (ti : TrialInfo) : negTI (negTI ti) = ti := by
  cases ti with
  | mk bracket decision keepCase reported largestUpdate =>
    simp only [negTI, Option.map_map]
    congr 1
    cases reported with
    | none => rfl
    | some p => simp

theorem negSched_negSched (s : Sched) : negSched (negSched s) = s := by
  cases s with
  | mk mgr searcherData pendingMyopic maxResourceAttr active hasCost costOffset =>
    simp only [negSched, negMgr_negMgr, negActive, List.map_map]
    congr 1
    exact List.map_id'' (fun p => by simp [negTI_negTI]) active

theorem negOp_negOp (op : SOp) : negOp (negOp op) = op := by
  cases op <;> simp [negOp]

theorem negCall_negCall (c : SCall) : negCall (negCall c) = c := by
  cases c <;> simp [negCall]

theorem negSched_mgr (s : Sched) : (negSched s).mgr = negMgr s.mgr := rfl
theorem negSched_active (s : Sched) : (negSched s).active = negActive s.active := rfl
theorem negSched_searcherData (s : Sched) : (negSched s).searcherData = s.searcherData := rfl
theorem negSched_pendingMyopic (s : Sched) : (negSched s).pendingMyopic = s.pendingMyopic := rfl
theorem negSched_hasCost (s : Sched) : (negSched s).hasCost = s.hasCost := rfl
theorem negSched_costOffset (s : Sched) : (negSched s).costOffset = s.costOffset := rfl

theorem negTI_decision (ti : TrialInfo) : (negTI ti).decision = ti.decision := rfl
theorem negTI_keepCase (ti : TrialInfo) : (negTI ti).keepCase = ti.keepCase := rfl
theorem negTI_largestUpdate (ti : TrialInfo) : (negTI ti).largestUpdate = ti.largestUpdate := rfl
theorem negTI_reported (ti : TrialInfo) : (negTI ti).reported = ti.reported.map (fun p => (-p.1, p.2)) := rfl

theorem map_pending_negCall (t : Nat) (l : List Nat) :
    (l.map (SCall.pending t)).map negCall = l.map (SCall.pending t) := by
  simp only [List.map_map]
  rfl

theorem pendingNew_neg (s : Sched) (first : Nat) : (negSched s).pendingNew first = s.pendingNew first := rfl
theorem pendingResume_neg (s : Sched) (o : SchedOut) : (negSched s).pendingResume o = s.pendingResume o := rfl

theorem suggestStart_symm (s : Sched) (g : Manager) (newTid bracket milestone : Nat) (fr : Bool) :
    (negSched s).suggestStart (negMgr g) newTid bracket milestone fr =
      (s.suggestStart g newTid bracket milestone fr).map (fun res => (negSched res.1, res.2)) := by
  unfold Sched.suggestStart
  simp only [negSched_active, alookup_mapv, Option.isSome_map, mgrTaskAdd_symm, pendingNew_neg]
  by_cases hex : (alookup newTid s.active).isSome = true
  · simp only [hex, if_true]; rfl
  · simp only [hex, Bool.false_eq_true, if_false]
    cases g.taskAdd newTid bracket none with
    | error e => rfl
    | ok res =>
      simp only [Except.map]
      have h : negActive (aset newTid ({ bracket := bracket } : TrialInfo) s.active)
          = aset newTid ({ bracket := bracket } : TrialInfo) (negActive s.active) :=
        (aset_mapv negTI newTid { bracket := bracket } s.active).symm
      simp only [negSched, h]

theorem suggestResume_symm (s : Sched) (g : Manager) (bracket : Nat) (o : SchedOut) (fr : Bool) :
    (negSched s).suggestResume (negMgr g) bracket o fr =
      (s.suggestResume g bracket o fr).map (fun res => (negSched res.1, res.2)) := by
  unfold Sched.suggestResume
  simp only [negSched_active, alookup_mapv, mgrTaskAdd_symm, pendingResume_neg]
  cases g.taskAdd o.trial bracket (some (o.milestone, o.resumeFrom)) with
  | error e => rfl
  | ok res =>
    simp only [Except.map]
    cases alookup o.trial s.active with
    | none => rfl
    | some rec =>
      simp only [Option.map_some, negTI_decision]
      by_cases hd : rec.decision = .continue
      · simp only [hd, if_true]
      · simp only [hd, if_false]
        have h : negActive (aset o.trial { rec with decision := .continue } s.active)
            = aset o.trial { negTI rec with decision := .continue } (negActive s.active) :=
          (aset_mapv negTI o.trial { rec with decision := .continue } s.active).symm
        simp only [negSched, h]

theorem suggest_symm_min (s : Sched) (hm : s.mgr.mode = .min) (hq : MgrQOK s.mgr) (newTid bracket : Nat)
    (hint : Option Nat) :
    (negSched s).suggest newTid bracket hint =
      (s.suggest newTid bracket hint).map (fun res => (negSched res.1, res.2)) := by
  unfold Sched.suggest
  rw [negSched_mgr, taskSchedule_symm s.mgr hm hq]
  cases s.mgr.taskSchedule bracket hint with
  | error e => rfl
  | ok res =>
    simp only [Except.map]
    cases res.2.1 with
    | none => exact suggestStart_symm s res.1 newTid bracket res.2.2.1 res.2.2.2
    | some o => exact suggestResume_symm s res.1 bracket o res.2.2.2

theorem cleanup_symm (s : Sched) (tid : Nat) (d : Decision) :
    (negSched s).cleanup tid d = negSched (s.cleanup tid d) := by
  unfold Sched.cleanup
  simp only [negSched_mgr, negSched_active, taskRemove_symm, alookup_mapv]
  cases alookup tid s.active with
  | none => rfl
  | some rec =>
    simp only [Option.map_some]
    have h : negActive (aset tid { rec with decision := d } s.active)
        = aset tid { negTI rec with decision := d } (negActive s.active) :=
      (aset_mapv negTI tid { rec with decision := d } s.active).symm
    simp only [negSched, h]

theorem onComplete_symm (s : Sched) (tid r : Nat) (v : Rat) :
    (negSched s).onComplete tid r (-v) =
      (s.onComplete tid r v).map (fun res => (negSched res.1, res.2.map negCall)) := by
  unfold Sched.onComplete
  simp only [negSched_active, alookup_mapv, cleanup_symm]
  cases alookup tid s.active with
  | none => rfl
  | some rec =>
    simp only [Option.map_some, negTI_largestUpdate, Except.map]
    cases rec.largestUpdate with
    | none => rfl
    | some l =>
      simp only
      by_cases hl : l < r
      · simp only [hl, if_true]; rfl
      · simp only [hl, if_false]; rfl

theorem updateSearcher_symm (s : Sched) (tid r : Nat) (v : Rat) (o : RepOut) (rec : TrialInfo) :
    (negSched s).updateSearcher tid r (-v) o (negTI rec) =
      ((s.updateSearcher tid r v o rec).1, (s.updateSearcher tid r v o rec).2.map negCall) := by
  unfold Sched.updateSearcher
  simp only [negSched_searcherData, negSched_mgr, negMgr_rungLevels, negMgr_maxT, negSched_pendingMyopic,
    negTI_reported, negTI_keepCase]
  cases s.searcherData with
  | rungs =>
    simp only
    by_cases h : r ∈ s.mgr.rungLevels ∨ r = s.mgr.maxT
    · simp only [h, if_true, map_pending_negCall]
    · simp only [h, if_false, List.map_nil]
  | all =>
    simp only
    by_cases h : o.ignoreData = true
    · simp only [h, if_true, List.map_nil]
    · simp only [h, Bool.false_eq_true, if_false, List.map_append, map_pending_negCall, reduceCtorEq]
      rfl
  | rungsAndLast =>
    simp only
    by_cases h : o.ignoreData = true
    · simp only [h, if_true, List.map_nil]
    · simp only [h, Bool.false_eq_true, if_false, List.map_append, map_pending_negCall, if_true]
      cases rec.reported with
      | none => rfl
      | some p =>
        simp only [Option.map_some]
        by_cases hk : (!rec.keepCase) = true
        · simp only [hk, if_true]; rfl
        · simp only [hk, Bool.false_eq_true, if_false]; rfl

theorem decisionFor_neg (s : Sched) (r : Nat) (o : RepOut) : (negSched s).decisionFor r o = s.decisionFor r o := rfl

theorem lastUpdate_neg (rec : TrialInfo) (r : Nat) : (negTI rec).lastUpdate r = rec.lastUpdate r := rfl

theorem tiAfterReport_symm (rec : TrialInfo) (r : Nat) (v : Rat) (o : RepOut) (doUpd : Bool) :
    (negTI rec).afterReport r (-v) o doUpd =
      ((rec.afterReport r v o doUpd).1, negTI (rec.afterReport r v o doUpd).2) := by
  unfold TrialInfo.afterReport
  simp only [lastUpdate_neg]
  cases doUpd with
  | false => rfl
  | true =>
    simp only [if_true]
    by_cases h : r = rec.lastUpdate r
    · simp only [← h, if_true]; rfl
    · simp only [h, if_false]; rfl

theorem negSched_setActive (s : Sched) (tid : Nat) (ti : TrialInfo) :
    ({ negSched s with active := aset tid (negTI ti) (negSched s).active } : Sched)
      = negSched { s with active := aset tid ti s.active } := by
  simp only [negSched, aset_mapv negTI]

theorem onResultLive_symm (s : Sched) (tid r : Nat) (v : Rat) (rec : TrialInfo) (o : RepOut) :
    (negSched s).onResultLive tid r (-v) (negTI rec) o =
      (s.onResultLive tid r v rec o).map (fun res => (negSched res.1, negRes res.2)) := by
  unfold Sched.onResultLive
  simp only [updateSearcher_symm, lastUpdate_neg, tiAfterReport_symm, decisionFor_neg]
  by_cases hg : (s.updateSearcher tid r v o rec).1 = true ∧ ¬ (rec.lastUpdate r ≤ r)
  · simp only [hg, and_self, not_false_eq_true, if_true]; rfl
  · simp only [hg, if_false, Except.map, negRes, List.map_append, List.map_cons, List.map_nil, negCall,
      negSched_setActive]
    cases o.continues with
    | true => rfl
    | false => simp only [Bool.false_eq_true, if_false, cleanup_symm]

theorem totalCost_neg (s : Sched) (tid : Nat) (cost : Rat) : (negSched s).totalCost tid cost = s.totalCost tid cost := rfl

theorem costOffsetAfter_neg (s : Sched) (tid : Nat) (total : Rat) (o : RepOut) :
    (negSched s).costOffsetAfter tid total o = s.costOffsetAfter tid total o := rfl

theorem afterReport_symm (s : Sched) (tid r : Nat) (v : Rat) (rec : TrialInfo) (g : Manager) (o : RepOut)
    (total : Rat) :
    (negSched s).afterReport tid r (-v) (negTI rec) (negMgr g) o total =
      (s.afterReport tid r v rec g o total).map (fun res => (negSched res.1, negRes res.2)) := by
  unfold Sched.afterReport
  rw [costOffsetAfter_neg]
  cases s.costOffsetAfter tid total o with
  | error e => rfl
  | ok co =>
    simp only
    have h : ({ negSched s with mgr := negMgr g, costOffset := co } : Sched)
        = negSched { s with mgr := g, costOffset := co } := rfl
    rw [h]
    cases o.ignoreData with
    | true => rfl
    | false =>
      simp only [Bool.false_eq_true, if_false]
      exact onResultLive_symm _ tid r v rec o

theorem onResult_symm_min (s : Sched) (hm : s.mgr.mode = .min) (hq : MgrQOK s.mgr) (tid r : Nat) (v : Rat)
    (hint : Bool) (cost eps : Rat) :
    (negSched s).onResult tid r (-v) hint cost eps =
      (s.onResult tid r v hint cost eps).map (fun res => (negSched res.1, negRes res.2)) := by
  unfold Sched.onResult
  simp only [negSched_active, alookup_mapv, negSched_mgr, totalCost_neg, taskReport_symm s.mgr hm hq]
  cases alookup tid s.active with
  | none => rfl
  | some rec =>
    simp only [Option.map_some, negTI_decision]
    by_cases hd : rec.decision = .continue
    · simp only [hd, ne_eq, not_true_eq_false, if_false]
      cases s.mgr.taskReport tid r v hint (s.totalCost tid cost) eps with
      | error e => rfl
      | ok res =>
        simp only [Except.map]
        exact afterReport_symm s tid r v rec res.1 res.2 (s.totalCost tid cost)
    · simp only [hd, ne_eq, not_false_eq_true, if_true]
      rfl

theorem MgrQOK_neg (g : Manager) (h : MgrQOK g) : MgrQOK (negMgr g) := by
  intro sys hsys
  simp only [negMgr_systems, List.mem_map] at hsys
  obtain ⟨s0, hs0, rfl⟩ := hsys
  intro rg hrg
  simp only [negSys_rungs, List.mem_map] at hrg
  obtain ⟨rg0, hrg0, rfl⟩ := hrg
  exact h s0 hs0 rg0 hrg0

theorem negRes_negRes (o : ResOut) : negRes (negRes o) = o := by
  cases o with
  | mk decision free calls =>
    simp only [negRes, List.map_map]
    congr 1
    exact List.map_id'' (fun c => negCall_negCall c) calls

/-- A simulation step shown for schedulers in mode `min` holds in mode `max` too: apply it to the mirrored
scheduler and mirror back.  `f s v` is the operation with metric value `v`, `τ` the mirror of its answer. -/
theorem symm_of_min {ε β} (f : Sched → Rat → Except ε β) (τ : β → β) (hτ : ∀ x, τ (τ x) = x)
    (hmin : ∀ s v, s.mgr.mode = .min → MgrQOK s.mgr → f (negSched s) (-v) = (f s v).map τ)
    (s : Sched) (v : Rat) (hq : MgrQOK s.mgr) : f (negSched s) (-v) = (f s v).map τ := by
  cases hm : s.mgr.mode with
  | min => exact hmin s v hm hq
  | max =>
    have hm' : (negSched s).mgr.mode = .min := by
      show s.mgr.mode.flip = .min
      rw [hm]; rfl
    have h := hmin (negSched s) (-v) hm' (MgrQOK_neg s.mgr hq)
    rw [negSched_negSched, neg_neg] at h
    rw [h]
    cases f (negSched s) (-v) with
    | error e => rfl
    | ok a => simp only [Except.map, hτ]

theorem MgrQOK_iff (g : Manager) : MgrQOK g ↔ ∀ c ∈ g.const.systems, ∀ lq ∈ c.2, 0 < lq.2 ∧ lq.2 < 1 := by
  simp only [MgrQOK, QOK, Manager.const, RungSys.const, List.forall_mem_map]

theorem setSys_mode (g : Manager) (i : Nat) (s : RungSys) : (g.setSys i s).mode = g.mode := rfl

theorem stepS_mode (s : Sched) (op : SOp) : (stepS s op).mgr.mode = s.mgr.mode :=
  congrArg (·.mode) (stepS_const s op)

end SyneTune.C15Sched
