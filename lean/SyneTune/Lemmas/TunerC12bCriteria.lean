import SyneTune.Lemmas.TunerC12bCount
import SyneTune.Lemmas.TunerPolled
/-
Behind C12b (`max_num_trials_finished` at the end of `run()`) and C01b (`num_trials_running` against
the loop's running set): **every trial recorded as `in_progress` is in the running set** — at every
control point of the loop and at the entry of the `finally` block — under contract B and PROVIDED
the local `running_trials_ids` of `_schedule_new_tasks` is never rebound (`RebindOk`, F15: a trial
started after the rebinding is recorded as `in_progress` but never enters the loop's set).
Side clauses: no entry of `done_trials` is `in_progress`, and the registers that are written into
`done_trials` are not `in_progress`.
Then, behind C12b: the generic count invariant instantiated for `max_num_trials_completed` and
`max_num_trials_finished`; the invariant for `max_num_evaluations` (the count of reported results
overshoots by at most the number of results the last poll delivered).
-/
namespace SyneTune.Tuner.Cnt
open SyneTune SyneTune.Tuner

/-- `dv`, `cs`, `ts`: what is or is about to be written into `done_trials` is not `in_progress`, so that `ip` survives
`tuning_status.update` -/
structure RInv (s : LState) : Prop where
  ip : ipPc s.pc = true → ∀ t, alookup t s.status.last = some .inProgress → t ∈ s.running
  dv : updPc s.pc = true → ∀ t, alookup t s.done ≠ some .inProgress
  cs : (s.pc = .stopDel ∨ s.pc = .removeS) → s.curSt ≠ .inProgress
  ts : (s.pc = .completeS ∨ s.pc = .completeCb ∨ s.pc = .errorS) → s.tSt ≠ .inProgress

variable {s s' : LState} {a : Ans}

theorem updPc_from : EnteredFrom [.fetch, .cbResult, .stopCmd, .second] (updPc · = true) := by decide +kernel
theorem curStPc_from : EnteredFrom [.fetch, .cbResult, .stopCmd, .second] (fun p => p = .stopDel ∨ p = .removeS) := by decide +kernel
theorem tStPc_from : EnteredFrom [.fetch, .cbResult, .stopCmd, .second]
    (fun p => p = .completeS ∨ p = .completeCb ∨ p = .errorS) := by decide +kernel

theorem RInv.plain (h : RInv s) (hl : s'.status.last = s.status.last) (hr : s'.running = s.running)
    (hd : s'.done = s.done) (hcs : s'.curSt = s.curSt) (hts : s'.tSt = s.tSt) (hf : flow s.pc s'.pc = true) {p : Pc}
    (hpc : s.pc = p) (hp : p ∉ [Pc.fetch, .cbResult, .stopCmd, .second]) : RInv s' :=
  ⟨fun hq => by rw [hl, hr]; exact h.ip (ip_back hf hq), fun hq => hd ▸ h.dv (updPc_from.back hf hpc hp hq),
   fun hq => hcs ▸ h.cs (curStPc_from.back hf hpc hp hq), fun hq => hts ▸ h.ts (tStPc_from.back hf hpc hp hq)⟩

theorem RInv.raise (h : RInv s) (hnf : finPc s.pc = false) (e : Raised) : RInv (raiseFin s e) :=
  ⟨fun _ => h.ip (ip_of_loop hnf), nofun, nofun, nofun⟩

theorem no_inProgress_aset {d : List (Nat × St)} (hd : ∀ t, alookup t d ≠ some St.inProgress) (k : Nat) {v : St}
    (hv : v ≠ .inProgress) : ∀ t, alookup t (aset k v d) ≠ some St.inProgress := by
  intro t
  rw [alookup_aset]
  split
  · exact fun hc => hv (Option.some.inj hc)
  · exact hd t

theorem RInv.upd (h : RInv s) {p : Pc} (hpc : s.pc = p) (hu : updPc p = true) (hl : s'.status.last = s.status.last)
    (hr : s'.running = s.running)
    (hdv : (∀ t, alookup t s.done ≠ some St.inProgress) → ∀ t, alookup t s'.done ≠ some St.inProgress)
    (hcs : (s'.pc = .stopDel ∨ s'.pc = .removeS) → s'.curSt ≠ .inProgress)
    (hts : (s'.pc = .completeS ∨ s'.pc = .completeCb ∨ s'.pc = .errorS) → s'.tSt ≠ .inProgress) : RInv s' :=
  have hips : ipPc s.pc = true := hpc ▸ Pc.forall (P := fun p => updPc p = true → ipPc p = true) (by decide +kernel) p hu
  ⟨fun _ => by rw [hl, hr]; exact h.ip hips, fun _ => hdv (h.dv (hpc ▸ hu)), hcs, hts⟩

theorem RInv.item (h : RInv s) (hp : s.pc = .second) {t : Nat} {st : St} {rest : List (Nat × St)}
    (i : Item s t rest st s') : RInv s' := by
  cases i
  case pausedCompleted | skip => exact h.upd hp rfl rfl rfl id (hp ▸ nofun) (hp ▸ nofun)
  case noMetrics => exact h.upd hp rfl rfl rfl id nofun nofun
  all_goals exact h.upd hp rfl rfl rfl id nofun (fun _ => nofun)

theorem RInv.afterUpdate {s : LState} (h : RInv s) (hS : SInv s) (hp : s.pc = .afterUpd) : RInv (Tuner.afterUpdate s) := by
  have hnu := afterUpdate_not_upd s
  refine ⟨fun _ t ht => mem_afterUpdate_running.mpr ?_, fun hc => (nomatch hnu.symm.trans hc), fun hc => ?_, fun hc => ?_⟩
  · rw [hS.lastAfterUpdate hp] at ht
    cases hd : alookup t s.done with
    | some w => rw [hd] at ht; exact absurd (ht ▸ hd) (h.dv (hp ▸ rfl) t)
    | none =>
      rw [hd] at ht
      refine ⟨?_, alookup_eq_none_iff.mp hd⟩
      cases hv : alookup t s.sd with
      | some v => exact ((hS.dicts hp rfl).sdRun _ (mem_of_alookup hv)).1
      | none => rw [hv] at ht; exact h.ip (hp ▸ rfl) t ht
  · rcases hc with hc | hc <;> (rw [hc] at hnu; cases hnu)
  · rcases hc with hc | hc | hc <;> (rw [hc] at hnu; cases hnu)

/-- `hloc`: the local `running_trials_ids` was not rebound -/
theorem RInv.scheduled {s : LState} (h : RInv s) (hloc : s.loc = none) (hp : s.pc = .startCb ∨ s.pc = .resumeCb) :
    RInv (Tuner.scheduled s s.sId) := by
  have hips : ipPc s.pc = true := hp.elim (· ▸ rfl) (· ▸ rfl)
  have hrun := (scheduled_running s s.sId).trans (if_pos hloc)
  refine ⟨fun _ t ht => ?_, (fun hc => nomatch hc), (fun hc => by rcases hc with hc | hc <;> cases hc),
    (fun hc => by rcases hc with hc | hc | hc <;> cases hc)⟩
  rw [hrun, mem_sadd]
  rw [scheduled_last, alookup_aset] at ht
  by_cases htk : t = s.sId
  · exact Or.inl htk
  · rw [if_neg htk] at ht; exact Or.inr (h.ip hips t ht)

theorem RInv_trans (h : RInv s) (t : Trans s a s') (hS : SInv s) (hloc : s.loc = none) : RInv s' := by
  have hf := t.flow
  cases t
  case ctl hc =>
    cases hc
    case itemsDone hpc _ => exact h.upd hpc rfl rfl rfl id nofun nofun
    all_goals exact h.plain rfl rfl rfl rfl rfl hf ‹_› (by decide)
  case raiseEnv hpc _ => exact h.raise hpc _
  case fin f =>
    cases f
    case halt => exact h
    -- past the entry of the `finally` block no clause speaks
    case exitRaise | markFailed | markDone => exact ⟨nofun, nofun, nofun, nofun⟩
    all_goals exact h.plain rfl rfl rfl rfl rfl hf ‹_› (by decide)
  case poll hpc => exact { ip := fun _ => h.ip (hpc ▸ rfl), dv := fun _ _ => nofun, cs := nofun, ts := nofun }
  -- the scheduler's `STOP` for a trial that has completed goes to `scheduler.on_trial_remove` directly
  case cbStopCompleted hpc _ hc => exact h.upd hpc rfl rfl rfl id (fun _ => Decidable.not_not.mp hc ▸ nofun) nofun
  case takeResult hpc _ _ _ | cbPause hpc _ | cbContinue hpc _ | cbStop hpc _ _ => exact h.upd hpc rfl rfl rfl id nofun nofun
  case stopped hpc _ | stoppedKeep hpc _ => exact h.upd hpc rfl rfl rfl id (fun _ => nofun) nofun
  case removedStopped hpc => exact h.upd hpc rfl rfl rfl (no_inProgress_aset · _ (h.cs (.inr hpc))) nofun nofun
  case removedPaused hpc => exact h.upd hpc rfl rfl rfl (no_inProgress_aset · _ nofun) nofun nofun
  case item hpc _ i => exact h.item hpc i
  case completeToldPaused hpc _ =>
    exact h.upd hpc rfl rfl rfl (no_inProgress_aset · _ (h.ts (.inl hpc))) nofun nofun
  case completeCalled hpc =>
    exact h.upd hpc rfl rfl rfl (no_inProgress_aset · _ (h.ts (.inr (.inl hpc)))) nofun nofun
  case errorTold hpc => exact h.upd hpc rfl rfl rfl (no_inProgress_aset · _ (h.ts (.inr (.inr hpc)))) nofun nofun
  case updated hpc => exact h.afterUpdate hS hpc
  case scheduled hpc => rw [← scheduled_eq]; exact h.scheduled hloc hpc
  all_goals exact h.plain rfl rfl rfl rfl rfl hf ‹_› (by decide)

theorem RInv.reach {c : Cfg} {s : LState} (h : Reach c (fun s a => BOk s a ∧ RebindOk s a) s) : RInv s :=
  h.inv ⟨fun _ _ => nofun, nofun, nofun, nofun⟩ (fun _ _ h => ⟨h.ip, h.dv, h.cs, h.ts⟩) fun h _ ih t =>
    RInv_trans ih t (.reach (h.mono fun _ _ => And.left)) (PInv.reach (h.mono fun _ _ => And.right)).loc

def pCompleted : St → Bool := (· == .completed)
/-- what `num_trials_finished` counts after `mark_running_job_as_stopped` -/
def pFinOrRun : St → Bool := fun v => v.isFinished || v == .inProgress

theorem numCompleted_eq (ts : TStatus) : ts.numCompleted = ts.numIn pCompleted := rfl

theorem markInv_completed : MarkInv pCompleted := rfl
theorem markInv_finOrRun : MarkInv pFinOrRun := rfl

theorem critBound_completed {c : Criterion} {m : Nat} (hm : c.maxCompleted = some m) : CritBound pCompleted m c :=
  fun _ _ _ h => exceedsNat_false (hm ▸ (Criterion.eval_false h).2.1)

theorem critBound_finished {c : Criterion} {m : Nat} (hm : c.maxFinished = some m) : CritBound St.isFinished m c :=
  fun _ _ _ h => exceedsNat_false (hm ▸ (Criterion.eval_false h).2.2.1)

theorem qOk_completed (p : St → Bool) (hp : p .completed = true) (s : LState) : QOk p pCompleted s := by
  intro _
  rw [numIn_eq]
  refine Nat.le_trans (List.countP_mono_left fun kv _ hv => ?_) (cnt_le_psi p _ _)
  have : kv.2 = .completed := by simpa [pCompleted] using hv
  rw [this]; exact hp

theorem GInv.reach_completed {c : Cfg} {m : Nat} {s : LState} (hm : c.crit.maxCompleted = some m) (h : Reach c BOk s) :
    GInv pCompleted pCompleted m s :=
  .reach rfl markInv_completed (critBound_completed hm) (fun _ _ => id) (fun _ => qOk_completed pCompleted rfl _) h

theorem GInv.reach_finished {c : Cfg} {m : Nat} {s : LState} (hm : c.crit.maxFinished = some m) (h : Reach c BOk s) :
    GInv St.isFinished pCompleted m s :=
  .reach rfl markInv_completed (critBound_finished hm) (fun _ _ => id) (fun _ => qOk_completed St.isFinished rfl _) h

theorem qOk_finOrRun {s : LState} (hL : LNInv s) (hR : RInv s) : QOk St.isFinished pFinOrRun s := by
  intro hp
  rw [numIn_eq]
  unfold cnt psi
  apply List.countP_mono_left
  intro kv hkv hq
  simp only [pFinOrRun, Bool.or_eq_true, beq_iff_eq] at hq
  simp only [Bool.or_eq_true, decide_eq_true_eq]
  rcases hq with hq | hq
  · exact Or.inl hq
  · right
    apply hR.ip hp kv.1
    have : (kv.1, kv.2) ∈ s.status.last := hkv
    rw [alookup_of_mem hL this, hq]

theorem GInv.reach_finOrRun {c : Cfg} {m : Nat} {s : LState} (hm : c.crit.maxFinished = some m)
    (h : Reach c (fun s a => BOk s a ∧ RebindOk s a) s) : GInv St.isFinished pFinOrRun m s :=
  .reach rfl markInv_finOrRun (critBound_finished hm) (fun _ _ => And.left) (fun h => qOk_finOrRun (.reach h) (.reach h)) h

theorem numIn_finOrRun (ts : TStatus) : ts.numIn pFinOrRun = ts.numFinished + ts.numRunning := by
  unfold TStatus.numFinished TStatus.numRunning TStatus.numIn
  simp only [← List.countP_eq_length_filter]
  induction ts.last with
  | nil => rfl
  | cons kv l ih =>
    simp only [List.countP_cons] at ih ⊢
    obtain ⟨k, v⟩ := kv
    cases v <;> simp [St.isFinished, pFinOrRun] at ih ⊢ <;> omega

theorem afterUpdate_count (s : LState) :
    (afterUpdate s).status.overall.count = s.status.overall.count + s.allRes.length := by
  show (s.status.update _ _).overall.count = _
  rw [update_count, List.length_map]

/-- overshoot of `max_num_evaluations = m` (`overall.count > m`): the count is `≤ m` up to `tuning_status.update`
while the last evaluation of the stopping condition was false (`e1`), and one `update` adds the results of one
poll (`e2`; `e3` without `wait_trial_completion_when_stopping`, also in the `finally` block). -/
structure EInv (m : Nat) (s : LState) : Prop where
  e1 : s.stopReached = false → prePc s.pc = true → s.status.overall.count ≤ m
  e2 : s.stopReached = false → finPc s.pc = false → s.status.overall.count ≤ m + s.allRes.length
  e3 : s.cfg.wait = false → s.status.overall.count ≤ m + s.allRes.length

variable {m : Nat}

theorem EInv.frame {s s' : LState} (h : EInv m s) (hst : s'.status.overall.count = s.status.overall.count)
    (hsr : s'.stopReached = s.stopReached) (hc : s'.cfg = s.cfg)
    (hlen : s'.allRes.length = s.allRes.length) (hfl : flow s.pc s'.pc = true)
    (hpre : prePc s'.pc = true → prePc s.pc = true) : EInv m s' := by
  refine ⟨fun hs hp => ?_, fun hs hp => ?_, fun hw => ?_⟩
  · rw [hst]; exact h.e1 (hsr ▸ hs) (hpre hp)
  · rw [hst, hlen]; exact h.e2 (hsr ▸ hs) (fin_back hfl hp)
  · rw [hst, hlen]; exact h.e3 (hc ▸ hw)

theorem EInv.evaluated {s : LState} (h : EInv m s) (b : Bool) (hb : b = false → s.status.overall.count ≤ m) :
    EInv m { s with stopReached := b, pc := .loopHead } :=
  ⟨fun hs _ => hb hs, fun hs _ => Nat.le_trans (hb hs) (Nat.le_add_right _ _), h.e3⟩

theorem EInv.low {s s' : LState} (h : EInv m s) (hJ : JInv s) (hit : iterPc s.pc = true)
    (hst : s'.status.overall.count ≤ s.status.overall.count + (s'.allRes.length))
    (hsr : s'.stopReached = s.stopReached) (hc : s'.cfg = s.cfg)
    (hpre : prePc s'.pc = true → s'.status.overall.count = s.status.overall.count) : EInv m s' := by
  have hp : prePc s.pc = true := Pc.forall (P := fun p => iterPc p = true → prePc p = true) (by decide +kernel) _ hit
  have hlow : s.stopReached = false → s'.status.overall.count ≤ m + s'.allRes.length := by
    intro hs; have := h.e1 hs hp; omega
  refine ⟨fun hs hp' => ?_, fun hs _ => hlow (by rw [← hsr]; exact hs), fun hw => ?_⟩
  · rw [hpre hp']; exact h.e1 (by rw [← hsr]; exact hs) hp
  · exact hlow (hJ.noWait hit (hc ▸ hw))

theorem EInv_trans {s s' : LState} {a : Ans} (h : EInv m s) (t : Trans s a s') (hm : s.cfg.crit.maxEvals = some m)
    (hJ : JInv s) : EInv m s' := by
  have hf := t.flow
  have hc := t.cfg
  cases t.cnt with
  | same f _ hres hsrc =>
    exact h.frame (congrArg (·.overall.count) f.status) f.sr hc hres hf
      (prePc_from.back hf rfl (not_entry (by decide) hsrc))
  | toFin f hres hq =>
    exact h.frame (congrArg (·.overall.count) f.status) f.sr hc hres hf fun hh => nomatch (prePc_fin _ hq).symm.trans hh
  | marked _ hst hsr hres _ _ hq =>
    exact h.frame (hst ▸ rfl) hsr hc hres hf
      fun hh => nomatch (hq.elim (· ▸ rfl) (· ▸ rfl) : prePc s'.pc = false).symm.trans hh
  | evaluated => exact h.evaluated _ fun hs => exceedsNat_false (hm ▸ (Criterion.eval_false (stopCond_false hs)).2.2.2)
  | polled hp f hq =>
    exact h.low hJ (hp ▸ rfl) (f.status ▸ Nat.le_add_right _ _) f.sr hc (fun _ => congrArg (·.overall.count) f.status)
  | updated hp =>
    exact h.low hJ (hp ▸ rfl) (Nat.le_of_eq (afterUpdate_count s)) rfl rfl
      fun hh => nomatch (afterUpdate_pc_not (by decide) s).symm.trans hh
  | scheduled => rw [scheduled_eq]; exact h.frame (update_count _ _ _) rfl rfl rfl (scheduled_eq s _ ▸ hf) nofun
  | enterLoop hp _ => exact h.frame rfl rfl rfl rfl hf (fun _ => hp ▸ rfl)
  | _ => exact h.frame rfl rfl rfl rfl hf nofun

theorem EInv.reach {c : Cfg} {P : LState → Ans → Prop} {s : LState} (hm : c.crit.maxEvals = some m) (h : Reach c P s) :
    EInv m s :=
  h.inv ⟨fun _ _ => Nat.zero_le _, fun _ _ => Nat.zero_le _, fun _ => Nat.zero_le _⟩
    (fun _ _ h => ⟨h.e1, h.e2, h.e3⟩)
    fun h _ ih t => EInv_trans ih t (h.cfg ▸ hm) (.reach h)

end SyneTune.Tuner.Cnt
