import SyneTune.Model.Rung
import SyneTune.Lemmas.Round
/- One rung: the cutoff `Rung.cutoff` is numpy's linear quantile of the values in ascending order
(`cutoff_eq_quantileAsc`), which is odd under negation (`quantileAsc_neg_reverse`); `insertEntry` keeps the
data sorted best-first and the trials distinct. -/
namespace SyneTune

/- `Rung.quantile` and numpy's `quantile` both interpolate between two neighbouring entries of a sorted list;
they differ in which end they count from and in how the weight is written.  Everything below is stated for
a position whose integer part is a natural number `i` with `d` further pairs of neighbours above it
(`length = i + d + 2`), so that no subtraction of naturals appears. -/

theorem interpAt_some {xs : List ℚ} {i : ℕ} {a b : ℚ} (ha : xs[i]? = some a) (hb : xs[i + 1]? = some b)
    (g : ℚ) : interpAt xs i g = some (a + g * (b - a)) := by
  simp only [interpAt, ha, hb]

/-- read from the other end, the weight `g` of the right neighbour becomes that of the left one -/
theorem interpAt_reverse {xs : List ℚ} {i d : ℕ} (h : xs.length = i + d + 2) (g : ℚ) :
    interpAt xs.reverse i g = interpAt xs d (1 - g) := by
  unfold interpAt
  rw [List.getElem?_reverse' (j := d + 1) (by omega), List.getElem?_reverse' (i := i + 1) (j := d) (by omega)]
  rcases xs[d]? with _ | a
  · cases xs[d + 1]? <;> rfl
  · rcases xs[d + 1]? with _ | b
    · rfl
    · exact congrArg some (by ring)

theorem interpAt_map_neg (xs : List ℚ) (i : ℕ) (g : ℚ) :
    interpAt (xs.map (fun x => -x)) i g = (interpAt xs i g).map (fun x => -x) := by
  unfold interpAt
  rw [List.getElem?_map, List.getElem?_map]
  rcases xs[i]? with _ | a
  · cases xs[i + 1]? <;> rfl
  · rcases xs[i + 1]? with _ | b
    · rfl
    · exact congrArg some (by ring)

/-- all weight on the right neighbour is no weight beyond it -/
theorem interpAt_one {xs : List ℚ} {j : ℕ} (h : j + 2 < xs.length) :
    interpAt xs j 1 = interpAt xs (j + 1) 0 := by
  unfold interpAt
  rw [List.getElem?_eq_getElem h, List.getElem?_eq_getElem (Nat.lt_of_succ_lt h),
    List.getElem?_eq_getElem (Nat.lt_of_succ_lt (Nat.lt_of_succ_lt h))]
  exact congrArg some (by ring)

theorem cutoff_match (data : List Entry) (j : ℕ) (g : ℚ) :
    (match data[j]?, data[j + 1]? with
      | some a, some b => some (g * b.val + (1 - g) * a.val)
      | _, _ => none) = interpAt (data.map (·.val)) j g := by
  unfold interpAt
  rw [List.getElem?_map, List.getElem?_map]
  rcases data[j]? with _ | a
  · cases data[j + 1]? <;> rfl
  · rcases data[j + 1]? with _ | b
    · rfl
    · exact congrArg some (by ring)

/-- for `0 < q < 1` the position `(n - 1) * q` lies strictly inside `(0, n - 1)` -/
theorem exists_floor_mul {n : ℕ} (hn : 2 ≤ n) {q : ℚ} (hq0 : 0 < q) (hq1 : q < 1) :
    ∃ i d : ℕ, n = i + d + 2 ∧ (((n - 1 : ℕ) : ℚ) * q).floor = i ∧ 0 < ((n - 1 : ℕ) : ℚ) * q := by
  have hk : (0 : ℚ) < ((n - 1 : ℕ) : ℚ) := Nat.cast_pos.mpr (by omega)
  have h0 := mul_pos hk hq0
  obtain ⟨i, hi⟩ := Int.eq_ofNat_of_zero_le (Int.floor_nonneg.mpr h0.le)
  have hlt : (i : ℤ) < (n - 1 : ℕ) := by
    rw [← hi]; exact Int.floor_lt.mpr (by exact_mod_cast mul_lt_of_lt_one_right hk hq1)
  exact ⟨i, n - 2 - i, by omega, hi, h0⟩

theorem quantileAsc_eq_interpAt {xs : List ℚ} {q : ℚ} {i d : ℕ} (hn : xs.length = i + d + 2)
    (hi : (((xs.length - 1 : ℕ) : ℚ) * q).floor = i) :
    quantileAsc xs q = interpAt xs i (((xs.length - 1 : ℕ) : ℚ) * q - i) := by
  unfold quantileAsc
  rw [if_neg (by omega)]
  simp only [hi, Int.toNat_natCast, Int.cast_natCast]

/-- `Rung.quantile` once the integer part `i` of numpy's position is known: `index = i + 1` passes the
assertion, and the code's left neighbour and weight are those of `interpAt` on the ascending values
(for `max`, read from the other end). -/
theorem cutoff_eq_interpAt (m : Mode) (r : Rung) {i d : ℕ} (hn : r.data.length = i + d + 2)
    (hi : (((r.data.length - 1 : ℕ) : ℚ) * r.npQ m).floor = i) :
    r.cutoff m = interpAt (r.ascVals m) i (((r.data.length - 1 : ℕ) : ℚ) * r.npQ m - i) := by
  have hv1 : (((r.data.length - 1 : ℕ) : ℚ) * r.npQ m + 1).floor = (i + 1 : ℕ) := by
    rw [rat_floor_eq, Int.floor_add_one, ← rat_floor_eq, hi]; rfl
  unfold Rung.cutoff
  cases m
  · simp only [Rung.npQ] at hi hv1 ⊢
    rw [if_neg (by omega)]
    simp only [hv1, Int.toNat_natCast]
    rw [if_neg (not_not.mpr ⟨by omega, by omega⟩)]
    simp only [Nat.add_sub_cancel, Rung.ascVals]
    refine (cutoff_match r.data i _).trans (congrArg _ ?_)
    push_cast; ring
  · simp only [Rung.npQ] at hi hv1 ⊢
    rw [if_neg (by omega)]
    simp only [hv1, Int.toNat_natCast]
    rw [if_neg (not_not.mpr ⟨by omega, by omega⟩)]
    have hd : r.data.length - (i + 1) - 1 = d := by omega
    simp only [hd, Rung.ascVals]
    rw [interpAt_reverse (d := d) (by simpa using hn)]
    refine (cutoff_match r.data d _).trans (congrArg _ ?_)
    push_cast; ring

theorem npQ_pos (m : Mode) (r : Rung) (hq0 : 0 < r.q) (hq1 : r.q < 1) : 0 < r.npQ m ∧ r.npQ m < 1 := by
  cases m
  · exact ⟨hq0, hq1⟩
  · exact ⟨sub_pos.mpr hq1, sub_lt_self 1 hq0⟩

theorem ascVals_length (m : Mode) (r : Rung) : (r.ascVals m).length = r.data.length := by
  cases m
  · exact List.length_map _
  · exact (List.length_reverse ..).trans (List.length_map _)

theorem cutoff_eq_quantileAsc (m : Mode) (r : Rung) (hq0 : 0 < r.q) (hq1 : r.q < 1) :
    r.cutoff m = quantileAsc (r.ascVals m) (r.npQ m) := by
  by_cases hn : r.data.length < 2
  · simp only [Rung.cutoff, quantileAsc, ascVals_length, hn, if_true]
  · obtain ⟨i, d, hd, hi, _⟩ :=
      exists_floor_mul (Nat.le_of_not_lt hn) (npQ_pos m r hq0 hq1).1 (npQ_pos m r hq0 hq1).2
    rw [cutoff_eq_interpAt m r hd hi, ← ascVals_length m r] at *
    exact (quantileAsc_eq_interpAt hd hi).symm

/-- numpy's linear quantile is odd under negation: `quantile(-X, 1-q) = -quantile(X, q)`. -/
theorem quantileAsc_neg_reverse (xs : List ℚ) (q : ℚ) (hq0 : 0 < q) (hq1 : q < 1) :
    quantileAsc (xs.map (fun x => -x)).reverse (1 - q) = (quantileAsc xs q).map (fun x => -x) := by
  have hlen : (xs.map (fun x => -x)).reverse.length = xs.length := by
    rw [List.length_reverse, List.length_map]
  by_cases hn : xs.length < 2
  · simp only [quantileAsc, hlen, hn, if_true, Option.map_none]
  · obtain ⟨i, d, hd, hi, h0⟩ := exists_floor_mul (Nat.le_of_not_lt hn) hq0 hq1
    rw [quantileAsc_eq_interpAt hd hi]
    have hk : ((xs.length - 1 : ℕ) : ℚ) = i + d + 1 := by rw [hd]; push_cast; ring
    have hfl : ⌊((xs.length - 1 : ℕ) : ℚ) * q⌋ = (i : ℤ) := hi
    obtain ⟨hle, hlt⟩ := Int.floor_eq_iff.mp hfl
    rw [Int.cast_natCast] at hle hlt
    -- if the mirrored position `(n - 1) * (1 - q)` has integer part `i'` with `j` pairs above it
    have key : ∀ i' j : ℕ, xs.length = i' + j + 2 →
        ⌊((xs.length - 1 : ℕ) : ℚ) * (1 - q)⌋ = (i' : ℤ) →
        quantileAsc (xs.map (fun x => -x)).reverse (1 - q) =
          (interpAt xs j (1 - (((xs.length - 1 : ℕ) : ℚ) * (1 - q) - i'))).map (fun x => -x) := by
      intro i' j hj hi'
      rw [← hlen] at hj hi'
      rw [quantileAsc_eq_interpAt hj hi',
        interpAt_reverse (d := j) (by rw [List.length_map, ← hlen]; exact hj), interpAt_map_neg, hlen]
    rcases hle.eq_or_lt with hv | hv
    · -- the position is the integer `i ≥ 1`; the mirrored position is the integer `d + 1`
      obtain ⟨j, rfl⟩ : ∃ j, i = j + 1 :=
        Nat.exists_eq_succ_of_ne_zero (by rintro rfl; rw [← hv] at h0; exact lt_irrefl _ h0)
      rw [key (d + 1) j (by omega) (Int.floor_eq_iff.mpr
          ⟨by push_cast; linarith only [hk, hv], by push_cast; linarith only [hk, hv]⟩),
        show 1 - (((xs.length - 1 : ℕ) : ℚ) * (1 - q) - ((d + 1 : ℕ) : ℚ)) = 1 by
          push_cast; linarith only [hk, hv],
        sub_eq_zero.mpr hv.symm, interpAt_one (by omega)]
    · -- otherwise the mirrored position has integer part `d` and the complementary fraction
      rw [key d i (by omega) (Int.floor_eq_iff.mpr
          ⟨by push_cast; linarith only [hk, hlt], by push_cast; linarith only [hk, hv]⟩)]
      congr 2; linarith only [hk]

/-- `SortedList` order: best first in the given mode -/
def SortedBy (m : Mode) (l : List Entry) : Prop :=
  l.Pairwise (fun a b => m.key a.val ≤ m.key b.val)

theorem insertEntry_perm (m : Mode) (e : Entry) (l : List Entry) :
    (insertEntry m e l).Perm (e :: l) := by
  induction l with
  | nil => simp [insertEntry]
  | cons x xs ih =>
    unfold insertEntry; split
    · exact List.Perm.refl _
    · exact (List.Perm.cons x ih).trans (List.Perm.swap e x xs)

theorem insertEntry_length (m : Mode) (e : Entry) (l : List Entry) :
    (insertEntry m e l).length = l.length + 1 :=
  (insertEntry_perm m e l).length_eq

theorem insertEntry_mem (m : Mode) (e x : Entry) (l : List Entry) :
    x ∈ insertEntry m e l ↔ x = e ∨ x ∈ l := by
  rw [(insertEntry_perm m e l).mem_iff]; simp

theorem insertEntry_sorted (m : Mode) (e : Entry) (l : List Entry) (h : SortedBy m l) :
    SortedBy m (insertEntry m e l) := by
  induction l with
  | nil => simp [insertEntry, SortedBy]
  | cons x xs ih =>
    unfold SortedBy at h ih ⊢
    rw [List.pairwise_cons] at h
    unfold insertEntry; split
    · rename_i hlt
      rw [List.pairwise_cons, List.pairwise_cons]
      refine ⟨?_, h.1, h.2⟩
      intro a ha
      rcases List.mem_cons.mp ha with rfl | ha
      · exact le_of_lt hlt
      · exact le_trans (le_of_lt hlt) (h.1 a ha)
    · rename_i hnlt
      rw [List.pairwise_cons]
      refine ⟨?_, ih h.2⟩
      intro a ha
      rcases (insertEntry_mem m e a xs).mp ha with rfl | ha
      · exact not_lt.mp hnlt
      · exact h.1 a ha

theorem insertEntry_tids_nodup (m : Mode) (e : Entry) (l : List Entry)
    (h : (l.map (·.tid)).Nodup) (hn : e.tid ∉ l.map (·.tid)) :
    ((insertEntry m e l).map (·.tid)).Nodup := by
  have hp : ((insertEntry m e l).map (·.tid)).Perm ((e :: l).map (·.tid)) :=
    (insertEntry_perm m e l).map _
  rw [hp.nodup_iff]
  simpa using ⟨by simpa using hn, h⟩

theorem contains_iff (r : Rung) (tid : Nat) : r.contains tid = true ↔ tid ∈ r.data.map (·.tid) := by
  unfold Rung.contains
  simp only [List.any_eq_true, beq_iff_eq, List.mem_map]

theorem not_mem_of_contains {r : Rung} {tid : Nat} (h : r.contains tid = false) : tid ∉ r.data.map (·.tid) :=
  fun hm => by rw [(contains_iff r tid).mpr hm] at h; cases h

end SyneTune
