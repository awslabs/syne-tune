import SyneTune.Model.EarlyRemoval
import SyneTune.Lemmas.AssocList
/-
`Model/EarlyRemoval.lean` piece by piece: `dict.pop` (`aerase`), histories as snoc lists, the outcomes of
`on_loop_end`, the removal loop (`picks.foldl removeCp`).

`aerase` (this model) filters out every entry with the key, `adel` (`Base/Basic.lean`) removes the first one: the lemmas
about `aerase` need no distinct-keys hypothesis, `alookup_adel_self` does.
-/
namespace SyneTune.Early

theorem aerase_cons {β} (k k' : Nat) (v' : β) (tl : List (Nat × β)) :
    aerase k ((k', v') :: tl) = if k' = k then aerase k tl else (k', v') :: aerase k tl := by
  by_cases h : k' = k <;> simp [aerase, h]

theorem alookup_aerase {β} (k u : Nat) (l : List (Nat × β)) :
    alookup u (aerase k l) = if u = k then none else alookup u l := by
  induction l with
  | nil => simp [aerase, alookup]
  | cons hd tl ih =>
    obtain ⟨k', v'⟩ := hd
    rw [aerase_cons]
    by_cases hk : k' = k
    · subst hk
      rw [if_pos rfl, ih]
      by_cases hu : u = k' <;> simp [alookup, hu]
    · rw [if_neg hk]
      by_cases hu : u = k'
      · subst hu; simp [alookup, hk]
      · simp [alookup, hu, ih]

theorem alookup_aerase_self {β} (k : Nat) (l : List (Nat × β)) : alookup k (aerase k l) = none := by
  rw [alookup_aerase]; simp

theorem aerase_eq_self {β} (k : Nat) (l : List (Nat × β)) (h : alookup k l = none) : aerase k l = l := by
  refine List.filter_eq_self.2 fun e he => ?_
  have : e.1 ≠ k := fun hk => alookup_eq_none_iff.1 h (List.mem_map.2 ⟨e, he, hk⟩)
  simpa using this

theorem alookup_none_of_not_mem_keys {β} {k : Nat} {l : List (Nat × β)} (h : k ∉ l.map (·.1)) : alookup k l = none :=
  alookup_eq_none_iff.2 h

/-- Mathlib's `List.reverseRecOn` for propositions, proved here to keep the chain Mathlib-free -/
theorem snoc_induction {α} {P : List α → Prop} (h0 : P []) (hs : ∀ l a, P l → P (l ++ [a])) : ∀ l, P l := by
  intro l
  have : ∀ r : List α, P r.reverse := by
    intro r
    induction r with
    | nil => exact h0
    | cons a r ih => rw [List.reverse_cons]; exact hs _ _ ih
  have h := this l.reverse
  rwa [List.reverse_reverse] at h

theorem runFrom_snoc (p : Params) (s : State) (h : List Op) (op : Op) :
    runFrom p s (h ++ [op]) = (step p (runFrom p s h) op).1 := by
  simp [runFrom, List.foldl_append]

theorem run_snoc (p : Params) (h : List Op) (op : Op) : run p (h ++ [op]) = (step p (run p h) op).1 :=
  runFrom_snoc p _ h op

theorem run_nil (p : Params) : run p [] = State.init := rfl

theorem traceFrom_snoc (p : Params) (s : State) (h : List Op) (op : Op) :
    traceFrom p s (h ++ [op]) = traceFrom p s h ++ [(op, (step p (runFrom p s h) op).2)] := by
  induction h generalizing s with
  | nil => rfl
  | cons a h ih => exact congrArg _ (ih _)

theorem trace_snoc (p : Params) (h : List Op) (op : Op) :
    trace p (h ++ [op]) = trace p h ++ [(op, (step p (run p h) op).2)] :=
  traceFrom_snoc p _ h op

theorem trace_nil (p : Params) : trace p [] = [] := rfl

theorem trace_length (p : Params) (h : List Op) : (trace p h).length = h.length := by
  unfold trace
  generalize State.init = s
  induction h generalizing s with
  | nil => rfl
  | cons a h ih => exact congrArg _ (ih _)

theorem mem_trace (p : Params) (h : List Op) (x : Op × Out) (hx : x ∈ trace p h) :
    ∃ h1 h2, h = h1 ++ x.1 :: h2 ∧ x.2 = (step p (run p h1) x.1).2 := by
  induction h using snoc_induction with
  | h0 => cases hx
  | hs h op ih =>
    rw [trace_snoc, List.mem_append, List.mem_singleton] at hx
    rcases hx with hx | rfl
    · obtain ⟨h1, h2, e1, e2⟩ := ih hx
      exact ⟨h1, h2 ++ [op], by rw [e1]; simp, e2⟩
    · exact ⟨h, [], rfl, rfl⟩

theorem legalFrom_snoc (p : Params) (s : State) (h : List Op) (op : Op) :
    LegalFrom p s (h ++ [op]) ↔ LegalFrom p s h ∧ OpOK (runFrom p s h) op := by
  induction h generalizing s with
  | nil => exact and_comm
  | cons a h ih => exact (and_congr_right fun _ => ih _).trans and_assoc.symm

theorem legal_snoc (p : Params) (h : List Op) (op : Op) :
    Legal p (h ++ [op]) ↔ Legal p h ∧ OpOK (run p h) op :=
  legalFrom_snoc p _ h op

theorem legal_nil (p : Params) : Legal p [] := trivial

theorem naturalLegalFrom_snoc (p : Params) (s : State) (h : List Op) (op : Op) :
    NaturalLegalFrom p s (h ++ [op]) ↔ NaturalLegalFrom p s h ∧ NaturalOK (runFrom p s h) op := by
  induction h generalizing s with
  | nil => exact and_comm
  | cons a h ih => exact (and_congr_right fun _ => ih _).trans and_assoc.symm

theorem naturalLegal_snoc (p : Params) (h : List Op) (op : Op) :
    NaturalLegal p (h ++ [op]) ↔ NaturalLegal p h ∧ NaturalOK (run p h) op :=
  naturalLegalFrom_snoc p _ h op

theorem checkPicks_none_iff (filt picks : List (Nat × Nat)) (k : Nat) :
    checkPicks filt picks k = none ↔
      picks.length = k ∧ (∀ e ∈ picks, e ∈ filt) ∧ (picks.map (·.1)).Nodup := by
  unfold checkPicks
  by_cases h1 : picks.length = k
  · rw [if_neg (fun hn => hn h1)]
    by_cases h2 : ∀ e ∈ picks, e ∈ filt
    · rw [if_neg (fun hn => hn h2)]
      by_cases h3 : (picks.map (·.1)).Nodup
      · rw [if_neg (fun hn => hn h3)]; exact ⟨fun _ => ⟨h1, h2, h3⟩, fun _ => rfl⟩
      · rw [if_pos h3]; exact ⟨(fun h => by cases h), fun h => absurd h.2.2 h3⟩
    · rw [if_pos h2]; exact ⟨(fun h => by cases h), fun h => absurd h.2.1 h2⟩
  · rw [if_pos h1]; exact ⟨(fun h => by cases h), fun h => absurd h.1 h1⟩

theorem mem_filterPaused {s : State} {paused : List (Nat × Nat)} {e : Nat × Nat} :
    e ∈ filterPaused s paused ↔ e ∈ paused ∧ alookup e.1 s.removed = none := by
  simp [filterPaused, List.mem_filter, Option.isNone_iff_eq_none]

/-- one constructor per exit of `loopEnd` (`on_loop_end`); `rejected` does not say which test of `checkPicks` failed -/
inductive LoopEndCase (p : Params) (s : State) (paused : List (Nat × Nat)) (picks : Option (List (Nat × Nat))) :
    State × Out → Prop
  | within (h : excess p s ≤ 0) : LoopEndCase p s paused picks (s, .deleted [])
  | raised (h : 0 < excess p s) (he : filterPaused s paused = []) (hv : p.variant = .estimator) :
      LoopEndCase p s paused picks (s, .raised)
  | oracleRaised (h : 0 < excess p s) (hne : ¬ (filterPaused s paused = [] ∧ p.variant = .estimator))
      (hp : picks = none) : LoopEndCase p s paused picks (s, .oracleRaised)
  | rejected (h : 0 < excess p s) (hne : ¬ (filterPaused s paused = [] ∧ p.variant = .estimator))
      (pk : List (Nat × Nat)) (hp : picks = some pk) (e : OracleErr) : LoopEndCase p s paused picks (s, .rejected e)
  | removed (h : 0 < excess p s) (hne : ¬ (filterPaused s paused = [] ∧ p.variant = .estimator))
      (pk : List (Nat × Nat)) (hp : picks = some pk)
      (hlen : pk.length = min (excess p s).toNat (filterPaused s paused).length)
      (hmem : ∀ e ∈ pk, e ∈ filterPaused s paused) (hnd : (pk.map (·.1)).Nodup) :
      LoopEndCase p s paused picks (pk.foldl removeCp s, .deleted (pk.map (·.1)))

section
variable {p : Params} {s : State} {paused : List (Nat × Nat)}

theorem loopEnd_within (picks : Option (List (Nat × Nat))) (h : excess p s ≤ 0) :
    loopEnd p s paused picks = (s, .deleted []) := by
  unfold loopEnd
  rw [if_pos h]

theorem loopEnd_raised (picks : Option (List (Nat × Nat))) (h : 0 < excess p s) (he : filterPaused s paused = [])
    (hv : p.variant = .estimator) : loopEnd p s paused picks = (s, .raised) := by
  unfold loopEnd
  rw [if_neg (Int.not_le.2 h), if_pos ⟨he, hv⟩]

theorem loopEnd_oracleRaised (h : 0 < excess p s) (hne : ¬ (filterPaused s paused = [] ∧ p.variant = .estimator)) :
    loopEnd p s paused none = (s, .oracleRaised) := by
  unfold loopEnd
  rw [if_neg (Int.not_le.2 h), if_neg hne]

end

theorem loopEnd_cases (p : Params) (s : State) (paused : List (Nat × Nat)) (picks : Option (List (Nat × Nat))) :
    LoopEndCase p s paused picks (loopEnd p s paused picks) := by
  by_cases h : excess p s ≤ 0
  · rw [loopEnd_within picks h]; exact .within h
  · have h' : 0 < excess p s := by omega
    by_cases hr : filterPaused s paused = [] ∧ p.variant = .estimator
    · rw [loopEnd_raised picks h' hr.1 hr.2]; exact .raised h' hr.1 hr.2
    · cases picks with
      | none => rw [loopEnd_oracleRaised h' hr]; exact .oracleRaised h' hr rfl
      | some pk =>
        unfold loopEnd
        rw [if_neg h, if_neg hr]
        simp only
        cases hc : checkPicks (filterPaused s paused) pk (min (excess p s).toNat (filterPaused s paused).length) with
        | some e => exact .rejected h' hr pk rfl e
        | none =>
          obtain ⟨h1, h2, h3⟩ := (checkPicks_none_iff _ _ _).1 hc
          exact .removed h' hr pk rfl h1 h2 h3

/-- the data of `LoopEndCase.removed`; `ids` is what `on_loop_end` handed to `delete_checkpoint` -/
structure Removes (p : Params) (s : State) (paused : List (Nat × Nat)) (picks : Option (List (Nat × Nat)))
    (ids : List Nat) (pk : List (Nat × Nat)) : Prop where
  picks_eq : picks = some pk
  beyond : 0 < excess p s
  length_eq : pk.length = min (excess p s).toNat (filterPaused s paused).length
  mem : ∀ e ∈ pk, e ∈ filterPaused s paused
  nodup : (pk.map (·.1)).Nodup
  ids_eq : ids = pk.map (·.1)
  state_eq : (loopEnd p s paused picks).1 = pk.foldl removeCp s

/-- read backwards: of the outcomes of `loopEnd_cases` only `within` and `removed` answer `.deleted ids` -/
theorem loopEnd_deleted_inv {p : Params} {s : State} {paused : List (Nat × Nat)} {picks : Option (List (Nat × Nat))}
    {ids : List Nat} (h : (loopEnd p s paused picks).2 = .deleted ids) :
    (excess p s ≤ 0 ∧ ids = [] ∧ (loopEnd p s paused picks).1 = s) ∨ ∃ pk, Removes p s paused picks ids pk := by
  have hc := loopEnd_cases p s paused picks
  generalize hr : loopEnd p s paused picks = r at hc h
  cases hc with
  | within hex => cases h; exact .inl ⟨hex, rfl, rfl⟩
  | removed hex hne pk hp hlen hmem hnd => cases h; exact .inr ⟨pk, hp, hex, hlen, hmem, hnd, rfl, congrArg Prod.fst hr⟩
  | _ => cases h

theorem foldl_removeCp_status (picks : List (Nat × Nat)) (s : State) (t : Nat) :
    (picks.foldl removeCp s).statusOf t =
      if t ∈ picks.map (·.1) then some .pausedNoCp else s.statusOf t := by
  induction picks generalizing s with
  | nil => rfl
  | cons e rest ih =>
    rw [List.foldl_cons, ih]
    simp only [List.map_cons, List.mem_cons]
    by_cases h1 : t ∈ rest.map (·.1)
    · simp [h1]
    · by_cases h2 : t = e.1
      · subst h2; simp [h1, removeCp, State.statusOf, alookup_aset_self]
      · simp [h1, h2, removeCp, State.statusOf, alookup_aset_ne h2]

theorem foldl_removeCp_removed (picks : List (Nat × Nat)) (s : State) (t : Nat) (hnd : (picks.map (·.1)).Nodup) :
    alookup t (picks.foldl removeCp s).removed =
      if t ∈ picks.map (·.1) then alookup t picks else alookup t s.removed := by
  induction picks generalizing s with
  | nil => rfl
  | cons e rest ih =>
    obtain ⟨k, l⟩ := e
    rw [List.map_cons, List.nodup_cons] at hnd
    rw [List.foldl_cons, ih _ hnd.2]
    simp only [List.map_cons, List.mem_cons, removeCp, alookup_aset, alookup]
    by_cases h2 : t = k
    · subst h2; simp [hnd.1]
    · by_cases h1 : t ∈ rest.map (·.1) <;> simp [h1, h2]

theorem foldl_removeCp_frame {γ} (g : State → γ) (hg : ∀ s e, g (removeCp s e) = g s) (picks : List (Nat × Nat))
    (s : State) : g (picks.foldl removeCp s) = g s := by
  induction picks generalizing s with
  | nil => rfl
  | cons e rest ih => exact (ih _).trans (hg s e)

theorem foldl_removeCp_numRemoved (picks : List (Nat × Nat)) (s : State) :
    (picks.foldl removeCp s).numRemoved = s.numRemoved + picks.length := by
  induction picks generalizing s with
  | nil => rfl
  | cons e rest ih => rw [List.foldl_cons, ih, List.length_cons]; exact Nat.add_right_comm ..

theorem foldl_removeCp_keys_nodup (picks : List (Nat × Nat)) (s : State) (h : (s.status.map (·.1)).Nodup) :
    ((picks.foldl removeCp s).status.map (·.1)).Nodup := by
  induction picks generalizing s with
  | nil => exact h
  | cons e rest ih => exact ih _ (nodup_keys_aset _ _ h)

/-- removing the checkpoints of distinct trials each of which is PAUSED_WITH_CHECKPOINT lowers the
number of checkpoints by their number and leaves the number of running trials alone -/
theorem foldl_removeCp_count (picks : List (Nat × Nat)) (s : State) (hnd : (picks.map (·.1)).Nodup)
    (hst : ∀ e ∈ picks, s.statusOf e.1 = some .pausedCp) :
    countCp (picks.foldl removeCp s) + picks.length = countCp s ∧
    numRunning (picks.foldl removeCp s) = numRunning s := by
  induction picks generalizing s with
  | nil => exact ⟨rfl, rfl⟩
  | cons e rest ih =>
    rw [List.map_cons, List.nodup_cons] at hnd
    have he : s.statusOf e.1 = some .pausedCp := hst e List.mem_cons_self
    have hrest : ∀ e' ∈ rest, (removeCp s e).statusOf e'.1 = some .pausedCp := fun e' he' =>
      (alookup_aset_ne (fun h => hnd.1 (List.mem_map.2 ⟨e', he', h⟩)) _ _).trans
        (hst e' (List.mem_cons_of_mem _ he'))
    obtain ⟨i1, i2⟩ := ih (removeCp s e) hnd.2 hrest
    have c1 : countCp (removeCp s e) + 1 = countCp s := countP_aset_of_alookup hasCp .pausedNoCp he
    have c2 : numRunning (removeCp s e) = numRunning s := countP_aset_of_alookup isRunning .pausedNoCp he
    rw [List.foldl_cons, List.length_cons]
    exact ⟨by omega, i2.trans c2⟩

end SyneTune.Early
