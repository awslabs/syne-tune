import SyneTune.Lemmas.Domains
/- Continuous and integer encoders (`HyperparameterRangeContinuous`, `HyperparameterRangeInteger`).
Every other scalar encoder is one of these two followed by a table lookup. -/
namespace SyneTune.Dom
open SyneTune

/-- the raw scaling function (without the assertion of `to_internal`) -/
def toI (env : Env) (k : ScaleKind) (y : ℚ) : ℚ :=
  match k with
  | .lin => y
  | .log => env.log.toInt y
  | .rlog => env.rlog.toInt y

/-- the arguments `to_internal` accepts -/
def inDom (k : ScaleKind) (y : ℚ) : Prop :=
  match k with
  | .lin => True
  | .log => 0 < y
  | .rlog => 0 ≤ y ∧ y < 1

theorem toInternal_ok {env : Env} {k : ScaleKind} {y : ℚ} (h : inDom k y) :
    env.toInternal k y = .ok (toI env k y) := by
  cases k <;> dsimp only [Env.toInternal, toI]
  · exact if_pos (c := 0 < y) h
  · exact if_pos (c := 0 ≤ y ∧ y < 1) h

theorem toInternal_eq_ok {env : Env} {k : ScaleKind} {y t : ℚ} (h : env.toInternal k y = .ok t) :
    inDom k y ∧ t = toI env k y := by
  have key : ∀ {p : Prop} [Decidable p] {u : ℚ},
      (if p then Except.ok u else Except.error Err.assertion : Except Err ℚ) = .ok t → p ∧ t = u := by
    intro p _ u h
    split at h
    · exact ⟨‹p›, (Except.ok.inj h).symm⟩
    · cases h
  cases k
  · exact ⟨trivial, (Except.ok.inj h).symm⟩
  · exact key (p := 0 < y) h
  · exact key (p := 0 ≤ y ∧ y < 1) h

theorem inDom_between {k : ScaleKind} {lo hi y : ℚ} (hl : inDom k lo) (hh : inDom k hi)
    (h1 : lo ≤ y) (h2 : y ≤ hi) : inDom k y := by
  cases k
  · trivial
  · exact lt_of_lt_of_le hl h1
  · exact ⟨hl.1.trans h1, lt_of_le_of_lt h2 hh.2⟩

/-- What `log`/`exp` (resp. `-log(1-x)`/`1-exp(-x)`) satisfy over the reals, as hypotheses on the
abstract scaling of kind `k` on the value interval `[lo, hi]`: `from_internal` inverts
`to_internal`, both are monotone. Trivially true for the linear scaling (`scaleOK_lin`). -/
structure ScaleOK (env : Env) (k : ScaleKind) (lo hi : ℚ) : Prop where
  inv : ∀ y, lo ≤ y → y ≤ hi → env.fromInternal k (toI env k y) = y
  mono : ∀ y z, lo ≤ y → y ≤ z → z ≤ hi → toI env k y ≤ toI env k z
  monoFrom : ∀ t u, toI env k lo ≤ t → t ≤ u → u ≤ toI env k hi →
    env.fromInternal k t ≤ env.fromInternal k u

theorem scaleOK_log_iff (env : Env) (lo hi : ℚ) : ScaleOK env .log lo hi ↔ ScalingOK env.log lo hi :=
  ⟨fun h => ⟨h.inv, h.mono, h.monoFrom⟩, fun h => ⟨h.inv, h.mono, h.monoFrom⟩⟩

theorem scaleOK_lin (env : Env) (lo hi : ℚ) : ScaleOK env .lin lo hi :=
  ⟨fun _ _ _ => rfl, fun _ _ _ h _ => h, fun _ _ _ h _ => h⟩

/-- the admissible coordinates of `from_ndarray` -/
abbrev InMargin (c : Consts) (x : ℚ) : Prop := -c.eps ≤ x ∧ x ≤ 1 + c.eps

theorem inMargin_of_unit {c : Consts} (heps : 0 ≤ c.eps) {x : ℚ} (h0 : 0 ≤ x) (h1 : x ≤ 1) :
    InMargin c x :=
  ⟨(neg_nonpos.mpr heps).trans h0, h1.trans (le_add_of_nonneg_right heps)⟩

/-- a vector lies inside a box of per-coordinate bounds (`get_ndarray_bounds`) -/
def InBox (xs : List ℚ) (bs : List (ℚ × ℚ)) : Prop :=
  xs.length = bs.length ∧ ∀ i (hi : i < xs.length) (hb : i < bs.length), bs[i].1 ≤ xs[i] ∧ xs[i] ≤ bs[i].2

theorem inBox_nil : InBox [] [] := ⟨rfl, fun _ hi => absurd hi (Nat.not_lt_zero _)⟩

theorem inBox_cons {x : ℚ} {xs : List ℚ} {b : ℚ × ℚ} {bs : List (ℚ × ℚ)} :
    InBox (x :: xs) (b :: bs) ↔ (b.1 ≤ x ∧ x ≤ b.2) ∧ InBox xs bs := by
  constructor
  · rintro ⟨hl, h⟩
    exact ⟨h 0 (Nat.succ_pos _) (Nat.succ_pos _), Nat.succ.inj hl,
      fun i hi hb => h (i + 1) (Nat.succ_lt_succ hi) (Nat.succ_lt_succ hb)⟩
  · rintro ⟨h0, hl, h⟩
    refine ⟨congrArg Nat.succ hl, fun i hi hb => ?_⟩
    cases i with
    | zero => exact h0
    | succ i => exact h i (Nat.lt_of_succ_lt_succ hi) (Nat.lt_of_succ_lt_succ hb)

theorem inBox_single {xs : List ℚ} {a b : ℚ} (h : InBox xs [(a, b)]) : ∃ x, xs = [x] ∧ a ≤ x ∧ x ≤ b := by
  obtain ⟨x, rfl⟩ := List.length_eq_one_iff.mp h.1
  exact ⟨x, rfl, (inBox_cons.mp h).1⟩

theorem inBox_append {xs : List ℚ} {b1 b2 : List (ℚ × ℚ)} (h : InBox xs (b1 ++ b2)) :
    InBox (xs.take b1.length) b1 ∧ InBox (xs.drop b1.length) b2 := by
  induction b1 generalizing xs with
  | nil => exact ⟨inBox_nil, h⟩
  | cons b b1 ih =>
    cases xs with
    | nil => cases h.1
    | cons x xs =>
      obtain ⟨h0, h1⟩ := inBox_cons.mp h
      exact ⟨inBox_cons.mpr ⟨h0, (ih h1).1⟩, (ih h1).2⟩

theorem inBox_margin {c : Consts} (heps : 0 ≤ c.eps) {xs : List ℚ} {bs : List (ℚ × ℚ)}
    (hb : ∀ b ∈ bs, 0 ≤ b.1 ∧ b.2 ≤ 1) (h : InBox xs bs) : ∀ x ∈ xs, InMargin c x := by
  intro x hx
  obtain ⟨i, hi, rfl⟩ := List.getElem_of_mem hx
  obtain ⟨hl, hin⟩ := h
  have hib : i < bs.length := by omega
  have := hin i hi hib
  have hbb := hb _ (List.getElem_mem hib)
  unfold InMargin
  constructor <;> linarith [this.1, this.2, hbb.1, hbb.2]

theorem div_mem_unit {l u t : ℚ} (hpos : 0 < u - l) (h1 : l ≤ t) (h2 : t ≤ u) :
    0 ≤ (t - l) / (u - l) ∧ (t - l) / (u - l) ≤ 1 :=
  ⟨div_nonneg (sub_nonneg.mpr h1) hpos.le, (div_le_one hpos).mpr (sub_le_sub_right h2 l)⟩

theorem mkContCore_ok {env : Env} {lower upper : ℚ} {scale : ScaleKind} {r : ContCore}
    (h : mkContCore env lower upper scale = .ok r) :
    r = ⟨lower, upper, scale, toI env scale lower, toI env scale upper⟩ ∧
    lower ≤ upper ∧ inDom scale lower ∧ inDom scale upper := by
  unfold mkContCore at h
  split at h
  · rename_i hle
    split at h
    · rename_i a b ha hb
      obtain ⟨d1, rfl⟩ := toInternal_eq_ok ha
      obtain ⟨d2, rfl⟩ := toInternal_eq_ok hb
      exact ⟨(Except.ok.inj h).symm, hle, d1, d2⟩
    · cases h
    · cases h
  · cases h

theorem cont_decode_reject {env : Env} {c : Consts} (r : ContCore) {x : ℚ} (hx : ¬ InMargin c x) :
    r.decode env c x = .error .assertion :=
  if_neg hx

/-- **decoded continuous values are inside the bounds** (any scaling: the code clips) -/
theorem cont_decode_member {env : Env} {c : Consts} {lower upper : ℚ} {scale : ScaleKind}
    {r : ContCore} (h : mkContCore env lower upper scale = .ok r) {x : ℚ} (hx : InMargin c x) :
    ∃ v, r.decode env c x = .ok v ∧ lower ≤ v ∧ v ≤ upper := by
  obtain ⟨rfl, hle, _, _⟩ := mkContCore_ok h
  unfold ContCore.decode
  rw [if_pos hx]
  split
  · exact ⟨_, rfl, clipR_mem hle⟩
  · exact ⟨_, rfl, le_refl _, hle⟩

theorem cont_encode_cube {env : Env} {c : Consts} {r : ContCore} {hp v : ℚ}
    (h : r.encode env c hp = .ok v) : 0 ≤ v ∧ v ≤ 1 := by
  unfold ContCore.encode at h
  split at h
  · split at h
    · rw [← Except.ok.inj h]; exact ⟨le_refl _, zero_le_one⟩
    · split at h
      · rw [← Except.ok.inj h]; exact clipR_mem zero_le_one
      · cases h
  · cases h

theorem cont_encode_ok {env : Env} {c : Consts} {lower upper : ℚ} {scale : ScaleKind}
    {r : ContCore} (h : mkContCore env lower upper scale = .ok r) (heps : 0 ≤ c.eps)
    {hp : ℚ} (h1 : lower ≤ hp) (h2 : hp ≤ upper) :
    r.encode env c hp = .ok (if toI env scale upper = toI env scale lower then 0
      else clipR ((toI env scale hp - toI env scale lower) / (toI env scale upper - toI env scale lower)) 0 1) := by
  obtain ⟨rfl, hle, d1, d2⟩ := mkContCore_ok h
  unfold ContCore.encode
  rw [if_pos ⟨(sub_le_self _ heps).trans h1, h2.trans (le_add_of_nonneg_right heps)⟩,
    toInternal_ok (inDom_between d1 d2 h1 h2)]
  split <;> rfl

/-- **what lies between two encodings decodes between the encoded values** (under the hypotheses on
the scaling): `from_ndarray` is monotone on the unit interval and inverts `to_ndarray`.  With
`a = b` this is the exact round trip, with the `_ndarray_bounds` for `a`, `b` the active sub-range. -/
theorem cont_decode_between {env : Env} {c : Consts} {lower upper : ℚ} {scale : ScaleKind}
    {r : ContCore} (h : mkContCore env lower upper scale = .ok r) (heps : 0 ≤ c.eps)
    (hs : ScaleOK env scale lower upper) {a b ya yb x : ℚ} (ha : lower ≤ a) (hab : a ≤ b)
    (hb : b ≤ upper) (ea : r.encode env c a = .ok ya) (eb : r.encode env c b = .ok yb)
    (hx : ya ≤ x ∧ x ≤ yb) : ∃ v, r.decode env c x = .ok v ∧ a ≤ v ∧ v ≤ b := by
  rw [cont_encode_ok h heps ha (hab.trans hb)] at ea
  rw [cont_encode_ok h heps (ha.trans hab) hb] at eb
  obtain ⟨rfl, hle, -, -⟩ := mkContCore_ok h
  rw [← Except.ok.inj ea, ← Except.ok.inj eb] at hx
  have hLA := hs.mono lower a le_rfl ha (hab.trans hb)
  have hAB := hs.mono a b ha hab hb
  have hBU := hs.mono b upper (ha.trans hab) hb le_rfl
  have ia := hs.inv a ha (hab.trans hb)
  have ib := hs.inv b (ha.trans hab) hb
  have il := hs.inv lower le_rfl hle
  have hmf := hs.monoFrom
  generalize toI env scale lower = L at *
  generalize toI env scale upper = U at *
  generalize toI env scale a = A at *
  generalize toI env scale b = B at *
  unfold ContCore.decode
  dsimp only
  by_cases he : U = L
  · -- degenerate internal range: both encodings are `0`, and `a` is the lower bound itself
    subst he
    rw [if_pos rfl, if_pos rfl] at hx
    rw [le_antisymm hx.2 hx.1, if_pos (inMargin_of_unit heps le_rfl zero_le_one),
      if_neg (by rw [sub_self]; exact lt_irrefl _)]
    refine ⟨lower, rfl, ?_, ha.trans hab⟩
    rw [← ia, le_antisymm (hAB.trans hBU) hLA, il]
  · have hpos : 0 < U - L := sub_pos.mpr (lt_of_le_of_ne (hLA.trans (hAB.trans hBU)) (Ne.symm he))
    obtain ⟨a0, a1⟩ := div_mem_unit hpos hLA (hAB.trans hBU)
    obtain ⟨b0, b1⟩ := div_mem_unit hpos (hLA.trans hAB) hBU
    rw [if_neg he, if_neg he, clipR_id a0 a1, clipR_id b0 b1] at hx
    have hxA : A ≤ x * (U - L) + L := sub_le_iff_le_add.mp ((div_le_iff₀ hpos).mp hx.1)
    have hxB : x * (U - L) + L ≤ B := le_sub_iff_add_le.mp ((le_div_iff₀ hpos).mp hx.2)
    have hv1 := hmf A _ hLA hxA (hxB.trans hBU)
    have hv2 := hmf _ B (hLA.trans hxA) hxB hBU
    rw [ia] at hv1
    rw [ib] at hv2
    rw [if_pos (inMargin_of_unit heps (a0.trans hx.1) (hx.2.trans b1)), if_pos hpos,
      clipR_id (ha.trans hv1) (hv2.trans hb)]
    exact ⟨_, rfl, hv1, hv2⟩

theorem cont_roundtrip {env : Env} {c : Consts} {lower upper : ℚ} {scale : ScaleKind}
    {r : ContCore} (h : mkContCore env lower upper scale = .ok r) (heps : 0 ≤ c.eps)
    (hs : ScaleOK env scale lower upper) {hp : ℚ} (h1 : lower ≤ hp) (h2 : hp ≤ upper) :
    ∃ x, r.encode env c hp = .ok x ∧ r.decode env c x = .ok hp := by
  have henc := cont_encode_ok h heps h1 h2
  obtain ⟨v, hv, v1, v2⟩ := cont_decode_between h heps hs h1 le_rfl h2 henc henc ⟨le_rfl, le_rfl⟩
  exact ⟨_, henc, by rw [hv, le_antisymm v2 v1]⟩

structure WithBounds (env : Env) (c : Consts) (core : ContCore) (aL aU : ℚ) (r : ContRange) : Prop where
  lower : core.lower ≤ aL
  le : aL ≤ aU
  upper : aU ≤ core.upper
  core_eq : r.core = core
  encLo : core.encode env c aL = .ok r.bLo
  encHi : core.encode env c aU = .ok r.bHi

theorem withBounds_ok {env : Env} {c : Consts} {core : ContCore} {aL aU : ℚ} {r : ContRange}
    (h : core.withBounds env c aL aU = .ok r) : WithBounds env c core aL aU r := by
  unfold ContCore.withBounds at h
  split at h
  · rename_i hb
    split at h
    · rename_i a b ha hb2
      rw [← Except.ok.inj h]
      exact ⟨hb.2.2.1, hb.2.2.2.2, hb.2.1, rfl, ha, hb2⟩
    · cases h
    · cases h
  · cases h

theorem mkCont_ok {env : Env} {c : Consts} {lower upper : ℚ} {scale : ScaleKind} {aL aU : Option ℚ}
    {r : ContRange} (h : mkCont env c lower upper scale aL aU = .ok r) :
    mkContCore env lower upper scale = .ok r.core ∧
      r.core.withBounds env c (aL.getD lower) (aU.getD upper) = .ok r := by
  unfold mkCont at h
  split at h
  · rename_i core hc
    obtain rfl := (withBounds_ok h).core_eq
    exact ⟨hc, h⟩
  · cases h

theorem cont_bounds_cube {env : Env} {c : Consts} {lower upper : ℚ} {scale : ScaleKind} {aL aU : Option ℚ}
    {r : ContRange} (hmk : mkCont env c lower upper scale aL aU = .ok r) : 0 ≤ r.bLo ∧ r.bHi ≤ 1 :=
  have h := withBounds_ok (mkCont_ok hmk).2
  ⟨(cont_encode_cube h.encLo).1, (cont_encode_cube h.encHi).2⟩

theorem cont_active {env : Env} {c : Consts} {lower upper : ℚ} {scale : ScaleKind} {aL aU : Option ℚ}
    {r : ContRange} (hmk : mkCont env c lower upper scale aL aU = .ok r)
    (heps : 0 ≤ c.eps) (hs : ScaleOK env scale lower upper) {x : ℚ} (hx : r.bLo ≤ x ∧ x ≤ r.bHi) :
    lower ≤ aL.getD lower ∧ aU.getD upper ≤ upper ∧
    ∃ v, r.core.decode env c x = .ok v ∧ aL.getD lower ≤ v ∧ v ≤ aU.getD upper := by
  obtain ⟨h, hb⟩ := mkCont_ok hmk
  obtain ⟨hlo, hlu, hup, -, e1, e2⟩ := withBounds_ok hb
  rw [(mkContCore_ok h).1] at hlo hup
  exact ⟨hlo, hup, cont_decode_between h heps hs hlo hlu hup e1 e2 hx⟩

/-- the continuous interval behind an integer range -/
def intLo (c : Consts) (k : ℤ) : ℚ := (k : ℚ) - 1 / 2 + c.eps
def intHi (c : Consts) (k : ℤ) : ℚ := (k : ℚ) + 1 / 2 - c.eps

theorem intLo_le {c : Consts} {a b : ℤ} : intLo c a ≤ intLo c b ↔ a ≤ b := by
  unfold intLo
  rw [add_le_add_iff_right, sub_le_sub_iff_right, Int.cast_le]

theorem intHi_le {c : Consts} {a b : ℤ} : intHi c a ≤ intHi c b ↔ a ≤ b := by
  unfold intHi
  rw [sub_le_sub_iff_right, add_le_add_iff_right, Int.cast_le]

/-- the encoder of an integer range is the continuous one of `[lower - 1/2 + EPS, upper + 1/2 - EPS]` -/
theorem mkInt_ok {env : Env} {c : Consts} {lower upper : ℤ} {scale : ScaleKind} {aL aU : Option ℤ}
    {r : IntRange} (h : mkInt env c lower upper scale aL aU = .ok r) :
    lower ≤ upper ∧ ∃ ct, mkCont env c (intLo c lower) (intHi c upper) scale
      (some (intLo c (aL.getD lower))) (some (intHi c (aU.getD upper))) = .ok ct ∧ r = ⟨lower, upper, ct⟩ := by
  unfold mkInt at h
  split at h
  · rename_i hle
    split at h
    · rename_i ct hc
      exact ⟨hle, ct, hc, (Except.ok.inj h).symm⟩
    · cases h
  · cases h

theorem int_bounds_cube {env : Env} {c : Consts} {lower upper : ℤ} {scale : ScaleKind}
    {aL aU : Option ℤ} {r : IntRange} (h : mkInt env c lower upper scale aL aU = .ok r) :
    0 ≤ r.cont.bLo ∧ r.cont.bHi ≤ 1 := by
  obtain ⟨_, _, hct, rfl⟩ := mkInt_ok h
  exact cont_bounds_cube hct

theorem int_decode_reject {env : Env} {c : Consts} (r : IntRange) {x : ℚ} (hx : ¬ InMargin c x) :
    r.decode env c x = .error .assertion := by
  unfold IntRange.decode IntRange.decodePre
  rw [cont_decode_reject _ hx]

theorem int_decode_member {env : Env} {c : Consts} {lower upper : ℤ} {scale : ScaleKind}
    {aL aU : Option ℤ} {r : IntRange} (h : mkInt env c lower upper scale aL aU = .ok r) {x : ℚ}
    (hx : InMargin c x) : ∃ k, r.decode env c x = .ok k ∧ lower ≤ k ∧ k ≤ upper := by
  obtain ⟨hle, ct, hct, rfl⟩ := mkInt_ok h
  obtain ⟨v, hv, _⟩ := cont_decode_member (c := c) (mkCont_ok hct).1 hx
  refine ⟨clipI (roundHalfEven v) lower upper, ?_, clipI_mem hle⟩
  unfold IntRange.decode IntRange.decodePre
  rw [hv]
  rfl

theorem int_roundtrip {env : Env} {c : Consts} {lower upper : ℤ} {scale : ScaleKind}
    {aL aU : Option ℤ} {r : IntRange} (h : mkInt env c lower upper scale aL aU = .ok r)
    (heps : 0 ≤ c.eps) (heps2 : c.eps ≤ 1 / 2)
    (hs : ScaleOK env scale (intLo c lower) (intHi c upper)) {k : ℤ} (h1 : lower ≤ k) (h2 : k ≤ upper) :
    ∃ x, r.encode env c (k : ℚ) = .ok x ∧ r.decode env c x = .ok k := by
  obtain ⟨_, ct, hct, rfl⟩ := mkInt_ok h
  have hk1 : intLo c lower ≤ (k : ℚ) := by
    unfold intLo; linarith only [(Int.cast_le (R := ℚ)).mpr h1, heps2]
  have hk2 : (k : ℚ) ≤ intHi c upper := by
    unfold intHi; linarith only [(Int.cast_le (R := ℚ)).mpr h2, heps2]
  obtain ⟨x, e1, e2⟩ := cont_roundtrip (mkCont_ok hct).1 heps hs hk1 hk2
  refine ⟨x, ?_, ?_⟩
  · exact e1
  · simp only [IntRange.decode, IntRange.decodePre, IntRange.roundToInt, e2, rhe_int, clipI_id h1 h2]

/-- **active sub-range of an integer**: the active range lies inside the range, and every `x` inside
the `_ndarray_bounds` decodes into it (`0 < EPS` is what makes the half-integer ends round inwards) -/
theorem int_active {env : Env} {c : Consts} {lower upper : ℤ} {scale : ScaleKind}
    {aL aU : Option ℤ} {r : IntRange} (h : mkInt env c lower upper scale aL aU = .ok r)
    (heps : 0 < c.eps) (hs : ScaleOK env scale (intLo c lower) (intHi c upper))
    {x : ℚ} (hx : r.cont.bLo ≤ x ∧ x ≤ r.cont.bHi) :
    lower ≤ aL.getD lower ∧ aU.getD upper ≤ upper ∧
    ∃ k, r.decode env c x = .ok k ∧ aL.getD lower ≤ k ∧ k ≤ aU.getD upper := by
  obtain ⟨_, ct, hct, rfl⟩ := mkInt_ok h
  obtain ⟨hlo, hup, v, hv, hv1, hv2⟩ := cont_active hct heps.le hs hx
  have g1 : aL.getD lower ≤ roundHalfEven v := rhe_ge (lt_of_lt_of_le (lt_add_of_pos_right _ heps) hv1)
  have g2 : roundHalfEven v ≤ aU.getD upper := rhe_le (lt_of_le_of_lt hv2 (sub_lt_self _ heps))
  refine ⟨intLo_le.mp hlo, intHi_le.mp hup, roundHalfEven v, ?_, g1, g2⟩
  unfold IntRange.decode IntRange.decodePre IntRange.roundToInt
  rw [hv]
  exact congrArg _ (clipI_id ((intLo_le.mp hlo).trans g1) (g2.trans (intHi_le.mp hup)))

end SyneTune.Dom
