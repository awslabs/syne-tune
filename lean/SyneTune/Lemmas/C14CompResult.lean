import SyneTune.Lemmas.C14CompTrial
import SyneTune.Lemmas.C14CompReport
/- C14 composed system: `on_trial_result` — what `TrialInfo.afterReport` and `Sched.updateSearcher` do (used here and
in `C14CompObs`), the invariant under the operation together with acceptance of the searcher calls it issues
(`cinv_result`; searcher side: `feed_result`), all operations together (`cinv_opStep`), and
`onResult_decision_recorded` for `Props/C14Comp`. -/
namespace SyneTune.C14Comp
open SyneTune SyneTune.C04K SyneTune.C14

/-- the trial's record after a report at level `r` which is taken into account -/
def recAfter (rec : TrialInfo) (r : Nat) (v : Rat) (o : RepOut) (doU : Bool) (d : Decision) : TrialInfo :=
  { rec with decision := d, reported := some (v, r), keepCase := o.reached, largestUpdate := (if doU then some r else rec.largestUpdate) }

theorem afterReport_spec (rec : TrialInfo) (r : Nat) (v : Rat) (o : RepOut) (doUpd : Bool)
    (hne : r ≠ rec.lastUpdate r) :
    rec.afterReport r v o doUpd = (doUpd, recAfter rec r v o doUpd rec.decision) := by
  unfold TrialInfo.afterReport recAfter
  cases doUpd with
  | false => rfl
  | true => simp [hne]

theorem recAfter_decision (rec : TrialInfo) (r : Nat) (v : Rat) (o : RepOut) (b : Bool) (d0 d : Decision) :
    ({ recAfter rec r v o b d0 with decision := d } : TrialInfo) = recAfter rec r v o b d := rfl

theorem updateSearcher_fst_iff (s : Sched) (tid r : Nat) (v : Rat) (o : RepOut) (rec : TrialInfo) (hig : o.ignoreData = false) :
    (s.updateSearcher tid r v o rec).1 = true ↔ (s.searcherData ≠ .rungs ∨ r ∈ s.mgr.rungLevels ∨ r = s.mgr.maxT) := by
  by_cases h : s.searcherData = .rungs
  · rw [policy_rungs s tid r v o rec h]; simp [h]
  · rw [policy_all s tid r v o rec h, hig]; simp [h]

/-- the calls of `_update_searcher`: at most one `remove_case` (of the stored last result,
`rungs_and_last` only), then `register_pending` for levels above `r` up to the milestone `M'` the
trial runs to after this report -/
theorem updateSearcher_spec (s : Sched) (tid r : Nat) (v : Rat) (o : RepOut) (rec : TrialInfo) :
    ∃ (rem : List SCall) (pend : List Nat), (s.updateSearcher tid r v o rec).2 = rem ++ pend.map (SCall.pending tid) ∧
      (rem = [] ∨ (s.searcherData = .rungsAndLast ∧ ∃ p, rec.reported = some p ∧ rec.keepCase = false ∧
          rem = [SCall.removeCase tid p.2 p.1])) ∧
      (∀ M', (o.continues = true → r < M') → (o.continues = true → o.reached = true → o.next = some M') →
        ∀ x ∈ pend, o.continues = true ∧ r < x ∧ x ≤ M' ∧ (s.searcherData = .rungs → x = M')) := by
  -- the pending levels of the non-`rungs` policies
  have pendAll : ∀ M', (o.continues = true → r < M') → (o.continues = true → o.reached = true → o.next = some M') →
      ∀ x ∈ (if o.continues = true then
        (if s.pendingMyopic = true ∨ o.next = none then [r + 1]
         else if o.reached = true then (match o.next with | some n => rangeIncl (r + 1) n | none => [])
         else [])
        else []), o.continues = true ∧ r < x ∧ x ≤ M' := by
    intro M' hM' hnext x hx
    split at hx
    · rename_i hc
      refine ⟨hc, ?_⟩
      have hlt := hM' hc
      split at hx
      · rw [List.mem_singleton.mp hx]; omega
      · split at hx
        · rename_i hre
          rw [hnext hc hre] at hx
          have := mem_rangeIncl hx
          omega
        · cases hx
    · cases hx
  unfold Sched.updateSearcher
  cases hsd : s.searcherData with
  | rungs =>
    by_cases hlv : r ∈ s.mgr.rungLevels ∨ r = s.mgr.maxT
    · simp only [hlv, if_true]
      refine ⟨[], (if o.continues = true ∧ o.reached = true then
          (match o.next with | some n => [n] | none => ([] : List Nat)) else []), rfl, Or.inl rfl, ?_⟩
      intro M' hM' hnext x hx
      split at hx
      · rename_i hcr
        rw [hnext hcr.1 hcr.2, List.mem_singleton] at hx
        rw [hx]
        exact ⟨hcr.1, hM' hcr.1, Nat.le_refl _, fun _ => rfl⟩
      · cases hx
    · simp only [hlv, if_false]
      exact ⟨[], [], rfl, Or.inl rfl, fun _ _ _ _ hx => (by cases hx)⟩
  | all =>
    cases hig : o.ignoreData with
    | true => exact ⟨[], [], rfl, Or.inl rfl, fun _ _ _ _ hx => (by cases hx)⟩
    | false =>
      simp only [Bool.false_eq_true, if_false]
      refine ⟨[], _, rfl, Or.inl rfl, fun M' hM' hnext x hx => ?_⟩
      obtain ⟨p1, p2, p3⟩ := pendAll M' hM' hnext x hx
      exact ⟨p1, p2, p3, nofun⟩
  | rungsAndLast =>
    cases hig : o.ignoreData with
    | true => exact ⟨[], [], rfl, Or.inl rfl, fun _ _ _ _ hx => (by cases hx)⟩
    | false =>
      simp only [Bool.false_eq_true, if_false, if_true]
      refine ⟨_, _, rfl, ?_, fun M' hM' hnext x hx => ?_⟩
      · split
        · rename_i pv pr hrep
          split
          · rename_i hk
            exact Or.inr ⟨trivial, _, hrep, by simpa using hk, rfl⟩
          · exact Or.inl rfl
        · exact Or.inl rfl
      · obtain ⟨p1, p2, p3⟩ := pendAll M' hM' hnext x hx
        exact ⟨p1, p2, p3, nofun⟩

theorem opStep_result (s : Sched) (t r : Nat) (v : Rat) (hint : Bool) (c e : Rat) :
    opStep s (.result t r v hint c e) =
      match s.onResult t r v hint c e with | .ok res => (res.1, res.2.calls) | .error _ => (s, []) := rfl

/-- `s1` already holds the manager after the report, `s` is the scheduler before it -/
theorem live_upd1 (s s1 : Sched) (hact : s1.active = s.active) (hsd : s1.searcherData = s.searcherData)
    (t r : Nat) (v : Rat) (rec : TrialInfo) (o : RepOut) (eff : RepEff s.mgr s1.mgr t r o)
    (hcont : rec.decision = .continue) :
    Upd1 s (s1.live t r v rec o) t
      (some { (rec.afterReport r v o (s1.updateSearcher t r v o rec).1).2 with decision := s1.decisionFor r o }) ∧
    (∀ L e, EntIn (s1.live t r v rec o).mgr.systems L e → EntIn s1.mgr.systems L e) ∧
    (o.continues = true → (s1.live t r v rec o).mgr = s1.mgr) := by
  have hmgr := s1.live_mgr t r v rec o
  have hsd' : (s1.live t r v rec o).searcherData = s1.searcherData := by
    unfold Sched.live; split <;> rfl
  refine ⟨⟨fun t' => by rw [Sched.live_active s1 t r v rec o hcont t', hact], ?_, hsd'.trans hsd, ?_⟩, ?_,
    fun hc => by rw [hmgr, if_pos hc]⟩
  · rw [hmgr]; split
    · exact eff.shape
    · exact (shape_of_const (s1.mgr.taskRemove_const t)).trans eff.shape
  · rw [hmgr]; split
    · exact fun t' _ => eff.view t'
    · exact fun t' ht' => ((taskRemove_effect s1.mgr t).1 t' ht').trans (eff.view t')
  · rw [hmgr]; split
    · exact fun L e he => he
    · exact (taskRemove_effect s1.mgr t).2

/-- **`on_trial_result`**: the invariant is preserved and the searcher accepts every call
(`remove_case` finds its case, `register_pending` is never for an observed level) -/
theorem cinv_result (y : Sys) (t r : Nat) (v : Rat) (hint : Bool) (c e : Rat) (h : CInv y)
    (hok : OpOK y (.result t r v hint c e)) :
    ∃ st', y.st.applyAll (opStep y.sched (.result t r v hint c e)).2 = .ok st' ∧
      CInv ⟨(opStep y.sched (.result t r v hint c e)).1, st'⟩ := by
  rw [opStep_result]
  cases honr : y.sched.onResult t r v hint c e with
  | error err => exact ⟨y.st, rfl, h⟩
  | ok res =>
    obtain ⟨s', out⟩ := res
    simp only
    have hkinv : y.sched.mgr.type.pauseResume = true → KInv s' :=
      fun hpr => onResult_KInv (h.kinv hpr) honr
    obtain ⟨rec, hrec, ⟨_, rfl, rfl⟩ | ⟨hcont, g, o, co, htr, hcs⟩⟩ := Sched.onResult_ok honr
    · -- report of a trial which is not running: passed on with `update=False`
      exact ⟨y.st, applyAll_single y.st _, h⟩
    obtain ⟨eff, eign, elive⟩ := taskReport_repEff htr
    rcases hcs with ⟨hig, rfl, rfl⟩ | ⟨hig, hlive⟩
    · -- ignored report of a resumed trial: only the manager's PASHA fields / cost offsets change
      refine ⟨y.st, rfl, ?_⟩
      have hpr : y.sched.mgr.type.pauseResume = true := by
        have := eff.ignore
        rw [hig, resumedBelow] at this
        cases hp : y.sched.mgr.type.pauseResume with
        | true => rfl
        | false => rw [hp] at this; cases this
      have hnr := eign (h.kinv hpr).runok hig
      refine cinv_congr h rfl rfl eff.shape eff.view (fun L e0 he0 => (eff.ents L e0 he0).resolve_right ?_) hkinv
      rintro ⟨h1, _⟩
      rw [hnr] at h1; cases h1
    obtain ⟨_, rfl, _, rfl, rfl⟩ := hlive
    -- a report which is taken into account; by the contract `r` follows the last level reported
    have hr : r = lastRep rec + 1 :=
      (hok rec hrec hcont).resolve_right fun hrb => by rw [← eff.ignore, hig] at hrb; cases hrb
    obtain ⟨hM, hMlev⟩ := h.run t rec hrec hcont
    have hcE : ∀ L e0, EntIn y.sched.mgr.systems L e0 → e0.tid = t → L ≤ lastRep rec := by
      intro L e0 he0 ht
      obtain ⟨rec0, k1, k2, _⟩ := h.ent L e0 he0
      rw [ht, hrec] at k1; cases k1; exact k2
    obtain ⟨F3, F4, F5, F6⟩ := elive h.wf (lastRep rec) hr hM hMlev hcE
    have hMg : ∀ l', milestoneOf g t l' = milestoneOf y.sched.mgr t l' :=
      fun l' => milestoneOf_congr eff.shape (eff.view t) l'
    have hM' : o.continues = true → r < milestoneOf g t r ∧
        (milestoneOf g t r = g.maxT ∨ milestoneOf g t r ∈ g.rungLevels) := fun hc => by
      rw [hMg, shape_maxT eff.shape, shape_levels eff.shape]; exact F5 hc
    have hnext : o.continues = true → o.reached = true → o.next = some (milestoneOf g t r) := fun hc hre => by
      rw [hMg]; exact F6 hc hre
    obtain ⟨rem, pend, hform, hrem, hpspec⟩ :=
      updateSearcher_spec ({ y.sched with mgr := g, costOffset := co } : Sched) t r v o rec
    replace hpspec := hpspec (milestoneOf g t r) (fun hc => (hM' hc).1) hnext
    have hdo := updateSearcher_fst_iff ({ y.sched with mgr := g, costOffset := co } : Sched) t r v o rec hig
    have hne : r ≠ rec.lastUpdate r := by
      unfold TrialInfo.lastUpdate
      cases hlu : rec.largestUpdate with
      | none => simp only; omega
      | some l => simp only; have := h.upd t rec hrec l hlu; omega
    obtain ⟨u, hentsL, hmgr⟩ := live_upd1 y.sched { y.sched with mgr := g, costOffset := co } rfl rfl t r v rec o eff hcont
    rw [afterReport_spec rec r v o _ hne] at u ⊢
    simp only [recAfter_decision] at u
    rw [hform]
    have hrem' : rem = [] ∨ ∃ pr pv, rem = [SCall.removeCase t pr pv] ∧ y.st.isLabeled t pr = true :=
      hrem.imp_right fun ⟨hsd, p, hp1, hp2, hp3⟩ => ⟨p.2, p.1, hp3, h.last hsd t rec hrec p hp1 hp2⟩
    have hpend' : ∀ x ∈ pend, y.st.isLabeled t x = false := fun x hx =>
      (h.trial t).not_labeled fun rec0 k1 => by rw [hrec] at k1; cases k1; have := (hpspec x hx).2.1; omega
    obtain ⟨st3, f1, f2, f3, f4, f5, f6⟩ := feed_result y.st t r v rem pend
      (({ y.sched with mgr := g, costOffset := co } : Sched).updateSearcher t r v o rec).1 h.owf hrem' hpend'
    refine ⟨st3, f1, ?_⟩
    generalize hdoU : (({ y.sched with mgr := g, costOffset := co } : Sched).updateSearcher t r v o rec).1 = doU at *
    generalize hs3 : ({ y.sched with mgr := g, costOffset := co } : Sched).live t r v rec o = s3 at *
    generalize hdD : ({ y.sched with mgr := g, costOffset := co } : Sched).decisionFor r o = d at *
    have hd : d = .continue ↔ o.continues = true := hdD ▸ decisionFor_continue _ r o
    -- `update=True` whenever the level is (or may be) pending
    have hdoU' : doU = true ↔ (y.sched.searcherData ≠ .rungs ∨ r ∈ y.sched.mgr.rungLevels ∨ r = y.sched.mgr.maxT) := by
      rw [hdo]; show (_ ∨ r ∈ g.rungLevels ∨ r = g.maxT) ↔ _; rw [shape_maxT eff.shape, shape_levels eff.shape]
    -- the pending list is a sublist of the old one plus the new levels
    have hsub : ∀ p ∈ st3.pending, p ∈ addPend t pend y.st.pending := by
      intro p hp
      rw [f2] at hp
      split at hp
      · exact List.mem_of_mem_erase hp
      · exact hp
    have hnd : st3.pending.Nodup := by
      rw [f2]
      split
      · exact (nodup_addPend _ _ _ h.pnd).erase _
      · exact nodup_addPend _ _ _ h.pnd
    refine cinv_upd1 h u hkinv hnd f3 (fun L e0 he0 hne => ?_) (fun p hp hne => ?_) f4
      { ent := ?ent, run := ?run, upd := ?upd, pend := ?pend, obs := ?obs, last := ?last }
    · exact ⟨e0, (eff.ents L e0 (hentsL L e0 he0)).resolve_right fun hn => hne hn.2.2.1, rfl, id⟩
    · exact ((mem_addPend t _ _ p).mp (hsub p hp)).resolve_right fun hp' => hne hp'.1
    all_goals simp only [u.self, Option.some.injEq, forall_eq']
    case ent =>
      intro L e0 he0 ht
      refine ⟨_, rfl, ?_⟩
      show L ≤ r ∧ (_ → _ → r ≤ L)
      rcases eff.ents L e0 (hentsL L e0 he0) with h1 | ⟨_, h2, _⟩
      · refine ⟨Nat.le_trans (hcE L e0 h1 ht) (by omega), fun hp hpe => ?_⟩
        -- a running trial has no unpromoted entry
        obtain ⟨rec0, k1, k2⟩ := (h.kinv (shape_type u.shape ▸ hp)).paused e0.tid (EntIn_unpromoted h1 hpe)
        rw [ht, hrec] at k1; cases k1
        exact absurd hcont k2
      · exact ⟨Nat.le_of_eq h2, fun _ _ => Nat.le_of_eq h2.symm⟩
    case run =>
      intro hdc
      have hc := hd.mp hdc
      show r < milestoneOf s3.mgr t r ∧ _
      rw [hmgr hc]
      exact hM' hc
    case upd =>
      intro l hl
      show l ≤ r
      simp only [recAfter] at hl
      split at hl
      · cases hl; exact Nat.le_refl _
      · have := h.upd t rec hrec l hl; omega
    case pend =>
      intro r' hp
      have key : o.continues = true ∧ r < r' ∧ r' ≤ milestoneOf g t r ∧
          (y.sched.searcherData = .rungs → r' = milestoneOf g t r) := by
        rcases (mem_addPend t _ _ _).mp (hsub _ hp) with hold | ⟨_, hnew⟩
        · obtain ⟨rec0, k1, _, k3, k4, k5⟩ := h.pend _ hold
          rw [hrec] at k1; cases k1
          simp only at k3 k4 k5
          by_cases hpr : r' = r
          · -- the entry for the reported level has been dropped
            exfalso
            have hdt : doU = true := by
              rw [hdoU']
              by_cases hsd : y.sched.searcherData = .rungs
              · right
                rw [← hpr, k5 hsd]
                exact hMlev.symm
              · exact Or.inl hsd
            rw [f2, if_pos hdt, hpr] at hp
            exact (nodup_addPend _ _ _ h.pnd).not_mem_erase hp
          · -- an older entry lies above `r`: no rung is reached by this report, so the milestone stays
            have hlt : r < r' := by omega
            have hnr : o.reached = false := by
              cases hre : o.reached with
              | false => rfl
              | true => have := F3 hre; omega
            have hc : o.continues = true := by
              cases hcc : o.continues with
              | true => rfl
              | false => rw [eff.stop hcc] at hnr; cases hnr
            rw [hMg, (F4 hnr).2]
            exact ⟨hc, hlt, k4, k5⟩
        · exact hpspec r' hnew
      obtain ⟨kc, k1, k2, k3⟩ := key
      refine ⟨_, rfl, hd.mpr kc, ?_⟩
      show r < r' ∧ r' ≤ milestoneOf s3.mgr t r ∧ (s3.searcherData = .rungs → r' = milestoneOf s3.mgr t r)
      rw [hmgr kc, u.sd]
      exact ⟨k1, k2, k3⟩
    case obs =>
      intro r' hl
      refine ⟨_, rfl, ?_⟩
      show r' ≤ r
      rcases f5 r' hl with hl | ⟨_, h2⟩
      · obtain ⟨rec0, k1, k2⟩ := h.obs t r' hl
        rw [hrec] at k1; cases k1
        omega
      · exact Nat.le_of_eq h2
    case last =>
      -- under `rungs_and_last` every counted report is passed on with `update=True`, so the level just reported is labelled
      intro hsd p hp _
      cases hp
      exact f6 (hdoU'.mpr (Or.inl (by rw [← u.sd, hsd]; nofun)))

theorem stepC_of_ok {y : Sys} {op : SOp} {st' : SState} (h : y.st.applyAll (opStep y.sched op).2 = .ok st') :
    stepC y op = ⟨(opStep y.sched op).1, st'⟩ := by
  unfold stepC; rw [h]

theorem cinv_opStep (y : Sys) (h : CInv y) (op : SOp) (hok : OpOK y op) :
    (∃ st', y.st.applyAll (opStep y.sched op).2 = .ok st') ∧ CInv (stepC y op) := by
  have key : ∃ st', y.st.applyAll (opStep y.sched op).2 = .ok st' ∧ CInv ⟨(opStep y.sched op).1, st'⟩ := by
    cases op with
    | suggest n b hint => exact cinv_suggest y n b hint h
    | result t r v hint c e => exact cinv_result y t r v hint c e h hok
    | remove t => exact ⟨y.st, rfl, cinv_remove y t h hok⟩
    | error t => exact ⟨(stepC y (.error t)).st, rfl, cinv_error y t h⟩
    | complete t r v => exact cinv_complete y t r v h hok
  obtain ⟨st', h1, h2⟩ := key
  exact ⟨⟨st', h1⟩, stepC_of_ok h1 ▸ h2⟩

theorem onResult_decision_recorded (s s' : Sched) (t r : Nat) (v : Rat) (hint : Bool) (c e : Rat) (out : ResOut)
    (h : s.onResult t r v hint c e = .ok (s', out)) (hd : out.decision ≠ .continue) :
    ∃ rec', alookup t s'.active = some rec' ∧ rec'.decision = out.decision := by
  obtain ⟨rec, hrec, ⟨_, rfl, rfl⟩ | ⟨hcont, g, o, co, htr, ⟨_, _, rfl⟩ | ⟨_, hlive⟩⟩⟩ := Sched.onResult_ok h
  · exact ⟨rec, hrec, rfl⟩
  · exact absurd rfl hd
  · obtain ⟨_, rfl, _, rfl, rfl⟩ := hlive
    exact ⟨_, by rw [Sched.live_active _ t r v rec o hcont t, if_pos rfl], rfl⟩

end SyneTune.C14Comp
