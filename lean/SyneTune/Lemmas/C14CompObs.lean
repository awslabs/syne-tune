import SyneTune.Lemmas.C14CompResult
/- C14 composed system: where stored observations come from.  A searcher call stores at most the criterion of the
value it is given with `update=True` (`apply_obsAt`), an operation passes on only values it was given as reports
(`opStep_updates`), so along every history every stored value is the criterion of a reported one (`ObsFrom`,
`foldl_obsFrom`); neither the contract nor the invariant is needed. -/
namespace SyneTune.C14Comp
open SyneTune SyneTune.C04K SyneTune.C14

theorem apply_obsAt (st st' : SState) (c : SCall) (h : st.apply c = .ok st') (hw : ObsWF st) (t r : Nat) :
    obsAt st' t r = obsAt st t r ∨ obsAt st' t r = none ∨
      ∃ v, c = .update t r v true ∧ obsAt st' t r = some (st.crit v) := by
  rcases apply_ok h with ⟨_, ho⟩ | ⟨t0, r0, v, rfl, rfl⟩ | ⟨t0, r0, v, ms, _, hl, rfl⟩
  · exact .inl (by unfold obsAt; rw [ho])
  · unfold obsAt
    rw [observation_value st t0 r0 v t r]
    by_cases hc : t = t0 ∧ r = r0
    · obtain ⟨rfl, rfl⟩ := hc
      exact .inr (.inr ⟨v, rfl, by simp⟩)
    · exact .inl (by simp [hc])
  · unfold obsAt
    simp only
    rw [alookup_aset]
    by_cases ht : t = t0
    · subst ht
      simp only [if_true, Option.bind_some, hl]
      by_cases hr : r = r0
      · subst hr
        exact .inr (.inl (alookup_adel_self (hw.2 t ms (mem_of_alookup hl))))
      · exact .inl (alookup_adel_ne hr ms)
    · exact .inl (by simp [ht])

/-- `st'` holds at most one observation per trial and level, and each of them is one of `st` or
the criterion of a report among `reps` -/
def ObsFrom (st st' : SState) (reps : List (Nat × Nat × Rat)) : Prop :=
  ObsWF st' ∧ st'.mode = st.mode ∧
  ∀ t r c, obsAt st' t r = some c → obsAt st t r = some c ∨ ∃ v, (t, r, v) ∈ reps ∧ c = st.crit v

theorem ObsFrom.refl {st : SState} (hw : ObsWF st) (reps : List (Nat × Nat × Rat)) : ObsFrom st st reps :=
  ⟨hw, rfl, fun _ _ _ hc => Or.inl hc⟩

theorem ObsFrom.trans {st st1 st2 : SState} {r1 r2 : List (Nat × Nat × Rat)} (h1 : ObsFrom st st1 r1)
    (h2 : ObsFrom st1 st2 r2) : ObsFrom st st2 (r1 ++ r2) := by
  refine ⟨h2.1, h2.2.1.trans h1.2.1, fun t r c hc => ?_⟩
  rcases h2.2.2 t r c hc with hc | ⟨v, hv, hcv⟩
  · rcases h1.2.2 t r c hc with hc | ⟨v, hv, hcv⟩
    · exact Or.inl hc
    · exact Or.inr ⟨v, List.mem_append_left _ hv, hcv⟩
  · exact Or.inr ⟨v, List.mem_append_right _ hv, by rw [hcv, crit_of_mode h1.2.1]⟩

theorem ObsFrom.of_empty {st st' : SState} {reps : List (Nat × Nat × Rat)} (h : ObsFrom st st' reps)
    (hemp : st.observed = []) :
    ObsWF st' ∧ ∀ t r c, obsAt st' t r = some c → ∃ v, (t, r, v) ∈ reps ∧ c = st.crit v := by
  refine ⟨h.1, fun t r c hc => (h.2.2 t r c hc).resolve_left ?_⟩
  rw [obsAt_of_empty hemp]
  nofun

theorem applyAll_obsFrom {st st' : SState} {cs : List SCall} {reps : List (Nat × Nat × Rat)} (hw : ObsWF st)
    (h : st.applyAll cs = .ok st') (hupd : ∀ t r v, SCall.update t r v true ∈ cs → (t, r, v) ∈ reps) :
    ObsFrom st st' reps := by
  refine applyAll_induct (P := fun s => ObsFrom st s reps) h (.refl hw reps) fun x hx s1 s2 hap ⟨w, m1, k⟩ => ?_
  refine ⟨apply_preserves_wf s1 s2 x hap w, (apply_mode hap).trans m1, fun t r c hc => ?_⟩
  rcases apply_obsAt s1 s2 x hap w t r with a | a | ⟨v, rfl, a⟩
  · exact k t r c (a ▸ hc)
  · rw [a] at hc; cases hc
  · rw [a] at hc; cases hc
    exact Or.inr ⟨v, hupd t r v hx, crit_of_mode m1 v⟩

/-- `(trial, level, metric value)` reported by an operation -/
def opReports : SOp → List (Nat × Nat × Rat)
  | .result t r v _ _ _ => [(t, r, v)]
  | .complete t r v => [(t, r, v)]
  | _ => []

theorem foldl_obsFrom {Op : Type} (step : Sys → Op → Sys) (reps : Op → List (Nat × Nat × Rat))
    (hstep : ∀ y op, ObsWF y.st → ObsFrom y.st (step y op).st (reps op)) (y : Sys) (hw : ObsWF y.st)
    (ops : List Op) : ObsFrom y.st (ops.foldl step y).st (ops.flatMap reps) := by
  induction ops generalizing y with
  | nil => exact .refl hw _
  | cons op ops ih =>
    have h1 := hstep y op hw
    exact List.flatMap_cons ▸ h1.trans (ih (step y op) h1.1)

theorem opStep_updates (s : Sched) (op : SOp) (t r : Nat) (v : Rat) (upd : Bool)
    (h : SCall.update t r v upd ∈ (opStep s op).2) : (t, r, v) ∈ opReports op := by
  cases op with
  | suggest n b hint =>
    rw [opStep_suggest] at h
    split at h
    · rename_i res hs
      obtain ⟨_, _, _, _, _, ha⟩ := Sched.suggest_ok (sg := res.2.1) (calls := res.2.2.1) (fr := res.2.2.2) hs
      obtain ⟨t0, ls, hc⟩ := Sched.afterSchedule_calls ha
      simp [hc] at h
    · cases h
  | result t0 r0 v0 hint c e =>
    rw [opStep_result] at h
    split at h
    · rename_i res hs
      obtain ⟨rec, _, ⟨_, _, hout⟩ | ⟨_, g, o, co, _, ⟨_, _, hout⟩ | ⟨_, hlive⟩⟩⟩ :=
        Sched.onResult_ok (s' := res.1) (out := res.2) hs
      · rw [hout] at h
        simp only [List.mem_singleton, SCall.update.injEq] at h
        obtain ⟨rfl, rfl, rfl, _⟩ := h
        exact List.mem_singleton_self _
      · rw [hout] at h; cases h
      · obtain ⟨_, rfl, _, _, hout⟩ := hlive
        obtain ⟨rem, pend, hform, hrem, _⟩ := updateSearcher_spec { s with mgr := g, costOffset := co } t0 r0 v0 o rec
        rw [hout, hform] at h
        simp only [List.mem_append, List.mem_map, List.mem_singleton, SCall.update.injEq] at h
        rcases h with (h | ⟨_, _, h⟩) | ⟨rfl, rfl, rfl, _⟩
        · rcases hrem with rfl | ⟨_, _, _, _, rfl⟩ <;> simp at h
        · cases h
        · exact List.mem_singleton_self _
    · cases h
  | remove t0 => cases h
  | error t0 => simp [opStep, Sched.onError] at h
  | complete t0 r0 v0 =>
    rw [opStep_complete] at h
    split at h
    · cases h
    · rename_i rec _
      simp only [completeCalls, List.mem_append, List.mem_singleton] at h
      rcases h with h | h
      · split at h
        · split at h
          · simp only [List.mem_singleton, SCall.update.injEq] at h
            obtain ⟨rfl, rfl, rfl, _⟩ := h
            exact List.mem_singleton_self _
          · cases h
        · cases h
      · cases h

theorem stepC_obsFrom (y : Sys) (op : SOp) (hw : ObsWF y.st) : ObsFrom y.st (stepC y op).st (opReports op) := by
  unfold stepC
  split
  · rename_i st' ha
    exact applyAll_obsFrom hw ha fun t r v hv => opStep_updates y.sched op t r v true hv
  · exact .refl hw _

end SyneTune.C14Comp
