import SyneTune.Lemmas.TunerFlow
/-
The two invariants of starting trials that need no contract.  Behind C01 `budget` (`BudgetInv`): the running set is
duplicate free, never larger than `n_workers`, the `assert` of `_process_new_results` never fires.
Behind C01 `ids` (`IdsInv`): the k-th `start_trial` command carries id k.
-/
namespace SyneTune.Tuner
open SyneTune

/-- control points inside the `for` loop of `_schedule_new_tasks` -/
def schedPc : Pc → Bool
  | .suggestNext | .suggest | .startCmd | .copyCmd | .addS | .startCb | .resumeCmd | .resumeCb => true
  | _ => false

/-- the part of the invariant that does not depend on the control point -/
structure BudgetBase (s : LState) : Prop where
  nodup : s.running.Nodup
  le : s.running.length ≤ s.cfg.nWorkers
  noAssert : s.err ≠ some .assertion

def BudgetSched (s : LState) : Prop :=
  schedPc s.pc = true →
    (s.pc ≠ .suggestNext → 1 ≤ s.k) ∧ (s.loc = none → s.running.length + s.k ≤ s.cfg.nWorkers)

def BudgetInv (s : LState) : Prop := BudgetBase s ∧ BudgetSched s

theorem BudgetBase.same {s s' : LState} (h : BudgetBase s) (he : s'.err ≠ some .assertion)
    (hr : s'.running = s.running := by rfl) (hc : s'.cfg = s.cfg := by rfl) : BudgetBase s' :=
  ⟨hr ▸ h.nodup, hr ▸ hc ▸ h.le, he⟩

theorem BudgetBase.out {s s' : LState} (h : BudgetBase s) (he : s'.err ≠ some .assertion) (hp : schedPc s'.pc = false)
    (e : s'.running = s.running ∧ s'.cfg = s.cfg := by exact ⟨rfl, rfl⟩) : BudgetInv s' :=
  ⟨h.same he e.1 e.2, fun hs => nomatch hp.symm.trans hs⟩

theorem BudgetInv.stay {s s' : LState} (h : BudgetInv s) {p : Pc} (hpc : s.pc = p) (hp : schedPc p = true)
    (hq : p ≠ .suggestNext) (hr : s'.running = s.running := by rfl) (hc : s'.cfg = s.cfg := by rfl)
    (he : s'.err = s.err := by rfl) (hk : s'.k = s.k := by rfl) (hl : s'.loc = s.loc := by rfl) : BudgetInv s' := by
  have hs := h.2 (hpc ▸ hp)
  exact ⟨h.1.same (he ▸ h.1.noAssert) hr hc,
    fun _ => by rw [hr, hc, hk, hl]; exact ⟨fun _ => hs.1 (hpc ▸ hq), hs.2⟩⟩

theorem BudgetBase.enter {s s' : LState} (h : BudgetBase s) (hp : s'.pc = .suggestNext)
    (hk : s'.loc = none → s.running.length + s'.k ≤ s.cfg.nWorkers) (hr : s'.running = s.running := by rfl)
    (hc : s'.cfg = s.cfg := by rfl) (he : s'.err = s.err := by rfl) : BudgetInv s' :=
  ⟨h.same (he ▸ h.noAssert) hr hc, fun _ => ⟨fun hne => absurd hp hne, fun hl => by rw [hr, hc]; exact hk hl⟩⟩

/-- a trial was started or resumed: it takes one of the `k` places that were left, unless the
local set was rebound (F15), and then the caller's set does not change -/
theorem BudgetInv.scheduled {s : LState} (h : BudgetInv s) (hp : s.pc = .startCb ∨ s.pc = .resumeCb) (t : Nat) :
    BudgetInv (Tuner.scheduled s t) := by
  obtain ⟨hk, hroom⟩ := h.2 (hp.elim (· ▸ rfl) (· ▸ rfl))
  replace hk : 1 ≤ s.k := hk (by rcases hp with hp | hp <;> rw [hp] <;> nofun)
  unfold Tuner.scheduled addRunning
  cases hl : s.loc with
  | some l => exact ⟨⟨h.1.nodup, h.1.le, h.1.noAssert⟩, fun _ => ⟨fun hne => absurd rfl hne, nofun⟩⟩
  | none =>
    have hlen := length_sadd_le t s.running
    have := hroom hl
    refine ⟨⟨nodup_sadd _ _ h.1.nodup, ?_, h.1.noAssert⟩, fun _ => ⟨fun hne => absurd rfl hne, fun _ => ?_⟩⟩
    · show (sadd t s.running).length ≤ s.cfg.nWorkers
      omega
    · show (sadd t s.running).length + (s.k - 1) ≤ s.cfg.nWorkers
      omega

theorem BudgetBase.afterUpdate {s : LState} (h : BudgetBase s) : BudgetInv (Tuner.afterUpdate s) :=
  ⟨⟨h.nodup.filter _, Nat.le_trans (List.length_filter_le _ _) h.le, h.noAssert⟩,
   fun hs => nomatch (afterUpdate_pc_not (by decide) s).symm.trans hs⟩

theorem BudgetInv_trans {s s' : LState} {a : Ans} (hI : BudgetInv s) (t : Trans s a s') : BudgetInv s' := by
  have h := hI.1
  have hfl := t.flow
  cases t
  case assertFail hn => exact absurd h.le hn
  case raiseEnv | keyError | noMetrics => exact h.out nofun rfl
  case updated => exact h.afterUpdate
  case free =>
    exact h.enter rfl fun _ => by
      show s.running.length + (s.cfg.nWorkers - s.running.length) ≤ s.cfg.nWorkers
      have := h.le; omega
  case busyFree l _ _ =>
    refine h.enter rfl ?_
    show (if l.length < s.running.length then some (dedup l) else none) = none →
      s.running.length + (s.cfg.nWorkers - l.length) ≤ s.cfg.nWorkers
    split
    · nofun
    · have := h.le; omega
  case suggestStart hpc | suggestResume hpc | startedPlain hpc _ | startedCopied hpc | addTold hpc | resumed hpc =>
    exact hI.stay hpc rfl nofun
  case scheduled hpc => rw [← scheduled_eq]; exact hI.scheduled hpc _
  case item hpc _ i =>
    cases i <;> exact h.out h.noAssert (flow_rel (R := fun p q => p = .second → schedPc q = false) (by decide +kernel) hfl hpc)
  case skipResult hpc _ _ => exact h.out h.noAssert (by show schedPc s.pc = false; rw [hpc]; rfl)
  case ctl c =>
    cases c
    case askSuggest k hpc hk =>
      exact ⟨⟨h.nodup, h.le, h.noAssert⟩, fun _ => ⟨fun _ => by show 1 ≤ s.k; omega, (hI.2 (by rw [hpc]; rfl)).2⟩⟩
    case copyCkpt hpc _ => exact hI.stay hpc rfl nofun
    all_goals exact h.out h.noAssert rfl
  case fin f =>
    cases f
    case halt => exact hI
    case exitRaise | failed => exact h.out nofun rfl
    all_goals exact h.out h.noAssert rfl
  all_goals exact h.out h.noAssert rfl

theorem BudgetInv.reach {c : Cfg} {P : LState → Ans → Prop} {s : LState} (h : Reach c P s) : BudgetInv s :=
  h.inv ⟨⟨List.nodup_nil, Nat.zero_le _, nofun⟩, nofun⟩ (fun _ _ h => ⟨h.1.same h.1.noAssert, h.2⟩)
    fun _ _ ih => BudgetInv_trans ih

def startIds (l : List Call) : List Nat :=
  l.filterMap (fun c => match c with | .start id _ _ => some id | _ => none)

theorem startIds_append (l : List Call) (c : Call) :
    startIds (l ++ [c]) = startIds l ++ (match c with | .start id _ _ => [id] | _ => []) := by
  unfold startIds
  rw [List.filterMap_append]
  cases c <;> rfl

/-- 1 where a `start_trial` command is pending (logged, `nStarted` not yet incremented) -/
def startPend (p : Pc) : Nat := if p = .startCmd ∨ p = .copyCmd then 1 else 0

/-- the logged `start_trial` ids are `0, 1, …` (`ids`), as many as trials started, plus the one under way (`cnt`),
whose id is the next free one (`sid`) -/
structure IdsInv (s : LState) : Prop where
  ids : startIds s.log = List.range (startIds s.log).length
  cnt : finPc s.pc = false → (startIds s.log).length = s.nStarted + startPend s.pc
  sid : (s.pc = .startCmd ∨ s.pc = .copyCmd) → s.sId = s.nStarted

/-- how a step affects `new_trial_id` -/
inductive IdsCase (s s' : LState) : Prop
  | sugg (tgt : s'.pc = .startCmd) (src : s.pc = .suggest) (sid : s'.sId = s.nStarted) (n : s'.nStarted = s.nStarted)
  | copy (tgt : s'.pc = .copyCmd) (src : s.pc = .startCmd) (sid : s'.sId = s.sId) (n : s'.nStarted = s.nStarted)
  | started (tgt : s'.pc = .addS) (src : s.pc = .startCmd ∨ s.pc = .copyCmd) (n : s'.nStarted = s.nStarted + 1)
  | other (nst : s'.pc ≠ .startCmd) (ncp : s'.pc ≠ .copyCmd) (n : s'.nStarted = s.nStarted)
      (toFin : (s.pc = .startCmd ∨ s.pc = .copyCmd) → finPc s'.pc = true)

theorem startCmd_from : EnteredFrom [.suggest, .startCmd, .copyCmd] (fun p => p = .startCmd ∨ p = .copyCmd) := by decide +kernel

theorem IdsCase.of_flow {s s' : LState} (hfl : flow s.pc s'.pc = true) (hn : s'.nStarted = s.nStarted) {p : Pc}
    (hpc : s.pc = p) (hp : p ∉ [Pc.suggest, .startCmd, .copyCmd]) : IdsCase s s' := by
  have hs : ¬(s.pc = .startCmd ∨ s.pc = .copyCmd) := by
    rw [hpc]; rintro (rfl | rfl) <;> exact hp (by decide)
  have hq := startCmd_from.not hfl hpc hp hs
  exact .other (fun hc => hq (.inl hc)) (fun hc => hq (.inr hc)) hn (fun hc => (hs hc).elim)

theorem scheduled_nStarted (s : LState) (t : Nat) : (scheduled s t).nStarted = s.nStarted := by
  rw [scheduled_eq]

theorem Trans.ids {s s' : LState} {a : Ans} (t : Trans s a s') : IdsCase s s' := by
  have hfl := t.flow
  cases t
  case suggestStart hpc => exact .sugg rfl hpc rfl rfl
  case startedPlain hpc _ => exact .started rfl (.inl hpc) rfl
  case startedCopied hpc => exact .started rfl (.inr hpc) rfl
  case exhausted hpc | suggestResume hpc =>
    exact .other nofun nofun rfl fun hc => by rw [hpc] at hc; rcases hc with hc | hc <;> cases hc
  case raiseEnv => exact .other nofun nofun rfl fun _ => rfl
  case fin f =>
    cases f
    case exitRaise => exact .other nofun nofun rfl fun _ => rfl
    all_goals exact .of_flow hfl rfl ‹_› (by decide)
  case scheduled hpc => exact hpc.elim (.of_flow hfl rfl · (by decide)) (.of_flow hfl rfl · (by decide))
  case ctl c =>
    cases c
    case copyCkpt hpc _ => exact .copy rfl hpc rfl rfl
    all_goals exact .of_flow hfl rfl ‹_› (by decide)
  case item hpc _ i => cases i <;> exact .of_flow hfl rfl hpc (by decide)
  all_goals exact .of_flow hfl rfl ‹_› (by decide)

theorem IdsCase.fin {s s' : LState} (c : IdsCase s s') (hq : finPc s'.pc = true) :
    s'.nStarted = s.nStarted ∧ s'.pc ≠ .startCmd := by
  cases c with
  | sugg tgt | copy tgt | started tgt => rw [tgt] at hq; cases hq
  | other nst _ n _ => exact ⟨n, nst⟩

theorem pending_start (s : LState) :
    (match pending s with | .start id _ _ => [id] | _ => []) = if s.pc = .startCmd then [s.sId] else [] := by
  unfold pending
  cases h : s.pc <;> simp

theorem step_startIds (s : LState) (a : Ans) :
    startIds (step s a).log = startIds s.log ++ if (next s a).pc = .startCmd then [(next s a).sId] else [] :=
  step_log_obs startIds_append pending_start rfl (by decide) s a

theorem startPend_of_ne {p : Pc} (h1 : p ≠ .startCmd) (h2 : p ≠ .copyCmd) : startPend p = 0 := by
  unfold startPend; simp [h1, h2]

theorem IdsInv_step (s : LState) (a : Ans) (h : IdsInv s) : IdsInv (step s a) := by
  have hl := step_startIds s a
  -- `step s a` is `next s a` with some log `l'`; the case description speaks of `next s a`
  rw [step_eq_log]
  generalize (step s a).log = l' at hl ⊢
  cases (next_trans s a).ids with
  | sugg tgt src sid n =>
    have hcnt : (startIds s.log).length = s.nStarted := by
      have := h.cnt (by rw [src]; rfl); rwa [src] at this
    rw [if_pos tgt, sid, ← hcnt] at hl
    refine ⟨?_, fun _ => ?_, fun _ => ?_⟩
    · show startIds l' = _
      rw [hl, List.length_append, List.length_singleton, List.range_succ, ← h.ids]
    · show (startIds l').length = _
      rw [hl, List.length_append, List.length_singleton, n, tgt, ← hcnt]; rfl
    · exact sid.trans n.symm
  | copy tgt src sid n =>
    rw [if_neg (by rw [tgt]; nofun), List.append_nil] at hl
    refine ⟨hl ▸ h.ids, fun _ => ?_, fun _ => ?_⟩
    · show (startIds l').length = _
      rw [hl, h.cnt (by rw [src]; rfl), n, tgt, src]; rfl
    · exact (sid.trans (h.sid (Or.inl src))).trans n.symm
  | started tgt src n =>
    rw [if_neg (by rw [tgt]; nofun), List.append_nil] at hl
    refine ⟨hl ▸ h.ids, fun _ => ?_, fun hc => by rw [tgt] at hc; rcases hc with hc | hc <;> cases hc⟩
    show (startIds l').length = _
    rw [hl, h.cnt (src.elim (· ▸ rfl) (· ▸ rfl)), n, tgt]
    rcases src with src | src <;> rw [src] <;> rfl
  | other nst ncp n toFin =>
    rw [if_neg nst, List.append_nil] at hl
    refine ⟨hl ▸ h.ids, fun hf => ?_, fun hc => (hc.elim nst ncp).elim⟩
    show (startIds l').length = (next s a).nStarted + startPend (next s a).pc
    have hs : ¬(s.pc = .startCmd ∨ s.pc = .copyCmd) := fun hs => by
      have hf : finPc (next s a).pc = false := hf
      rw [toFin hs] at hf; cases hf
    rw [hl, h.cnt (fin_back (next_trans s a).flow hf), n, startPend_of_ne nst ncp, startPend_of_ne (fun hc => hs (.inl hc)) (fun hc => hs (.inr hc))]

theorem IdsInv.reach {c : Cfg} {P : LState → Ans → Prop} {s : LState} (h : Reach c P s) : IdsInv s := by
  induction h with
  | init =>
    exact ⟨by simp [init, startIds], fun _ => by simp [init, startIds, startPend], fun hc => by rcases hc with hc | hc <;> cases hc⟩
  | step _ _ ih => exact IdsInv_step _ _ ih

end SyneTune.Tuner
