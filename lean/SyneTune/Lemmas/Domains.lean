import SyneTune.Model.Encoding
import SyneTune.Lemmas.Round
/- The primitive operations of the C07 models (`np.clip`, Python's `==` / `in` / `index` on values,
`np.argmin` / `np.argmax`), and what the domains of `config_space.py` do without an encoder: samplers,
`cast`, quantisation, JSON form.  Also defines `ScalingOK` and, in namespace `SyneTune.C07`, the hypotheses
`DrawOK`, `SampleHyp` of the sampling theorems. -/
namespace SyneTune.Dom
open SyneTune

theorem rat_floor_eq' (x : ℚ) : x.floor = ⌊x⌋ := rat_floor_eq x

theorem clipR_mem {x lo hi : ℚ} (h : lo ≤ hi) : lo ≤ clipR x lo hi ∧ clipR x lo hi ≤ hi := by
  unfold clipR
  dsimp only
  split_ifs with h1 h2 h2
  · exact ⟨h, le_refl _⟩
  · exact ⟨le_refl _, h⟩
  · exact ⟨h, le_refl _⟩
  · exact ⟨not_lt.mp h1, not_lt.mp h2⟩

theorem clipR_id {x lo hi : ℚ} (h1 : lo ≤ x) (h2 : x ≤ hi) : clipR x lo hi = x := by
  unfold clipR
  rw [if_neg (not_lt.mpr h1), if_neg (not_lt.mpr h2)]

/-- clipping `w` to an interval that holds `vj` and `vk` does not change which of them is nearer -/
theorem clip_closer {w lo hi vj vk : ℚ} (hj : lo ≤ vj ∧ vj ≤ hi) (hk : lo ≤ vk ∧ vk ≤ hi)
    (h : |clipR w lo hi - vj| ≤ |clipR w lo hi - vk|) : |vj - w| ≤ |vk - w| := by
  unfold clipR at h
  dsimp only at h
  split_ifs at h with h1 h2 h3
  · exact absurd (hj.1.trans hj.2) (not_le.mpr h2)
  · -- `w` below the interval: both distances grow by `lo - w`
    rw [abs_sub_comm lo, abs_sub_comm lo, abs_of_nonneg (sub_nonneg.mpr hj.1),
      abs_of_nonneg (sub_nonneg.mpr hk.1)] at h
    rw [abs_of_nonneg (sub_nonneg.mpr (h1.le.trans hj.1)), abs_of_nonneg (sub_nonneg.mpr (h1.le.trans hk.1))]
    exact sub_le_sub_right ((sub_le_sub_iff_right lo).mp h) w
  · rw [abs_of_nonneg (sub_nonneg.mpr hj.2), abs_of_nonneg (sub_nonneg.mpr hk.2)] at h
    rw [abs_sub_comm vj, abs_sub_comm vk, abs_of_nonneg (sub_nonneg.mpr (hj.2.trans h3.le)),
      abs_of_nonneg (sub_nonneg.mpr (hk.2.trans h3.le))]
    exact sub_le_sub_left ((sub_le_sub_iff_left hi).mp h) w
  · rw [abs_sub_comm vj w, abs_sub_comm vk w]; exact h

theorem clipI_mem {x lo hi : ℤ} (h : lo ≤ hi) : lo ≤ clipI x lo hi ∧ clipI x lo hi ≤ hi := by
  unfold clipI
  dsimp only
  split_ifs <;> omega

theorem clipI_id {x lo hi : ℤ} (h1 : lo ≤ x) (h2 : x ≤ hi) : clipI x lo hi = x := by
  unfold clipI
  rw [if_neg (not_lt.mpr h1), if_neg (not_lt.mpr h2)]

theorem pyEq_refl (v : Val) : v.pyEq v = true := by
  cases v <;> simp [Val.pyEq, Val.num?]

theorem pyEq_eq_of_vtype {a b : Val} (h : a.pyEq b = true) (ht : a.vtype = b.vtype) : a = b := by
  cases a <;> cases b <;> simp_all [Val.pyEq, Val.num?, Val.vtype]

theorem pyIn_iff {v : Val} {l : List Val} : pyIn v l = true ↔ ∃ c ∈ l, c.pyEq v = true :=
  List.any_eq_true

theorem pyIn_of_mem {v : Val} {l : List Val} (h : v ∈ l) : pyIn v l = true :=
  pyIn_iff.mpr ⟨v, h, pyEq_refl v⟩

theorem pyIndex_some {v : Val} {l : List Val} {i : ℕ} (h : pyIndex v l = some i) :
    ∃ c, l[i]? = some c ∧ c.pyEq v = true := by
  induction l generalizing i with
  | nil => cases h
  | cons a as ih =>
    unfold pyIndex at h
    split at h
    · rename_i ha
      rw [← Option.some.inj h]
      exact ⟨a, rfl, ha⟩
    · obtain ⟨j, hj, rfl⟩ := Option.map_eq_some_iff.mp h
      exact ih hj

theorem pyIndex_lt {v : Val} {l : List Val} {i : ℕ} (h : pyIndex v l = some i) : i < l.length := by
  obtain ⟨c, hc, _⟩ := pyIndex_some h
  exact (List.getElem?_eq_some_iff.mp hc).1

theorem pyIndex_of_pyIn {v : Val} {l : List Val} (h : pyIn v l = true) : ∃ i, pyIndex v l = some i := by
  induction l with
  | nil => cases h
  | cons a as ih =>
    unfold pyIndex
    split
    · exact ⟨0, rfl⟩
    · rename_i ha
      have has : pyIn v as = true := ((Bool.or_eq_true _ _).mp (List.any_cons.symm.trans h)).resolve_left ha
      obtain ⟨i, hi⟩ := ih has
      exact ⟨i + 1, by rw [hi]; rfl⟩

theorem vtypeOf_mem {cats : List Val} (hok : catsOk cats = true) {v : Val} (hv : v ∈ cats) :
    v.vtype = vtypeOf cats :=
  beq_iff_eq.mp (List.all_eq_true.mp ((Bool.and_eq_true _ _).mp hok).2 v hv)

theorem catsOk_ne_nil {cats : List Val} (h : catsOk cats = true) : cats ≠ [] := by
  intro hn; subst hn; simp [catsOk] at h

theorem index_member {cats : List Val} (h : catsOk cats = true) {v : Val} (hv : v ∈ cats) :
    ∃ i, pyIndex v cats = some i ∧ cats[i]? = some v := by
  obtain ⟨i, hi⟩ := pyIndex_of_pyIn (pyIn_of_mem hv)
  obtain ⟨c, hc, hcv⟩ := pyIndex_some hi
  rw [pyEq_eq_of_vtype hcv ((vtypeOf_mem h (List.mem_of_getElem? hc)).trans (vtypeOf_mem h hv).symm)] at hc
  exact ⟨i, hi, hc⟩

theorem mem_of_member_cats {cats : List Val} {v : Val}
    (h : (v.vtype == vtypeOf cats && pyIn v cats) = true) (hok : catsOk cats = true) : v ∈ cats := by
  obtain ⟨ht, hin⟩ := (Bool.and_eq_true _ _).mp h
  obtain ⟨c', hc, hcv⟩ := pyIn_iff.mp hin
  rw [← pyEq_eq_of_vtype hcv ((vtypeOf_mem hok hc).trans (beq_iff_eq.mp ht).symm)]
  exact hc

/-- the scan with running best `(bi, bv)`: either nothing in `xs` is smaller, or the result is the
first position of the least entry of `xs` -/
theorem argminAux_spec (xs : List ℚ) : ∀ (i bi : ℕ) (bv : ℚ),
    (argminAux xs i bi bv = bi ∧ ∀ x ∈ xs, bv ≤ x) ∨
    (∃ j m, xs[j]? = some m ∧ argminAux xs i bi bv = i + j ∧ m < bv ∧ (∀ x ∈ xs, m ≤ x) ∧
       ∀ j', j' < j → ∀ y, xs[j']? = some y → m < y) := by
  induction xs with
  | nil => intro i bi bv; exact .inl ⟨rfl, fun _ h => absurd h List.not_mem_nil⟩
  | cons x xs ih =>
    intro i bi bv
    unfold argminAux
    split
    · rename_i hx
      right
      rcases ih (i + 1) i x with ⟨h1, h2⟩ | ⟨j, m, hj, h1, h2, h3, h4⟩
      · exact ⟨0, x, rfl, h1, hx, List.forall_mem_cons.mpr ⟨le_rfl, h2⟩, fun j' hj' => absurd hj' (Nat.not_lt_zero _)⟩
      · refine ⟨j + 1, m, hj, by rw [h1, Nat.add_right_comm, Nat.add_assoc], h2.trans hx,
          List.forall_mem_cons.mpr ⟨h2.le, h3⟩, fun j' hj' y hy => ?_⟩
        cases j' with
        | zero => rw [← Option.some.inj hy]; exact h2
        | succ j'' => exact h4 j'' (Nat.lt_of_succ_lt_succ hj') y hy
    · rename_i hx
      have hx' : bv ≤ x := not_lt.mp hx
      rcases ih (i + 1) bi bv with ⟨h1, h2⟩ | ⟨j, m, hj, h1, h2, h3, h4⟩
      · exact .inl ⟨h1, List.forall_mem_cons.mpr ⟨hx', h2⟩⟩
      · refine .inr ⟨j + 1, m, hj, by rw [h1, Nat.add_right_comm, Nat.add_assoc], h2,
          List.forall_mem_cons.mpr ⟨(h2.trans_le hx').le, h3⟩, fun j' hj' y hy => ?_⟩
        cases j' with
        | zero => rw [← Option.some.inj hy]; exact h2.trans_le hx'
        | succ j'' => exact h4 j'' (Nat.lt_of_succ_lt_succ hj') y hy

theorem argminFirst_spec (xs : List ℚ) (h : xs ≠ []) :
    ∃ m, xs[argminFirst xs]? = some m ∧ (∀ x ∈ xs, m ≤ x) ∧
      ∀ j, j < argminFirst xs → ∀ y, xs[j]? = some y → m < y := by
  cases xs with
  | nil => exact absurd rfl h
  | cons x xs =>
    rw [show argminFirst (x :: xs) = argminAux xs 1 0 x from rfl]
    rcases argminAux_spec xs 1 0 x with ⟨h1, h2⟩ | ⟨j, m, hj, h1, h2, h3, h4⟩
    · rw [h1]
      exact ⟨x, rfl, List.forall_mem_cons.mpr ⟨le_rfl, h2⟩, fun j hj => absurd hj (Nat.not_lt_zero _)⟩
    · rw [h1, Nat.add_comm]
      refine ⟨m, hj, List.forall_mem_cons.mpr ⟨h2.le, h3⟩, fun j' hj' y hy => ?_⟩
      cases j' with
      | zero => rw [← Option.some.inj hy]; exact h2
      | succ j'' => exact h4 j'' (Nat.lt_of_succ_lt_succ hj') y hy

theorem argminFirst_lt (xs : List ℚ) (h : xs ≠ []) : argminFirst xs < xs.length := by
  obtain ⟨m, hm, _, _⟩ := argminFirst_spec xs h
  exact (List.getElem?_eq_some_iff.mp hm).1

theorem argminFirst_le (xs : List ℚ) (i : ℕ) (hi : i < xs.length) :
    ∃ m, xs[argminFirst xs]? = some m ∧ m ≤ xs[i] := by
  obtain ⟨m, hm, h2, _⟩ := argminFirst_spec xs (List.ne_nil_of_length_pos (Nat.zero_lt_of_lt hi))
  exact ⟨m, hm, h2 _ (List.getElem_mem hi)⟩

theorem argminFirst_first (xs : List ℚ) (j : ℕ) (hj : j < argminFirst xs) :
    ∃ m y, xs[argminFirst xs]? = some m ∧ xs[j]? = some y ∧ m < y := by
  have hne : xs ≠ [] := by intro h; subst h; exact absurd hj (Nat.not_lt_zero _)
  obtain ⟨m, hm, _, h3⟩ := argminFirst_spec xs hne
  have hj' : j < xs.length := lt_trans hj (argminFirst_lt xs hne)
  exact ⟨m, xs[j], hm, List.getElem?_eq_getElem hj', h3 j hj _ (List.getElem?_eq_getElem hj')⟩

theorem argmaxAux_eq_argminAux (xs : List ℚ) : ∀ (i bi : ℕ) (bv : ℚ),
    argmaxAux xs i bi bv = argminAux (xs.map (-·)) i bi (-bv) := by
  induction xs with
  | nil => intros; rfl
  | cons x xs ih =>
    intro i bi bv
    simp only [argmaxAux, List.map_cons, argminAux, neg_lt_neg_iff, ih]

theorem argmaxFirst_eq_argminFirst (xs : List ℚ) : argmaxFirst xs = argminFirst (xs.map (-·)) := by
  cases xs with
  | nil => rfl
  | cons x xs => exact argmaxAux_eq_argminAux xs 1 0 x

theorem argmaxFirst_spec (xs : List ℚ) (h : xs ≠ []) :
    argmaxFirst xs < xs.length ∧
    ∃ m, xs[argmaxFirst xs]? = some m ∧ ∀ j (hj : j < xs.length), xs[j] ≤ m := by
  rw [argmaxFirst_eq_argminFirst]
  obtain ⟨m', hm', hmin, _⟩ := argminFirst_spec (xs.map (-·)) (by simpa using h)
  rw [List.getElem?_map, Option.map_eq_some_iff] at hm'
  obtain ⟨m, hm, rfl⟩ := hm'
  exact ⟨(List.getElem?_eq_some_iff.mp hm).1, m, hm, fun j hj =>
    neg_le_neg_iff.mp (hmin _ (List.mem_map.mpr ⟨xs[j], List.getElem_mem hj, rfl⟩))⟩

/-- What `log` / `exp` satisfy over the reals, as hypotheses on one raw scaling `s` on `[lo, hi]`: the form the
samplers use (the reverse-log sampler uses `env.rlogS`, which is the scaling of no `ScaleKind`).  The same
assumption has three more forms, each in the terms of its user:
`ScaleOK env k` for the encoders, which for the log and reverse-log kinds is `ScalingOK env.log` /
`ScalingOK env.rlog` (`scaleOK_log_iff`); `LogMono` for nearest-neighbour ordinals (only strict
monotonicity of `log`); `FinLogOK` for log-spaced finite ranges.  `ScalingHyp` collects the
encoder-side ones per hyperparameter. -/
structure ScalingOK (s : Scaling) (lo hi : ℚ) : Prop where
  inv : ∀ y, lo ≤ y → y ≤ hi → s.fromInt (s.toInt y) = y
  mono : ∀ y z, lo ≤ y → y ≤ z → z ≤ hi → s.toInt y ≤ s.toInt z
  monoFrom : ∀ t u, s.toInt lo ≤ t → t ≤ u → u ≤ s.toInt hi → s.fromInt t ≤ s.fromInt u

end SyneTune.Dom

namespace SyneTune.C07
open SyneTune SyneTune.Dom

/-- the contract of the `random_state` tape for a draw of domain `d`: unit draws lie in `[0,1]`,
`randint` / `choice` return an integer of the requested range -/
def DrawOK : Domain → Draw → Prop
  | .flt _, .unit u => 0 ≤ u ∧ u ≤ 1
  | .int d, .idx k => d.scale = .lin ∧ d.lower ≤ k ∧ k ≤ d.upper
  | .int d, .unit u => d.scale = .log ∧ 0 ≤ u ∧ u ≤ 1
  | .cat d, .idx k => 0 ≤ k ∧ k < d.cats.length
  | .nn _, .unit u => 0 ≤ u ∧ u ≤ 1
  | .fin d, .idx k => 0 ≤ k ∧ k < d.size
  | _, _ => False

/-- hypotheses of `sample_member_partial`: the abstract `exp`/`log` of the sampler invert and are
monotone on the bounds (log / reverse-log kinds only); a quantisation step is positive and both
bounds are multiples of it (`Float.quantized` enforces this for floats; for integers it does not:
F6); a nearest-neighbour ordinal has more than one category (else `sample` raises) -/
def SampleHyp (env : Env) : Domain → Prop
  | .flt d =>
      (match d.scale with
       | .lin => True
       | .log => ScalingOK env.log d.lower d.upper
       | .rlog => ScalingOK env.rlogS d.lower d.upper) ∧
      ∀ q, d.q = some q → 0 < q ∧ ∃ i j : ℤ, d.lower = (i : ℚ) * q ∧ d.upper = (j : ℚ) * q
  | .int d =>
      (d.scale = .log → ScalingOK env.log (d.lower : ℚ) (d.upper : ℚ)) ∧
      ∀ q, d.q = some q → 0 < q ∧ q ∣ d.lower ∧ q ∣ d.upper
  | .nn d => 1 < d.cats.length
  | _ => True

end SyneTune.C07

namespace SyneTune.Dom
open SyneTune

theorem lerp_mem {a b u : ℚ} (hab : a ≤ b) (h0 : 0 ≤ u) (h1 : u ≤ 1) : a ≤ lerp a b u ∧ lerp a b u ≤ b := by
  unfold lerp
  have hd := sub_nonneg.mpr hab
  exact ⟨le_add_of_nonneg_right (mul_nonneg hd h0),
    le_sub_iff_add_le'.mp (mul_le_of_le_one_right hd h1)⟩

theorem scaled_draw_mem {s : Scaling} {lo hi u : ℚ} (hs : ScalingOK s lo hi) (hle : lo ≤ hi)
    (h0 : 0 ≤ u) (h1 : u ≤ 1) :
    lo ≤ s.fromInt (lerp (s.toInt lo) (s.toInt hi) u) ∧ s.fromInt (lerp (s.toInt lo) (s.toInt hi) u) ≤ hi := by
  have hLU := hs.mono lo hi (le_refl _) hle (le_refl _)
  obtain ⟨hw1, hw2⟩ := lerp_mem hLU h0 h1
  have g1 := hs.monoFrom _ _ (le_refl _) hw1 hw2
  have g2 := hs.monoFrom _ _ hw1 hw2 (le_refl _)
  rw [hs.inv lo (le_refl _) hle] at g1
  rw [hs.inv hi hle (le_refl _)] at g2
  exact ⟨g1, g2⟩

/-- rounding `v / q` stays between the multiples of `q` that enclose `v` -/
theorem rhe_div_mem {q v : ℚ} (hq : 0 < q) {i j : ℤ} (h1 : (i : ℚ) * q ≤ v) (h2 : v ≤ (j : ℚ) * q) :
    i ≤ roundHalfEven (v / q) ∧ roundHalfEven (v / q) ≤ j :=
  ⟨rhe_ge_of_le ((le_div_iff₀ hq).mpr h1), rhe_le_of_le ((div_le_iff₀ hq).mpr h2)⟩

/-- `Quantized` on a float domain whose bounds are multiples of the step (what `Float.quantized`
checks with `isclose`) -/
theorem quantizeR_mem {q lower upper v : ℚ} (hq : 0 < q) {i j : ℤ} (hl : lower = (i : ℚ) * q)
    (hu : upper = (j : ℚ) * q) (h1 : lower ≤ v) (h2 : v ≤ upper) :
    lower ≤ quantizeR q v ∧ quantizeR q v ≤ upper := by
  subst hl hu
  obtain ⟨g1, g2⟩ := rhe_div_mem hq h1 h2
  exact ⟨mul_le_mul_of_nonneg_right (Int.cast_le.mpr g1) hq.le,
    mul_le_mul_of_nonneg_right (Int.cast_le.mpr g2) hq.le⟩

/-- `Quantized` on an integer domain stays inside the bounds **if the step divides both bounds** -/
theorem quantizeI_mem {q lower upper k : ℤ} (hq : 0 < q) (hl : q ∣ lower) (hu : q ∣ upper)
    (h1 : lower ≤ k) (h2 : k ≤ upper) : lower ≤ quantizeI q k ∧ quantizeI q k ≤ upper := by
  obtain ⟨i, rfl⟩ := hl
  obtain ⟨j, rfl⟩ := hu
  obtain ⟨g1, g2⟩ := rhe_div_mem (q := (q : ℚ)) (v := (k : ℚ)) (i := i) (j := j) (Int.cast_pos.mpr hq)
    (by exact_mod_cast (mul_comm q i ▸ h1)) (by exact_mod_cast (mul_comm q j ▸ h2))
  unfold quantizeI
  rw [mul_comm q i, mul_comm q j]
  exact ⟨Int.mul_le_mul_of_nonneg_right g1 hq.le, Int.mul_le_mul_of_nonneg_right g2 hq.le⟩

theorem float_applyQ_mem {env : Env} {d : FloatDom} (hs : C07.SampleHyp env (.flt d))
    {v : ℚ} (h1 : d.lower ≤ v) (h2 : v ≤ d.upper) : d.lower ≤ d.applyQ v ∧ d.applyQ v ≤ d.upper := by
  unfold FloatDom.applyQ
  split
  · exact ⟨h1, h2⟩
  · rename_i q hqq
    obtain ⟨hq0, i, j, hl, hu⟩ := hs.2 q hqq
    exact quantizeR_mem hq0 hl hu h1 h2

theorem int_applyQ_mem {env : Env} {d : IntDom} (hs : C07.SampleHyp env (.int d))
    {k : ℤ} (h1 : d.lower ≤ k) (h2 : k ≤ d.upper) : d.lower ≤ d.applyQ k ∧ d.applyQ k ≤ d.upper := by
  unfold IntDom.applyQ
  split
  · exact ⟨h1, h2⟩
  · rename_i q hqq
    obtain ⟨hq0, hl, hu⟩ := hs.2 q hqq
    exact quantizeI_mem hq0 hl hu h1 h2

theorem float_sampleRaw_mem {env : Env} {d : FloatDom} (hok : (Domain.flt d).ok = true)
    (hs : C07.SampleHyp env (.flt d)) {u : ℚ} (hdr : C07.DrawOK (.flt d) (.unit u)) :
    ∃ v, d.sampleRaw env u = .ok v ∧ d.lower ≤ v ∧ v ≤ d.upper := by
  obtain ⟨h0, h1⟩ := hdr
  have hsc := hs.1
  obtain ⟨hle, hk⟩ := (Bool.and_eq_true _ _).mp hok
  have hle := of_decide_eq_true hle
  unfold FloatDom.sampleRaw
  revert hk hsc
  cases d.scale <;> intro hsc hk <;> dsimp only
  · exact ⟨_, rfl, lerp_mem hle h0 h1⟩
  · have hpos : 0 < d.lower := of_decide_eq_true hk
    rw [if_pos ⟨hpos, hpos.trans_le hle⟩]
    exact ⟨_, rfl, scaled_draw_mem hsc hle h0 h1⟩
  · obtain ⟨k1, k2⟩ : 0 ≤ d.lower ∧ d.upper < 1 := of_decide_eq_true hk
    rw [if_pos ⟨k1, hle, k2⟩]
    exact ⟨_, rfl, scaled_draw_mem hsc hle h0 h1⟩

/-- `cast` does not check the bounds -/
theorem float_cast_member (d : FloatDom) (x : ℚ) : d.cast (.flt x) = .ok (.flt x) := rfl

/-- the un-quantised sampler of an integer domain stays inside the bounds: `randint` returns an
integer of the range (contract of the tape), `_LogUniform` rounds a value of `[lower, upper]` -/
theorem int_sampleRaw_mem {env : Env} {d : IntDom} (hok : (Domain.int d).ok = true)
    (hs : C07.SampleHyp env (.int d)) {dr : Draw} (hdr : C07.DrawOK (.int d) dr) :
    ∃ k, d.sampleRaw env dr = .ok k ∧ d.lower ≤ k ∧ k ≤ d.upper := by
  obtain ⟨hle, hk⟩ := (Bool.and_eq_true _ _).mp hok
  have hle := of_decide_eq_true hle
  unfold IntDom.sampleRaw
  cases dr with
  | idx k => rw [hdr.1]; exact ⟨_, rfl, hdr.2⟩
  | unit u =>
    obtain ⟨hlog, h0, h1⟩ := hdr
    rw [hlog] at hk ⊢
    have hpos : 0 < d.lower := of_decide_eq_true hk
    dsimp only
    rw [if_pos ⟨hpos, by omega⟩]
    obtain ⟨g1, g2⟩ := scaled_draw_mem (hs.1 hlog) (Int.cast_le.mpr hle) h0 h1
    exact ⟨_, rfl, rhe_ge_of_le g1, rhe_le_of_le g2⟩

theorem int_cast_member (d : IntDom) (k : ℤ) : d.cast (.int k) = .ok (.int k) := by
  simp [IntDom.cast, Val.num?, rhe_int]

theorem convertTo_self {t : VType} {v : Val} (h : v.vtype = t) : convertTo t v = .ok v := by
  cases v <;> cases t <;> simp_all [convertTo, Val.vtype]

theorem cat_cast_member {c : Consts} {d : CatDom} (hok : catsOk d.cats = true) {v : Val} (hv : v ∈ d.cats) :
    d.cast c v = .ok v := by
  unfold CatDom.cast
  rw [convertTo_self (vtypeOf_mem hok hv)]
  simp [pyIn_of_mem hv]

/-- **a sampled category is a listed one** (`choice(n)` returns an index below `n`) -/
theorem cat_sample_member {c : Consts} {d : CatDom} (hok : catsOk d.cats = true) {k : ℤ}
    (h0 : 0 ≤ k) (h1 : k < d.cats.length) : ∃ v, d.sample c (.idx k) = .ok v ∧ v ∈ d.cats := by
  unfold CatDom.sample
  have hlt : k.toNat < d.cats.length := by omega
  simp only [List.getElem?_eq_getElem hlt]
  exact ⟨_, cat_cast_member hok (List.getElem_mem _), List.getElem_mem _⟩

theorem mapM_members {α β ε : Type} {f : α → Except ε β} {P : β → Prop} (drs : List α)
    (h : ∀ dr ∈ drs, ∃ v, f dr = .ok v ∧ P v) :
    ∃ vs, drs.mapM f = .ok vs ∧ vs.length = drs.length ∧ ∀ v ∈ vs, P v := by
  induction drs with
  | nil => exact ⟨[], rfl, rfl, by simp⟩
  | cons d ds ih =>
    obtain ⟨v, hv, hp⟩ := h d (by simp)
    obtain ⟨vs, hvs, hl, hall⟩ := ih (fun dr hdr => h dr (List.mem_cons_of_mem _ hdr))
    refine ⟨v :: vs, ?_, by simp [hl], ?_⟩
    · simp only [List.mapM_cons, hv, hvs, bind, Except.bind, pure, Except.pure]
    · intro w hw
      rcases List.mem_cons.mp hw with rfl | hw
      · exact hp
      · exact hall w hw

theorem sampleN_members {env : Env} {c : Consts} {d : Domain} {P : Val → Prop} {drs : List Draw}
    (h : ∀ dr ∈ drs, ∃ v, d.sample env c dr = .ok v ∧ P v) :
    ∃ vs, d.sampleN env c drs = .ok vs ∧ vs.length = drs.length ∧ ∀ v ∈ vs, P v := by
  unfold Domain.sampleN
  split
  · rename_i dr
    obtain ⟨v, hv, hm⟩ := h dr List.mem_cons_self
    exact ⟨[v], by rw [hv]; rfl, rfl, fun w hw => List.mem_singleton.mp hw ▸ hm⟩
  · exact mapM_members drs h

theorem samplerOf_str (k : ScaleKind) : samplerOf (samplerStr k) = .ok k := by
  have h1 : ¬ ("LogUniform" = "Uniform") := by decide
  have h2 : ¬ ("ReverseLogUniform" = "Uniform") := by decide
  have h3 : ¬ ("ReverseLogUniform" = "LogUniform") := by decide
  cases k <;> simp [samplerOf, samplerStr, h1, h2, h3]

theorem Domain.json_roundtrip {d : Domain} (hok : d.ok = true) (hq : isQuantised d = false) :
    jsonRoundTrip d = .ok d := by
  cases d with
  | flt f =>
    obtain ⟨lo, hi, sc, q⟩ := f
    simp only [isQuantised, Option.isSome_eq_false_iff, Option.isNone_iff_eq_none] at hq
    subst hq
    simp only [Domain.ok, Bool.and_eq_true, decide_eq_true_eq] at hok
    simp [jsonRoundTrip, toDict, fromDict, samplerOf_str, hok.1]
  | int f =>
    obtain ⟨lo, hi, sc, q⟩ := f
    simp only [isQuantised, Option.isSome_eq_false_iff, Option.isNone_iff_eq_none] at hq
    subst hq
    have hsc : sc ≠ .rlog := by
      intro h; subst h; simp [Domain.ok] at hok
    simp only [Domain.ok, Bool.and_eq_true, decide_eq_true_eq] at hok
    cases sc
    · simp [jsonRoundTrip, toDict, fromDict, samplerOf_str, hok.1]
    · simp [jsonRoundTrip, toDict, fromDict, samplerOf_str, hok.1]
    · exact absurd rfl hsc
  | cat f =>
    obtain ⟨cats, ord⟩ := f
    simp only [Domain.ok] at hok
    cases ord <;> simp [jsonRoundTrip, toDict, fromDict, hok]
  | nn f =>
    obtain ⟨cats, lg⟩ := f
    simp only [Domain.ok] at hok
    simp [jsonRoundTrip, toDict, fromDict, hok]
  | fin f =>
    obtain ⟨lo, hi, sz, lg, ci⟩ := f
    simp only [Domain.ok] at hok
    simp [jsonRoundTrip, toDict, fromDict, hok]

end SyneTune.Dom
