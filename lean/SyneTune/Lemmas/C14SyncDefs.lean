import SyneTune.Lemmas.SearcherData
import SyneTune.Lemmas.SyncRun
/-
C14, composed system for SYNCHRONOUS Hyperband: the model of `SynchronousHyperbandScheduler`
(`Model/SyncScheduler.lean`, `Sync.Sched`) and the model of the data bookkeeping of the GP
searcher (`Model/SearcherState.lean`, `SState`) run together.  Every call on the searcher the
scheduler emits (`Sync.SCall`) is translated to the `SCall` which `SState.apply` understands and
fed into it, in order.

Definitions only (translation, system, step, the operation contract `OpOKS`, the invariant
`CInvS`); proofs are in `Lemmas/C14Sync*.lean`, the property theorems in `Props/C14Sync.lean`.
-/
namespace SyneTune.Sync.C14S
open SyneTune.C14 SyneTune.C14Comp

/-! ### translation of the searcher calls -/

/-- what the searcher does on a call of the scheduler: a call `SState.apply` understands, or —
which `SState.apply` has no call for — the arrival of a NaN / infinite result for `(t, r)` with
`update=True` -/
inductive SAct
  | call (c : SyneTune.SCall)
  | nanArrived (t r : Nat)

/-- `state_transformer.mark_trial_failed(trial_id)`: the trial id is appended to `failed_trials`
unless it is there (the same update as inside `SState.apply (.evalFailed t)`) -/
def markFailed (st : SState) (t : Nat) : SState :=
  if st.failed.contains t then st else { st with failed := st.failed ++ [t] }

/-- effect of one action on the searcher's data.  `nanArrived t r` (`ModelBasedSearcher._update`
for a NaN / infinite metric value, /repo commit b827303): `drop_pending_evaluation(t, r)` — the
first pending entry `(t, r)`, if any — and `mark_trial_failed(t)`; no observation -/
def applyAct (st : SState) : SAct → Except Err SState
  | .call c => st.apply c
  | .nanArrived t r => .ok (markFailed { st with pending := dropPending t r st.pending } t)

def applyActs (st : SState) : List SAct → Except Err SState
  | [] => .ok st
  | a :: as =>
    match applyAct st a with
    | .error e => .error e
    | .ok st' => applyActs st' as

/-- the searcher calls of the synchronous scheduler as actions on the searcher model:
* `pending t level` — `searcher.register_pending(trial_id, config, milestone=level)` in `_suggest`
  (new trial only);
* `update t r v upd` — `searcher.on_trial_result(trial_id, config, result, update=upd)` in
  `on_trial_result` (and with `update=True` in `on_trial_complete`).  A finite metric value is
  passed as it is.  For `float("nan")` (and `inf`, which the model's `Metric` does not have)
  `ModelBasedSearcher._update` (called iff `update=True`) "rejects NaN or infinite values": no
  observation is stored, but — since commit b827303 of /repo — the pending evaluation the result
  replaces, `(trial, resource of the result)`, is dropped, exactly what `label_trial` would have
  dropped, and the trial is marked as failed (`nanArrived`).  With `update=False` the searcher
  is not updated at all;
* `evalFailed t` — `searcher.evaluation_failed(trial_id)` in `on_trial_error`. -/
def trCall : SCall → SAct
  | .pending t level => .call (.pending t level)
  | .update t r (.val x) upd => .call (.update t r x upd)
  | .update t r .nan true => .nanArrived t r
  | .update t r .nan false => .call (.update t r 0 false)
  | .evalFailed t => .call (.evalFailed t)

/-! ### the composed system -/

/-- scheduler + searcher bookkeeping + a ghost component: `last` maps a trial to the resource
level of the last result it reported in its current (or most recent) run — what the training
script / the `Tuner` (`last_seen_result_per_trial`) know; reset to 0 when the trial is started
or resumed.  No operation of scheduler or searcher reads it; the contract and the invariant do. -/
structure SysS where
  sched : Sched
  st : SState
  last : List (Nat × Nat) := []

/-- level of the last report of `t` in its current run, 0 if there is none -/
def SysS.lastOf (y : SysS) (t : Nat) : Nat := (alookup t y.last).getD 0

/-- the ghost component after an operation which scheduler and searcher accepted -/
def ghostNext (s : Sched) (last : List (Nat × Nat)) (op : Op) (o : Out) : List (Nat × Nat) :=
  match op with
  | .suggest _ _ =>
    (match o.suggestion with
     | some (.start t _ _ _ _ _) => aset t 0 last
     | some (.resume t _ _) => aset t 0 last
     | _ => last)
  | .result t r _ => if (alookup t s.pending).isSome then aset t r last else last
  | _ => last

/-- one step of the composed system.  A Python exception of the scheduler (`Sched.step` is an
error) leaves everything as it was (convention of `Sched.next`).  The calls are translated and
applied (`applyActs`) in the order the scheduler issues them; if the searcher raised on one of them
(`SState.apply`: "already has observation, cannot be pending"), the exception would propagate
out of the scheduler method: the operation is rejected as a whole.  `calls_accepted_sync` proves
this branch unreachable. -/
def stepCS (y : SysS) (op : Op) : SysS :=
  match y.sched.step op with
  | .error _ => y
  | .ok (s', o) =>
    match applyActs y.st (o.calls.map trCall) with
    | .ok st' => { sched := s', st := st', last := ghostNext y.sched y.last op o }
    | .error _ => y

def runCS (y : SysS) (ops : List Op) : SysS := ops.foldl stepCS y

/-! ### levels of the rungs, from the rung systems -/

/-- `(size, level)` of rung `k` of bracket `id`: `bracket_rungs[id mod num_offsets][k]` -/
def specAt (sys : List (List (Nat × Nat))) (id k : Nat) : Option (Nat × Nat) :=
  (sys[id % sys.length]?).bind (·[k]?)

/-- level of rung `k` of bracket `id` -/
def lvl (sys : List (List (Nat × Nat))) (id k : Nat) : Nat :=
  match specAt sys id k with
  | some a => a.2
  | none => 0

/-- `level_to_prev_level(bracket_id, level of rung k)`: level of rung `k - 1`, 0 for the base rung -/
def prevLvl (sys : List (List (Nat × Nat))) (id : Nat) : Nat → Nat
  | 0 => 0
  | k + 1 => lvl sys id k

/-! ### contract of the operation stream -/

/-- clause for `on_trial_result` of a trial which is registered for a slot: the level is above
the last one reported in this run and not above the slot's milestone -/
def ResultOK (o : Option (Nat × SlotInRung)) (last r : Nat) : Prop :=
  match o with
  | some (_, sl) => last < r ∧ r ≤ sl.level
  | none => True

instance (o : Option (Nat × SlotInRung)) (last r : Nat) : Decidable (ResultOK o last r) :=
  match o with
  | some (_, sl) => inferInstanceAs (Decidable (last < r ∧ r ≤ sl.level))
  | none => isTrue trivial

/-- clause for `on_trial_complete`: the result has been dealt with before — a finite one is in
the data, for a NaN one no evaluation is pending at its level -/
def CompleteOK (st : SState) (t r : Nat) : Metric → Prop
  | .val x => obsAt st t r = some (st.crit x)
  | .nan => (t, r) ∉ st.pending

instance (st : SState) (t r : Nat) (v : Metric) : Decidable (CompleteOK st t r v) :=
  match v with
  | .val x => inferInstanceAs (Decidable (obsAt st t r = some (st.crit x)))
  | .nan => inferInstanceAs (Decidable ((t, r) ∉ st.pending))

/-- What the caller of the scheduler (the `Tuner` loop and the training scripts) guarantees for
one operation; nothing is asked of `error`, `remove`, `takeRemovable`.

* `suggest tid _`: the trial id offered for a new trial is new (the `Tuner` counts them up) —
  `LegalOp` of `Lemmas/SyncRun.lean`.
* `result t r v`: if `t` is running (registered in `_trial_to_pending_slot`) `r` is above the level
  of the last result of this run — a training script reports increasing resource levels, a
  resumed one starts again from 1 (no checkpoint) or from where it was — and not above the
  milestone of its slot ("Training script must not skip rung levels": the script is stopped at
  the milestone, or runs up to `max_resource_attr`).  The metric value is unconstrained (NaN
  allowed).  Results of trials which are not running are unconstrained (answer STOP, nothing
  recorded).
* `complete t r v`: the result handed to `on_trial_complete` is one the searcher has already
  received with `update=True` (a finite one is in the data; for a NaN one nothing is pending at
  its level) — the `Tuner` passes the last result of the trial, "for which `on_trial_result` was
  called before", and calls `on_trial_complete` only for a trial whose last result was not
  answered PAUSE/STOP; a trial of this scheduler runs until it is paused at its milestone, so
  within the contract the call does not occur at all or repeats a report already dealt with. -/
def OpOKS (y : SysS) : Op → Prop
  | .suggest tid _ => tid ∉ y.sched.configs
  | .result t r _ => ResultOK (alookup t y.sched.pending) (y.lastOf t) r
  | .complete t r v => CompleteOK y.st t r v
  | _ => True

instance (y : SysS) (op : Op) : Decidable (OpOKS y op) :=
  match op with
  | .suggest tid _ => inferInstanceAs (Decidable (tid ∉ y.sched.configs))
  | .result t r _ => inferInstanceAs (Decidable (ResultOK (alookup t y.sched.pending) (y.lastOf t) r))
  | .complete t r v => inferInstanceAs (Decidable (CompleteOK y.st t r v))
  | .error _ => isTrue trivial
  | .remove _ => isTrue trivial
  | .takeRemovable => isTrue trivial

/-- the contract evaluated along a run -/
def OpsOKS : SysS → List Op → Prop
  | _, [] => True
  | y, op :: ops => OpOKS y op ∧ OpsOKS (stepCS y op) ops

instance instDecidableOpsOKS : (y : SysS) → (ops : List Op) → Decidable (OpsOKS y ops)
  | _, [] => isTrue trivial
  | y, op :: ops =>
    have := instDecidableOpsOKS (stepCS y op) ops
    (inferInstance : Decidable (OpOKS y op ∧ OpsOKS (stepCS y op) ops))

/-! ### the invariant -/

/-- level of rung `k` of bracket `id` of the scheduler -/
abbrev _root_.SyneTune.Sync.Sched.lvl (s : Sched) (id k : Nat) : Nat :=
  SyneTune.Sync.C14S.lvl s.mgr.bracketRungs id k

/-- level of the rung below rung `k` of bracket `id` (`level_to_prev_level`) -/
abbrev _root_.SyneTune.Sync.Sched.prevLvl (s : Sched) (id k : Nat) : Nat :=
  SyneTune.Sync.C14S.prevLvl s.mgr.bracketRungs id k

/-- a pending evaluation belongs to a trial registered for a slot (running), at the milestone
of that slot, and the trial was STARTED for this slot: the slot of the bracket holds no trial
id yet (`(None, None)`) — a resumed trial sits in its slot as `(trial_id, None)` -/
def PendOK (y : SysS) : Prop :=
  ∀ p ∈ y.st.pending, ∃ id sl, alookup p.1 y.sched.pending = some (id, sl) ∧ p.2 = sl.level ∧
    y.sched.mgr.SlotAt id sl.rungIndex sl.slotIndex ⟨none, none⟩

/-- every running trial which was started for its slot has its milestone pending -/
def PendConv (y : SysS) : Prop :=
  ∀ t id sl, alookup t y.sched.pending = some (id, sl) →
    y.sched.mgr.SlotAt id sl.rungIndex sl.slotIndex ⟨none, none⟩ → (t, sl.level) ∈ y.st.pending

/-- a running trial has not yet reported its milestone -/
def LastOK (y : SysS) : Prop :=
  ∀ t id sl, alookup t y.sched.pending = some (id, sl) → y.lastOf t < sl.level

/-- where an observation comes from: either from a finished run of the trial — slot `p` of rung
`k` of bracket `id` holds `(t, m)` —, at a level in the window `(prev_level, level]` of that rung,
at the rung level itself only with a finite metric value `m` (the stored value is its
criterion), and with `searcher_data = "rungs"` only at the rung level; or from the current run
of a running trial, `searcher_data = "all"`, at a level of the window it has reported -/
def ObsOK (y : SysS) : Prop :=
  ∀ t r, y.st.isLabeled t r = true →
    (∃ id k p m, y.sched.mgr.SlotAt id k p ⟨some t, some m⟩ ∧
        y.sched.prevLvl id k < r ∧ r ≤ y.sched.lvl id k ∧
        (r = y.sched.lvl id k → ∃ x, m = .val x ∧ obsAt y.st t r = some (y.st.crit x)) ∧
        (y.sched.searcherAll = false → r = y.sched.lvl id k)) ∨
    (∃ id sl, alookup t y.sched.pending = some (id, sl) ∧
        y.sched.prevLvl id sl.rungIndex < r ∧ r ≤ y.lastOf t ∧ y.sched.searcherAll = true)

/-- every finite rung entry is in the data, with its value -/
def FinOK (y : SysS) : Prop :=
  ∀ t id k p x, y.sched.mgr.SlotAt id k p ⟨some t, some (.val x)⟩ →
    obsAt y.st t (y.sched.lvl id k) = some (y.st.crit x)

/-- **The invariant of the composed system.** -/
structure CInvS (y : SysS) : Prop where
  inv : Inv y.sched
  pnd : y.st.pending.Nodup
  owf : ObsWF y.st
  pend : PendOK y
  conv : PendConv y
  lastOk : LastOK y
  obs : ObsOK y
  fin : FinOK y

end SyneTune.Sync.C14S
