import SyneTune.Lemmas.Rung
/- min/max symmetry of the rung primitives (C15): negating the metric values and flipping the mode commutes
with `SortedList.add` and the comparisons. -/
namespace SyneTune

def negE (e : Entry) : Entry := { e with val := -e.val }
def negRung (rg : Rung) : Rung := { rg with data := rg.data.map negE }

theorem absRat_neg (x : ℚ) : absRat (-x) = absRat x := by
  rw [absRat_eq_abs, absRat_eq_abs, abs_neg]

theorem insertEntry_neg (e : Entry) (l : List Entry) :
    insertEntry .max (negE e) (l.map negE) = (insertEntry .min e l).map negE := by
  induction l with
  | nil => simp [insertEntry]
  | cons x xs ih =>
    have hk : Mode.max.key (negE e).val < Mode.max.key (negE x).val ↔ Mode.min.key e.val < Mode.min.key x.val := by
      simp [Mode.key, negE]
    simp only [List.map_cons]
    unfold insertEntry
    by_cases h : Mode.min.key e.val < Mode.min.key x.val
    · have h' := hk.mpr h
      simp only [h, h', if_true, List.map_cons]
    · have h' : ¬ Mode.max.key (negE e).val < Mode.max.key (negE x).val := fun c => h (hk.mp c)
      simp only [h, h', if_false, List.map_cons, ih]

theorem scale_neg (rg : Rung) : (negRung rg).scale = rg.scale := by
  unfold Rung.scale negRung
  simp only [List.map_map]
  congr 1
  apply List.map_congr_left
  intro e _
  simp [negE, absRat_neg]

theorem cmpLe_neg (a b sc : ℚ) : cmpLe (-b) (-a) sc = cmpLe a b sc := by
  simp only [cmpLe, tol, absRat_eq_abs, maxRat_eq_max, abs_neg, neg_sub_neg, max_comm |b| |a|,
    neg_le_neg_iff]

theorem cmpNoWorse_neg (v c sc : ℚ) : cmpNoWorse .max (-v) (-c) sc = cmpNoWorse .min v c sc := by
  simp only [cmpNoWorse]; exact cmpLe_neg v c sc

end SyneTune
