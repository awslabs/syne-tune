import SyneTune.Model.InitialPoints
import SyneTune.Lemmas.Round
/-
Lemmas about domains, imputation of initial points, `cast_config_values` /
`_postprocess_config` and PBT's perturbation (`Model/Searcher.lean`,
`Model/InitialPoints.lean`) for C06.
-/
namespace SyneTune.Srch
open SyneTune

/-- every hyperparameter of `hps` has in `c` a value that is a member of its domain -/
def ValidOn (hps : List (String × Dom)) (c : Config) : Prop :=
  ∀ k d, (k, d) ∈ hps → ∃ v, cget k c = some v ∧ d.member v = true

/-- `c` lists exactly the hyperparameters `hps`, in order, with member values -/
def HpValid : List (String × Dom) → Config → Prop
  | [], [] => True
  | (k, d) :: hps, (k', v) :: c => k = k' ∧ d.member v = true ∧ HpValid hps c
  | _, _ => False

/-- a configuration as returned by `scheduler.suggest` for the space `sp`, given that the
searcher returned `c`: all keys of the space in its order; every hyperparameter value is a
member of its domain and has the domain's value type; a constant has the value of the space
(unless the searcher's configuration itself carries that key, e.g. the grid searcher, or
the max-resource attribute Hyperband sets on purpose) -/
def FullValid (sp : Space) (c full : Config) : Prop :=
  full.map Prod.fst = sp.map Prod.fst ∧
  ∀ k e, (k, e) ∈ sp → ∃ v, cget k full = some v ∧
    match e with
    | .dom d => d.member v = true ∧ v.vtype = d.vtype
    | .const w => v = (cget k c).getD w

theorem cget_cons_self (k : String) (v : Val) (c : Config) : cget k ((k, v) :: c) = some v :=
  if_pos rfl

theorem cget_cons_ne {k k' : String} (v : Val) (c : Config) (h : k ≠ k') :
    cget k ((k', v) :: c) = cget k c :=
  if_neg h

theorem mem_hpEntries (sp : Space) (k : String) (d : Dom) :
    (k, d) ∈ hpEntries sp ↔ (k, Entry.dom d) ∈ sp := by
  induction sp with
  | nil => simp [hpEntries]
  | cons x sp ih => obtain ⟨k', _ | _⟩ := x <;> simp [hpEntries, ih]

theorem Space.wfb_iff {sp : Space} :
    Space.wfb sp = true ↔ (∀ kd ∈ hpEntries sp, kd.2.wfb = true) ∧ (sp.map Prod.fst).Nodup := by
  simp only [Space.wfb, Bool.and_eq_true, List.all_eq_true, decide_eq_true_eq]

theorem hpKeys_sublist : ∀ sp : Space, ((hpEntries sp).map Prod.fst).Sublist (sp.map Prod.fst)
  | [] => .slnil
  | (k, .dom _) :: sp => (hpKeys_sublist sp).cons_cons k
  | (k, .const _) :: sp => (hpKeys_sublist sp).cons k

theorem hp_keys_nodup (sp : Space) (hwf : Space.wfb sp = true) : ((hpEntries sp).map Prod.fst).Nodup :=
  (Space.wfb_iff.1 hwf).2.sublist (hpKeys_sublist sp)

theorem hpValid_keys : ∀ (hps : List (String × Dom)) (c : Config), HpValid hps c →
    c.map Prod.fst = hps.map Prod.fst := by
  intro hps c
  fun_induction HpValid hps c with
  | case1 => exact fun _ => rfl
  | case2 k d hps k' v c ih => exact fun h => congrArg₂ List.cons h.1.symm (ih h.2.2)
  | case3 => exact False.elim

theorem hpValid_validOn (hps : List (String × Dom)) (c : Config) :
    (hps.map Prod.fst).Nodup → HpValid hps c → ValidOn hps c := by
  fun_induction HpValid hps c with
  | case1 => exact fun _ _ _ _ h => nomatch h
  | case2 k d hps k' v c ih =>
    rintro hn ⟨rfl, h2, h3⟩ k2 d2 hm
    have hn := List.nodup_cons.1 hn
    rcases List.mem_cons.1 hm with heq | hm
    · obtain ⟨rfl, rfl⟩ := Prod.mk.inj heq
      exact ⟨v, cget_cons_self _ _ _, h2⟩
    · obtain ⟨w, hw, hmem⟩ := ih hn.2 h3 k2 d2 hm
      exact ⟨w, (cget_cons_ne _ _ fun e => hn.1 (List.mem_map.2 ⟨(k2, d2), hm, e⟩)).trans hw, hmem⟩
  | case3 => exact fun _ => False.elim

theorem HpValid.validOn {sp : Space} (hwf : Space.wfb sp = true) {c : Config} (h : HpValid (hpEntries sp) c) :
    ValidOn (hpEntries sp) c :=
  hpValid_validOn _ c (hp_keys_nodup sp hwf) h

theorem sameTypes_mem {a v : Val} {rest : List Val} (h : sameTypes (a :: rest) = true)
    (hv : v ∈ a :: rest) : v.vtype = a.vtype := by
  rcases List.mem_cons.1 hv with rfl | hv
  · rfl
  · exact eq_of_beq (List.all_eq_true.1 h v hv)

/-- the values a numeric domain lists (nearest-neighbour ordinal, finite range), if it does;
its members are these -/
def Dom.listed : Dom → Option (List Val)
  | .nn cats _ _ => some cats
  | .fin vals .. => some vals
  | _ => none

theorem Dom.member_listed {d : Dom} {vals : List Val} (h : d.listed = some vals) (v : Val) :
    d.member v = true ↔ v ∈ vals := by
  cases d <;> cases h <;> exact List.contains_iff_mem

/-- what well-formedness says of the listed values: one type; casting and clipping leave
each of them alone -/
theorem Dom.wfb_listed {d : Dom} {vals : List Val} (h : d.listed = some vals) (hwf : d.wfb = true) :
    sameTypes vals = true ∧ vals.all d.castFixes = true ∧ vals.all d.clipFixes = true := by
  cases d <;> cases h <;> simp only [Dom.wfb, Bool.and_eq_true] at hwf
  · exact ⟨hwf.1.1.1.2, hwf.1.2, hwf.2⟩
  · exact ⟨hwf.1.1.1.1.2, hwf.1.2, hwf.2⟩

theorem Dom.listed_vtype {d : Dom} {vals : List Val} (h : d.listed = some vals) (hwf : d.wfb = true)
    {v : Val} (hv : v ∈ vals) : v.vtype = d.vtype := by
  cases vals with
  | nil => cases hv
  | cons a rest =>
    rw [sameTypes_mem (Dom.wfb_listed h hwf).1 hv]
    cases d <;> cases h <;> rfl

theorem member_vtype (d : Dom) (hwf : d.wfb = true) (v : Val) (hm : d.member v = true) :
    v.vtype = d.vtype := by
  cases hl : d.listed with
  | some vals => exact Dom.listed_vtype hl hwf ((Dom.member_listed hl v).1 hm)
  | none =>
    cases d with
    | cat cats o =>
      cases cats with
      | nil => cases hm
      | cons a rest =>
        simp only [Dom.wfb, Bool.and_eq_true] at hwf
        exact sameTypes_mem hwf.2 (List.contains_iff_mem.1 hm)
    | int => cases v with | int => rfl | _ => cases hm
    | float => cases v with | rat => rfl | nzero => rfl | _ => cases hm
    | _ => cases hl

theorem coerce_same (v : Val) : coerce v.vtype v = .ok v := by
  cases v <;> rfl

theorem Dom.cast_listed {d : Dom} {vals : List Val} (h : d.listed = some vals)
    {v : Val} {hint : Option Nat} {w : Val} (hc : d.cast v hint = .ok w) : w ∈ vals := by
  cases d <;> cases h
  all_goals
    simp only [Dom.cast] at hc
    split at hc
    · cases hc
    · split at hc
      · exact Except.ok.inj hc ▸ List.mem_of_getElem? ‹_›
      · cases hc

/-- **cast is the identity on members** (`cast_config_values` leaves a valid configuration
unchanged) -/
theorem cast_member (d : Dom) (hwf : d.wfb = true) (v : Val) (hm : d.member v = true) :
    d.cast v none = .ok v := by
  cases d with
  | cat cats o =>
    simp only [Dom.cast, ← member_vtype _ hwf v hm, coerce_same]
    exact if_pos hm
  | int => cases v with | int => rfl | _ => cases hm
  | float => cases v with | rat => rfl | nzero => rfl | _ => cases hm
  | _ =>
    have := List.all_eq_true.1 (Dom.wfb_listed rfl hwf).2.1 v ((Dom.member_listed rfl v).1 hm)
    unfold Dom.castFixes at this
    split at this
    · rw [‹Dom.cast _ v none = _›, eq_of_beq this]
    · cases this

theorem matchPart_float_pyEq (lo hi g : Rat) (l : Bool) {v w : Val} (h : Val.pyEq v w = true) :
    (Dom.float lo hi l g).matchPart v = (Dom.float lo hi l g).matchPart w := by
  unfold Val.pyEq at h
  split at h
  · rename_i x y hx hy
    simp only [Dom.matchPart, hx, hy, of_decide_eq_true h]
  · rw [of_decide_eq_true h]

theorem midpoint_cat (cats : List Val) (o : Bool) (hint : Option Nat) (v : Val) :
    (Dom.cat cats o).midpoint hint = .ok v ↔ cats[if o then cats.length / 2 else 0]? = some v := by
  simp only [Dom.midpoint]
  cases cats[if o then cats.length / 2 else 0]? <;> simp

theorem clipInt_between (x : Int) {lo hi : Int} (h : lo ≤ hi) : lo ≤ clipInt x lo hi ∧ clipInt x lo hi ≤ hi := by
  unfold clipInt
  split
  · exact ⟨le_rfl, h⟩
  · split
    · exact ⟨h, le_rfl⟩
    · exact ⟨not_lt.1 ‹_›, not_lt.1 ‹_›⟩

theorem clipRat_between (x : Rat) {lo hi : Rat} (h : lo ≤ hi) : lo ≤ clipRat x lo hi ∧ clipRat x lo hi ≤ hi := by
  unfold clipRat
  split
  · exact ⟨le_rfl, h⟩
  · split
    · exact ⟨h, le_rfl⟩
    · exact ⟨not_lt.1 ‹_›, not_lt.1 ‹_›⟩

theorem clipInt_of_between {x lo hi : Int} (h1 : lo ≤ x) (h2 : x ≤ hi) : clipInt x lo hi = x :=
  (if_neg (not_lt.2 h1)).trans (if_neg (not_lt.2 h2))

theorem clipRat_of_between {x lo hi : Rat} (h1 : lo ≤ x) (h2 : x ≤ hi) : clipRat x lo hi = x :=
  (if_neg (not_lt.2 h1)).trans (if_neg (not_lt.2 h2))

theorem mid_between {lo hi : Rat} (h : lo ≤ hi) : lo ≤ 1 / 2 * (hi + lo) ∧ 1 / 2 * (hi + lo) ≤ hi := by
  constructor <;> linarith

/-- `Dom.member` on an `Integer` or `Float` domain is `decide (lo ≤ x) && decide (x ≤ hi)`; this
reads it as the two bounds -/
theorem decide_and_true {p q : Prop} [Decidable p] [Decidable q] : (decide p && decide q) = true ↔ p ∧ q := by
  rw [← Bool.decide_and, decide_eq_true_iff]

theorem midpoint_member (d : Dom) (hwf : d.wfb = true) (hint : Option Nat) (v : Val)
    (h : d.midpoint hint = .ok v) : d.member v = true := by
  cases d with
  | cat cats o =>
    simp only [Dom.midpoint] at h
    split at h
    · exact List.contains_iff_mem.2 (Except.ok.inj h ▸ List.mem_of_getElem? ‹_›)
    · cases h
  | int lo hi l g =>
    obtain rfl := Except.ok.inj h
    exact decide_and_true.2 (clipInt_between _ (of_decide_eq_true hwf))
  | float lo hi l g =>
    obtain rfl := Except.ok.inj h
    exact decide_and_true.2 (clipRat_between _ (of_decide_eq_true hwf))
  | _ =>
    -- the cast answers a listed value, which clipping leaves alone
    simp only [Dom.midpoint] at h
    split at h
    · cases h
    · split at h
      · cases h
      · have hm := Dom.cast_listed rfl ‹_›
        have := List.all_eq_true.1 (Dom.wfb_listed rfl hwf).2.2 _ hm
        simp only [Dom.clipFixes, ‹Dom.numBounds _ = _›, beq_iff_eq] at this
        rw [← Except.ok.inj h, this]
        exact (Dom.member_listed rfl _).2 hm

theorem ite_ok_eq {ε α} {p : Prop} [Decidable p] {a b : α} {e : ε}
    (h : (if p then Except.ok a else Except.error e) = Except.ok b) : p ∧ a = b := by
  split at h
  · exact ⟨‹p›, Except.ok.inj h⟩
  · cases h

theorem defaultValue_member (d : Dom) (given v : Val) (h : d.defaultValue given = .ok v) :
    d.member v = true := by
  unfold Dom.defaultValue at h
  cases hc : d.cast given none with
  | error e => rw [hc] at h; cases h
  | ok w =>
    rw [hc] at h
    cases d with
    | cat cats o => obtain ⟨hr, rfl⟩ := ite_ok_eq h; exact hr
    | nn cats l g => obtain ⟨hr, rfl⟩ := ite_ok_eq h; exact hr
    | int lo hi l g =>
      cases w with
      | int i => obtain ⟨hr, rfl⟩ := ite_ok_eq h; exact decide_and_true.2 hr
      | _ => cases h
    | float lo hi l g =>
      cases w with
      | rat q => obtain ⟨hr, rfl⟩ := ite_ok_eq h; exact decide_and_true.2 hr
      | nzero => obtain ⟨hr, rfl⟩ := ite_ok_eq h; exact decide_and_true.2 hr
      | _ => cases h
    | fin vals lo hi l g raw =>
      have hm := Dom.cast_listed (d := .fin vals lo hi l g raw) rfl hc
      dsimp only at h
      split at h
      · obtain ⟨-, rfl⟩ := ite_ok_eq h
        exact (Dom.member_listed rfl w).2 hm
      · cases h

/-- every entry of an imputed configuration: the key of the space, and either the user's
value (cast, checked) or the mid-point default; all are members -/
theorem imputeDefault_spec (point : Config) (hints : List (String × Nat)) (hps : List (String × Dom)) :
    ∀ (c : Config), (∀ kd ∈ hps, kd.2.wfb = true) →
      imputeDefault point hints hps = .ok c → HpValid hps c ∧
      (∀ k d, (k, d) ∈ hps → ∃ v, (k, v) ∈ c ∧
        (match cget k point with
         | some given => d.defaultValue given = .ok v
         | none => d.midpoint (hints.lookup k) = .ok v)) := by
  fun_induction imputeDefault point hints hps with
  | case1 => exact fun _ _ h => Except.ok.inj h ▸ ⟨trivial, fun _ _ h => nomatch h⟩
  | case2 k d hps here v r _ hv ih =>
    intro _ hwf h
    obtain rfl := Except.ok.inj h
    obtain ⟨ih1, ih2⟩ := ih r (fun kd hk => hwf kd (.tail _ hk)) ‹_›
    simp only [here] at hv
    have hmem : d.member v = true := by
      split at hv
      · exact defaultValue_member d _ v hv
      · exact midpoint_member d (hwf _ (.head _)) _ v hv
    refine ⟨⟨rfl, hmem, ih1⟩, fun k2 d2 hm => ?_⟩
    rcases List.mem_cons.1 hm with heq | hm
    · obtain ⟨rfl, rfl⟩ := Prod.mk.inj heq
      exact ⟨v, .head _, by revert hv; cases cget k2 point <;> exact id⟩
    · obtain ⟨w, hw, hx⟩ := ih2 k2 d2 hm
      exact ⟨w, .tail _ hw, hx⟩
  | _ => exact fun _ _ h => nomatch h

/-- the list with every later occurrence of an earlier element removed -/
def firstOcc : List Config → List Config
  | [] => []
  | c :: cs => c :: (firstOcc cs).filter (fun x => decide (x ≠ c))

theorem dedupLoop_eq (cs seen : List Config) :
    dedupLoop cs seen = (firstOcc cs).filter (fun x => decide (x ∉ seen)) := by
  fun_induction dedupLoop cs seen with
  | case1 => rfl
  | case2 c cs seen hc ih =>
    rw [ih, firstOcc, List.filter_cons, if_neg (mt of_decide_eq_true (not_not_intro hc)), List.filter_filter]
    exact List.filter_congr fun x _ => Bool.eq_iff_iff.2 <| by
      simp only [Bool.and_eq_true, decide_eq_true_eq]
      exact ⟨fun h => ⟨h, fun e => h (e ▸ hc)⟩, And.left⟩
  | case3 c cs seen hc ih =>
    rw [ih, firstOcc, List.filter_cons, if_pos (decide_eq_true hc), List.filter_filter]
    exact congrArg _ <| List.filter_congr fun x _ => Bool.eq_iff_iff.2 <| by
      simp only [Bool.and_eq_true, decide_eq_true_eq, List.mem_cons, not_or, and_comm]

theorem firstOcc_sublist : ∀ cs : List Config, (firstOcc cs).Sublist cs
  | [] => .slnil
  | c :: cs => ((List.filter_sublist).trans (firstOcc_sublist cs)).cons_cons c

theorem mem_firstOcc : ∀ (cs : List Config) (x : Config), x ∈ firstOcc cs ↔ x ∈ cs
  | [], x => by simp [firstOcc]
  | c :: cs, x => by
    simp only [firstOcc, List.mem_cons, List.mem_filter, decide_eq_true_eq, mem_firstOcc cs x]
    by_cases h : x = c <;> simp [h]

theorem firstOcc_nodup : ∀ cs : List Config, (firstOcc cs).Nodup
  | [] => .nil
  | c :: cs => List.nodup_cons.2 ⟨by simp, (firstOcc_nodup cs).filter _⟩

theorem imputeAll_spec (hints : List (String × Nat)) (hps : List (String × Dom)) (pts : List Config) :
    ∀ (all : List Config), imputeAll hints hps pts = .ok all →
      all.length = pts.length ∧
      ∀ (i : Nat) (p : Config), pts[i]? = some p → ∃ c, all[i]? = some c ∧ imputeDefault p hints hps = .ok c := by
  fun_induction imputeAll hints hps pts with
  | case1 => exact fun _ h => Except.ok.inj h ▸ ⟨rfl, fun _ _ h => nomatch h⟩
  | case2 p ps c r hr hc ih =>
    intro _ h
    obtain rfl := Except.ok.inj h
    obtain ⟨ihl, ih⟩ := ih r hr
    refine ⟨congrArg (· + 1) ihl, fun i q hq => ?_⟩
    cases i with
    | zero => exact ⟨c, rfl, Option.some.inj hq ▸ hc⟩
    | succ i => exact ih i q hq
  | _ => exact fun _ h => nomatch h

/-- `impute_points_to_evaluate`: the imputed points (one per given point, `None ↦ [{}]`) with
later duplicates removed -/
theorem imputePoints_eq {sp : Space} {hints : List (String × Nat)} {p2e : Option (List Config)}
    {cs : List Config} (h : imputePoints sp hints p2e = .ok cs) :
    ∃ all, imputeAll hints (hpEntries sp) (p2e.getD [[]]) = .ok all ∧ cs = firstOcc all := by
  unfold imputePoints at h
  cases ha : imputeAll hints (hpEntries sp) (p2e.getD [[]]) with
  | error e => simp [ha] at h
  | ok all => exact ⟨all, rfl, by simpa [ha, dedupLoop_eq, eq_comm] using h⟩

theorem imputePoints_valid (sp : Space) (hwf : Space.wfb sp = true) (hints : List (String × Nat))
    (p2e : Option (List Config)) (cs : List Config) (h : imputePoints sp hints p2e = .ok cs) :
    ∀ c ∈ cs, HpValid (hpEntries sp) c := by
  obtain ⟨all, ha, rfl⟩ := imputePoints_eq h
  obtain ⟨hl, hi⟩ := imputeAll_spec hints (hpEntries sp) _ all ha
  intro c hc
  obtain ⟨i, hi', rfl⟩ := List.mem_iff_getElem.1 ((mem_firstOcc all c).1 hc)
  obtain ⟨c', hc1, hc2⟩ := hi i _ (List.getElem?_eq_getElem (hl ▸ hi'))
  obtain rfl := Option.some.inj ((List.getElem?_eq_getElem hi').symm.trans hc1)
  exact (imputeDefault_spec _ hints (hpEntries sp) _ (Space.wfb_iff.1 hwf).1 hc2).1

/-- the entries of `c` for the keys of the space, in the order of the space -/
def onSpace (c : Config) : Space → Config
  | [] => []
  | (k, _) :: sp =>
    match cget k c with
    | some v => (k, v) :: onSpace c sp
    | none => onSpace c sp

theorem castConfigValues_onSpace (c : Config) (sp : Space) :
    (∀ k d v, (k, Entry.dom d) ∈ sp → cget k c = some v → d.cast v none = .ok v) →
    castConfigValues c sp = .ok (onSpace c sp) := by
  fun_induction onSpace c sp with
  | case1 => exact fun _ => rfl
  | case2 k e sp v hc ih =>
    intro h
    have ih := ih fun k d v hm => h k d v (.tail _ hm)
    cases e with
    | const w => simp only [castConfigValues, hc, ih]
    | dom d => simp only [castConfigValues, hc, h k d v (.head _) hc, ih]
  | case3 k e sp hc ih =>
    intro h
    simp only [castConfigValues, hc]
    exact ih fun k d v hm => h k d v (.tail _ hm)

theorem cget_onSpace (c : Config) (sp : Space) (k : String) :
    cget k (onSpace c sp) = if k ∈ sp.map Prod.fst then cget k c else none := by
  fun_induction onSpace c sp with
  | case1 => rfl
  | case2 k0 e sp v hc ih =>
    by_cases hk : k = k0
    · subst hk; exact (cget_cons_self _ _ _).trans (hc.symm.trans (if_pos List.mem_cons_self).symm)
    · rw [cget_cons_ne _ _ hk, ih]; exact if_congr ⟨List.mem_cons_of_mem _, fun h => (List.mem_cons.1 h).resolve_left hk⟩ rfl rfl
  | case3 k0 e sp hc ih =>
    by_cases hk : k = k0
    · subst hk; rw [ih, hc, ite_self, ite_self]
    · rw [ih]; exact if_congr ⟨List.mem_cons_of_mem _, fun h => (List.mem_cons.1 h).resolve_left hk⟩ rfl rfl

/-- value of key `k` after merging into the space; `.int 0` stands for a hyperparameter missing from
`cc`, which `mergeSpace_spec` rules out by hypothesis -/
def fillVal (cc : Config) (k : String) (e : Entry) : Val :=
  match cget k cc with
  | some v => v
  | none => match e with
    | .const w => w
    | .dom _ => .int 0

theorem mergeSpace_spec (cc : Config) (sp : Space) :
    (∀ k d, (k, Entry.dom d) ∈ sp → (cget k cc).isSome = true) →
    mergeSpace cc sp = .ok (sp.map fun ke => (ke.1, fillVal cc ke.1 ke.2)) := by
  induction sp with
  | nil => exact fun _ => rfl
  | cons ke sp ih =>
    obtain ⟨k, e⟩ := ke
    intro h
    simp only [mergeSpace, ih fun k d hm => h k d (.tail _ hm), List.map_cons, fillVal]
    cases hc : cget k cc with
    | some v => rfl
    | none =>
      cases e with
      | const w => rfl
      | dom d => exact absurd (h k d (.head _)) (by rw [hc]; nofun)

theorem cget_map_fill (f : String → Entry → Val) (sp : Space) (k : String) (e : Entry) :
    (sp.map Prod.fst).Nodup → (k, e) ∈ sp → cget k (sp.map fun ke => (ke.1, f ke.1 ke.2)) = some (f k e) := by
  induction sp with
  | nil => exact fun _ h => nomatch h
  | cons ke sp ih =>
    intro hn h
    have hn := List.nodup_cons.1 hn
    rcases List.mem_cons.1 h with rfl | hm
    · exact cget_cons_self _ _ _
    · exact (cget_cons_ne _ _ fun e' => hn.1 (List.mem_map.2 ⟨(k, e), hm, e'⟩)).trans (ih hn.2 hm)

/-- `FIFOScheduler._suggest` + `TrialScheduler.suggest` on a configuration that gives every
hyperparameter a member of its domain (`C06.keys_types_members` says it in full) -/
theorem schedulerConfig_valid (sp : Space) (hwf : Space.wfb sp = true) (c : Config)
    (hv : ValidOn (hpEntries sp) c) :
    ∃ full, schedulerConfig sp c = .ok full ∧ FullValid sp c full := by
  obtain ⟨hw, hn⟩ := Space.wfb_iff.1 hwf
  have hdom : ∀ k d, (k, Entry.dom d) ∈ sp → ∃ v, cget k c = some v ∧ d.member v = true ∧ d.wfb = true :=
    fun k d hm =>
      have hm' := (mem_hpEntries sp k d).2 hm
      let ⟨v, hv1, hv2⟩ := hv k d hm'
      ⟨v, hv1, hv2, hw (k, d) hm'⟩
  have hkey : ∀ {k e}, (k, e) ∈ sp → k ∈ sp.map Prod.fst := fun hm => List.mem_map.2 ⟨_, hm, rfl⟩
  -- casting leaves a configuration alone whose values at the keys of the space are `c`'s
  have hcast : ∀ c', (∀ k, k ∈ sp.map Prod.fst → cget k c' = cget k c) →
      castConfigValues c' sp = .ok (onSpace c' sp) ∧ ∀ k, k ∈ sp.map Prod.fst → cget k (onSpace c' sp) = cget k c :=
    fun c' hc' => ⟨castConfigValues_onSpace c' sp fun k d v hm hc => by
      obtain ⟨v', hv1, hv2, hv3⟩ := hdom k d hm
      obtain rfl := Option.some.inj (hv1.symm.trans ((hc' k (hkey hm)).symm.trans hc))
      exact cast_member d hv3 v' hv2, fun k hk => ((cget_onSpace c' sp k).trans (if_pos hk)).trans (hc' k hk)⟩
  obtain ⟨h1, hcc⟩ := hcast c fun _ _ => rfl
  obtain ⟨h2, hcc2⟩ := hcast (onSpace c sp) hcc
  have h3 := mergeSpace_spec (onSpace (onSpace c sp) sp) sp fun k d hm => by
    obtain ⟨v, hv1, _⟩ := hdom k d hm
    rw [hcc2 k (hkey hm), hv1]; rfl
  refine ⟨_, by simp only [schedulerConfig, postprocess, h1, h2, h3], by simp [List.map_map, Function.comp_def],
    fun k e hm => ⟨_, cget_map_fill (fillVal (onSpace (onSpace c sp) sp)) sp k e hn hm, ?_⟩⟩
  simp only [fillVal, hcc2 k (hkey hm)]
  cases e with
  | dom d =>
    obtain ⟨v, hv1, hv2, hv3⟩ := hdom k d hm
    simp only [hv1]
    exact ⟨hv2, member_vtype d hv3 v hv2⟩
  | const w => cases cget k c <;> rfl

/-- the perturbation branch of `_explore` (`cast(clip(value * multiplier))`) yields a member
of the domain, for every old value and every multiplier -/
theorem perturb_member (d : Dom) (hwf : d.wfb = true) (hnum : d.isNumerical = true) (old : Val)
    (mult : Rat) (hint : Option Nat) (w : Val) (h : perturb d old mult hint = .ok w) :
    d.member w = true := by
  unfold perturb at h
  cases hx : old.num? with
  | none => rw [hx] at h; cases h
  | some x =>
    simp only [hx] at h
    cases d with
    | cat => cases hnum
    | nn => cases hnum
    | fin vals lo hi l g raw =>
      refine (Dom.member_listed rfl w).2 ?_
      split at h <;> exact Dom.cast_listed (d := .fin vals lo hi l g raw) rfl h
    | int lo hi l g =>
      split at h
      · obtain rfl := Except.ok.inj h
        exact decide_and_true.2 ⟨Int.cast_nonpos.1 ‹_ ∧ _ ∧ _›.2.1, Int.cast_nonneg_iff.1 ‹_ ∧ _ ∧ _›.2.2⟩
      · obtain rfl := Except.ok.inj h
        have := clipRat_between (x * mult) (Int.cast_le.2 (of_decide_eq_true hwf))
        exact decide_and_true.2 ⟨rhe_ge_of_le this.1, rhe_le_of_le this.2⟩
    | float lo hi l g =>
      split at h
      · obtain rfl := Except.ok.inj h
        exact decide_and_true.2 ‹_ ∧ _ ∧ _›.2
      · obtain rfl := Except.ok.inj h
        exact decide_and_true.2 (clipRat_between (x * mult) (of_decide_eq_true hwf))

/-- result of the explore loop, entry by entry: the key of the space, and a value that is a
member of its domain or literally a value the domain's sampler returned (tape) -/
def ExploreOK : List (String × Dom) → Config → List Draw → Prop
  | [], [], _ => True
  | (k, d) :: hps, (k', w) :: upd, tape =>
    k = k' ∧ (d.member w = true ∨ Draw.v w ∈ tape) ∧ ExploreOK hps upd tape
  | _, _, _ => False

/-- stated for a tape `tape0` that holds every draw of the tape `tape` the loop reads, so that the
induction can shorten `tape` and keep `tape0` -/
theorem exploreLoop_ok (kc : PbtConst) (old : Config) (hints : List (String × Nat)) (tape0 : List Draw)
    (hps : List (String × Dom)) (tape : List Draw) :
    ∀ (upd : Config) (rest : List Draw), (∀ kd ∈ hps, kd.2.wfb = true) → (∀ x ∈ tape, x ∈ tape0) →
      exploreLoop kc old hints hps tape = .ok (upd, rest) → ExploreOK hps upd tape0 := by
  fun_induction exploreLoop kc old hints hps tape with
  | case1 => exact fun _ _ _ _ h => (Prod.mk.inj (Except.ok.inj h)).1 ▸ trivial
  -- a numerical hyperparameter, resampled: the value is on the tape
  | case2 key d hps _ u1 _ w tape2 r t hr ih =>
    exact fun _ _ hwf hsub h => (Prod.mk.inj (Except.ok.inj h)).1 ▸
      ⟨rfl, Or.inr (hsub _ (.tail _ (.head _))), ih r t (fun kd hk => hwf kd (.tail _ hk))
        (fun x hx => hsub x (.tail _ (.tail _ hx))) hr⟩
  -- perturbed
  | case7 key d hps hnum u1 _ u2 tape2 ov _ w hp r t hr ih =>
    exact fun _ _ hwf hsub h => (Prod.mk.inj (Except.ok.inj h)).1 ▸
      ⟨rfl, Or.inl (perturb_member d (hwf _ (.head _)) hnum _ _ _ _ hp), ih r t (fun kd hk => hwf kd (.tail _ hk))
        (fun x hx => hsub x (.tail _ (.tail _ hx))) hr⟩
  -- not numerical: sampled
  | case11 key d hps _ w tape1 r t hr ih =>
    exact fun _ _ hwf hsub h => (Prod.mk.inj (Except.ok.inj h)).1 ▸
      ⟨rfl, Or.inr (hsub _ (.head _)), ih r t (fun kd hk => hwf kd (.tail _ hk)) (fun x hx => hsub x (.tail _ hx)) hr⟩
  | _ => exact fun _ _ _ _ h => nomatch h

end SyneTune.Srch
