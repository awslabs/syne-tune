import SyneTune.Lemmas.TunerLifecycle
import SyneTune.Lemmas.TunerCkpt
import SyneTune.Lemmas.TunerPolled
/-
Executable versions of the environment contracts, with soundness lemmas: on a concrete answer
list `Along BOk`, `Along KOk`, … are established by evaluation.  Used by the `_counterexample`
theorems (a witness must satisfy the contracts that the partial theorem keeps).
`noCall` is not a contract: "no call of the log passes the test", for the counterexamples that say a call never comes.
-/
namespace SyneTune.Tuner
open SyneTune AL

def bOkB (s : LState) (a : Ans) : Bool :=
  match a with
  | .poll sd _ => s.pc != .fetch ||
      (decide (keys sd).Nodup && sd.all (fun kv => decide (kv.1 ∈ s.running) && kv.2 != .paused))
  | _ => true

def kOkB (s : LState) (a : Ans) : Bool :=
  match a with
  | .sugg (.resume id _) => s.pc != .suggest || alookup id s.kst == some .paused
  | _ => true

def ncOkB (s : LState) (a : Ans) : Bool :=
  match a with
  | .decision d _ => s.pc != .decision || d == .continue ||
      (alookup s.cur.tid s.sd != some .failed && (d != .pause || alookup s.cur.tid s.sd != some .stopped))
  | _ => true

def k2OkB (s : LState) (a : Ans) : Bool :=
  match a with
  | .sugg (.resume id _) => s.pc != .suggest || !s.removableSaid.contains id
  | _ => true

def srcOkB (s : LState) (a : Ans) : Bool :=
  match a with
  | .sugg (.start _ (some src)) => s.pc != .suggest || (!s.schedStopped.contains src && !s.removableSaid.contains src)
  | _ => true

def rebindOkB (s : LState) (a : Ans) : Bool :=
  match a with
  | .ids l => s.pc != .busy || decide (s.running.length ≤ l.length)
  | _ => true

def alongB (p : LState → Ans → Bool) : LState → List Ans → Bool
  | _, [] => true
  | s, a :: as => p s a && alongB p (step s a) as

theorem along_of {p : LState → Ans → Bool} {P : LState → Ans → Prop} (hp : ∀ s a, p s a = true → P s a) :
    ∀ {s : LState} {as : List Ans}, alongB p s as = true → Along P s as := by
  intro s as
  induction as generalizing s with
  | nil => intro _; trivial
  | cons a as ih =>
    intro h
    simp only [alongB, Bool.and_eq_true] at h
    exact ⟨hp _ _ h.1, ih h.2⟩

theorem bOk_of (s : LState) (a : Ans) (h : bOkB s a = true) : BOk s a := by
  intro hp sd res ha
  subst ha
  simp only [bOkB, hp, bne_self_eq_false, Bool.false_or, Bool.and_eq_true, decide_eq_true_eq, List.all_eq_true,
    bne_iff_ne, ne_eq] at h
  exact ⟨h.1, fun kv hkv => h.2 kv hkv⟩

theorem kOk_of (s : LState) (a : Ans) (h : kOkB s a = true) : KOk s a := by
  intro hp id cfg ha
  subst ha
  simpa [kOkB, hp] using h

theorem ncOk_of (s : LState) (a : Ans) (h : ncOkB s a = true) : NCOk s a := by
  intro hp d m ha hd
  subst ha
  simp only [ncOkB, hp, bne_self_eq_false, Bool.false_or, Bool.or_eq_true, beq_iff_eq, Bool.and_eq_true, bne_iff_ne,
    ne_eq] at h
  rcases h with h | h
  · exact absurd h hd
  · refine ⟨h.1, fun hpz => ?_⟩
    rcases h.2 with h2 | h2
    · exact absurd hpz h2
    · exact h2

theorem k2Ok_of (s : LState) (a : Ans) (h : k2OkB s a = true) : K2Ok s a := by
  intro hp id cfg ha
  subst ha
  simpa [k2OkB, hp] using h

theorem srcOk_of (s : LState) (a : Ans) (h : srcOkB s a = true) : SrcOk s a := by
  intro hp cfg src ha
  subst ha
  simpa [srcOkB, hp] using h

theorem rebindOk_of (s : LState) (a : Ans) (h : rebindOkB s a = true) : RebindOk s a := by
  intro hp l ha
  subst ha
  simpa [rebindOkB, hp] using h

def noCall (p : Call → Bool) (l : List Call) : Bool := l.all (fun c => !p c)

end SyneTune.Tuner
