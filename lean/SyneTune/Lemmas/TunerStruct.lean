import SyneTune.Lemmas.TunerCount
import SyneTune.Lemmas.TunerStats
/-
Structural invariant of the tuning-loop machine under the backend contract `B` (poll answers
have distinct keys, all of them running trials, never status `paused`):
bookkeeping of `trial_status_dict`, `done_trials` and the progress of the second loop of
`_update_running_trials`; failed trials are named in `done_trials_statuses`.
With it, what `_handle_failure` needs to name a failed trial (C13 loop side, `abort_names_failed`): `firstFailed` in
closed form, and `LNInv`, the tuning status records every trial once; `LNInv` needs no contract and its step goes
through the counters' view of a transition, which is why `TunerCount` is imported here.
-/
namespace SyneTune.Tuner
open SyneTune AL

/-- control points at which the registers `sd` (`trial_status_dict`) and `done` are live -/
def updPc : Pc → Bool
  | .cbFetch | .nextRes | .decision | .cbResult | .stopCmd | .stopDel | .removeS | .pauseCmd | .removeP
  | .second | .stdoutNM | .stderrNM | .completeS | .completeCb | .errorS | .afterUpd => true
  | _ => false

/-- a result is being handled (`cur`) -/
def curResPc : Pc → Bool
  | .decision | .cbResult | .stopCmd | .stopDel | .removeS | .pauseCmd | .removeP => true
  | _ => false

/-- an item of `trial_status_dict` is being handled (`t`) -/
def curItemPc : Pc → Bool
  | .stdoutNM | .stderrNM | .completeS | .completeCb | .errorS => true
  | _ => false

/-- first loop of `_update_running_trials` -/
def firstPc : Pc → Bool
  | .cbFetch | .nextRes | .decision | .cbResult | .stopCmd | .stopDel | .removeS | .pauseCmd | .removeP => true
  | _ => false

/-- **contract B** (backend) on the answers to `fetch_status_results`: one status per polled
trial, only for trials that were asked for, never `paused` (a running trial is not paused
behind the loop's back). -/
def BOk (s : LState) (a : Ans) : Prop :=
  s.pc = .fetch → ∀ sd res, a = .poll sd res → (keys sd).Nodup ∧ ∀ kv ∈ sd, kv.1 ∈ s.running ∧ kv.2 ≠ .paused

/-- the items `pre` of `trial_status_dict` have been through the second loop -/
def Processed (s : LState) (pre : List (Nat × St)) : Prop :=
  ∀ kv ∈ pre, (kv.2 = .failed → alookup kv.1 s.done = some .failed) ∧ (kv.2 = .completed → kv.1 ∈ keys s.done)
    ∧ (kv.2 = .stopped → kv.1 ∉ s.schedStopped → kv.1 ∈ keys s.done)

/-- `st`: the polled status of the item being handled -/
def CurOK (s : LState) (st : St) : Prop :=
  (s.pc = .errorS → s.tSt = st ∧ (st = .failed ∨ (st = .stopped ∧ s.t ∉ s.schedStopped)))
  ∧ ((s.pc = .completeS ∨ s.pc = .completeCb) → st = .completed)

/-- The registers of one `_update_running_trials`: `sd` is a dict over running trials, `done` a dict over keys of
`sd`, the trial of the result (`cur`) or item (`item`) in hand is a key of `sd`; `p2`: in the second loop `sd` is
the items already processed followed by those to come, `p2end`: none are left when it ends.  The last three
clauses hold at every control point. -/
structure SInv (s : LState) : Prop where
  sdNodup : updPc s.pc = true → (keys s.sd).Nodup
  sdRun : updPc s.pc = true → ∀ kv ∈ s.sd, kv.1 ∈ s.running ∧ kv.2 ≠ .paused
  doneOK : updPc s.pc = true → (keys s.done).Nodup ∧ ∀ t ∈ keys s.done, t ∈ keys s.sd
  cur : curResPc s.pc = true → s.cur.tid ∈ keys s.sd ∧ s.cur.tid ∉ keys s.done
  p2 : (s.pc = .second ∨ s.pc = .afterUpd) → ∃ pre, s.sd = pre ++ s.items ∧ Processed s pre
  p2end : s.pc = .afterUpd → s.items = []
  item : curItemPc s.pc = true → ∃ pre st, s.sd = pre ++ (s.t, st) :: s.items ∧ Processed s pre ∧ CurOK s st
  doneAllNodup : (keys s.doneAll).Nodup
  failedNamed : ∀ t, alookup t s.status.last = some .failed → alookup t s.doneAll = some .failed
  runLast : ∀ t ∈ s.running, t ∈ keys s.status.last

theorem afterUpdate_not_upd (s : LState) : updPc (afterUpdate s).pc = false := afterUpdate_pc_not (by decide) s

theorem curRes_upd : ∀ p : Pc, curResPc p = true → updPc p = true := Pc.forall (by decide +kernel)
theorem curItem_upd : ∀ p : Pc, curItemPc p = true → updPc p = true := Pc.forall (by decide +kernel)
theorem first_upd : ∀ p : Pc, firstPc p = true → updPc p = true := Pc.forall (by decide +kernel)
theorem curRes_first : ∀ p : Pc, curResPc p = true → firstPc p = true := Pc.forall (by decide +kernel)
theorem first_not_item : ∀ p : Pc, firstPc p = true → curItemPc p = false := Pc.forall (by decide +kernel)

/-! `SInv` = `SBase` (holds at every control point) ∧ `Dicts` (while `_process_new_results` runs) ∧ the
progress of whichever of the two loops is running.  `SBase` is a plain conjunction (`doneAllNodup`, `failedNamed`,
`runLast`, in this order) and not a structure, so that it carries over by `exact` to a state that differs in other
fields only; `Dicts` speaks of the three fields themselves. -/

def SBase (s : LState) : Prop :=
  (keys s.doneAll).Nodup ∧ (∀ t, alookup t s.status.last = some .failed → alookup t s.doneAll = some .failed)
    ∧ ∀ t ∈ s.running, t ∈ keys s.status.last

structure Dicts (sd : List (Nat × St)) (running : List Nat) (done : List (Nat × St)) : Prop where
  sdNodup : (keys sd).Nodup
  sdRun : ∀ kv ∈ sd, kv.1 ∈ running ∧ kv.2 ≠ .paused
  doneNodup : (keys done).Nodup
  doneSub : ∀ t ∈ keys done, t ∈ keys sd

theorem SInv.base {s : LState} (h : SInv s) : SBase s := ⟨h.doneAllNodup, h.failedNamed, h.runLast⟩

theorem SInv.dicts {s : LState} (h : SInv s) {p : Pc} (hpc : s.pc = p) (hp : updPc p = true) :
    Dicts s.sd s.running s.done :=
  have hu : updPc s.pc = true := by rw [hpc]; exact hp
  ⟨h.sdNodup hu, h.sdRun hu, (h.doneOK hu).1, (h.doneOK hu).2⟩

theorem SInv.curAt {s : LState} (h : SInv s) {p : Pc} (hpc : s.pc = p) (hp : curResPc p = true) :
    s.cur.tid ∈ keys s.sd ∧ s.cur.tid ∉ keys s.done :=
  h.cur (by rw [hpc]; exact hp)

theorem Dicts.insert {sd done : List (Nat × St)} {running : List Nat} (d : Dicts sd running done) {t : Nat}
    (ht : t ∈ keys sd) (v : St) : Dicts sd running (aset t v done) := by
  refine ⟨d.sdNodup, d.sdRun, nodup_keys_aset _ _ d.doneNodup, fun k hk => ?_⟩
  rcases (mem_keys_aset _ _ _ _).mp hk with rfl | hk
  · exact ht
  · exact d.doneSub k hk

theorem SInv.outside {s : LState} (b : SBase s) (hp : updPc s.pc = false) : SInv s := by
  have hnu : ∀ {P : Prop}, updPc s.pc = true → P := fun hc => by rw [hp] at hc; cases hc
  refine ⟨hnu, hnu, hnu, fun hc => hnu (curRes_upd _ hc), ?_, ?_, fun hc => hnu (curItem_upd _ hc), b.1, b.2.1, b.2.2⟩
  · rintro (hc | hc) <;> (rw [hc] at hp; cases hp)
  · intro hc; rw [hc] at hp; cases hp

theorem SInv.inFirst {s : LState} (b : SBase s) (d : Dicts s.sd s.running s.done) (hp : firstPc s.pc = true)
    (hc : curResPc s.pc = true → s.cur.tid ∈ keys s.sd ∧ s.cur.tid ∉ keys s.done) : SInv s := by
  refine ⟨fun _ => d.sdNodup, fun _ => d.sdRun, fun _ => ⟨d.doneNodup, d.doneSub⟩, hc, ?_, ?_, ?_, b.1, b.2.1, b.2.2⟩
  · rintro (hc | hc) <;> (rw [hc] at hp; cases hp)
  · intro hc; rw [hc] at hp; cases hp
  · intro hc; rw [first_not_item _ hp] at hc; cases hc

theorem SInv.atSecond {s : LState} (b : SBase s) (d : Dicts s.sd s.running s.done) (hp : s.pc = .second)
    (pre : List (Nat × St)) (hsd : s.sd = pre ++ s.items) (hpre : Processed s pre) : SInv s := by
  refine ⟨fun _ => d.sdNodup, fun _ => d.sdRun, fun _ => ⟨d.doneNodup, d.doneSub⟩, ?_, fun _ => ⟨pre, hsd, hpre⟩, ?_, ?_, b.1, b.2.1, b.2.2⟩
  all_goals (intro hc; rw [hp] at hc; cases hc)

theorem SInv.atItem {s : LState} (b : SBase s) (d : Dicts s.sd s.running s.done) (hp : curItemPc s.pc = true)
    (pre : List (Nat × St)) (st : St) (hsd : s.sd = pre ++ (s.t, st) :: s.items) (hpre : Processed s pre)
    (hcur : CurOK s st) : SInv s := by
  refine ⟨fun _ => d.sdNodup, fun _ => d.sdRun, fun _ => ⟨d.doneNodup, d.doneSub⟩, ?_, ?_, ?_, fun _ => ⟨pre, st, hsd, hpre, hcur⟩, b.1, b.2.1, b.2.2⟩
  · intro hc; rw [first_not_item _ (curRes_first _ hc)] at hp; cases hp
  · rintro (hc | hc) <;> (rw [hc] at hp; cases hp)
  · intro hc; rw [hc] at hp; cases hp

theorem Processed.aset {s s' : LState} {pre : List (Nat × St)} {t : Nat} {v : St} (h : Processed s pre)
    (ht : t ∉ keys pre) (hdone : s'.done = aset t v s.done) (hss : s'.schedStopped = s.schedStopped) :
    Processed s' pre := by
  intro kv hkv
  have hne : kv.1 ≠ t := by
    intro hc; apply ht; rw [← hc]; exact List.mem_map.mpr ⟨kv, hkv, rfl⟩
  obtain ⟨h1, h2, h3⟩ := h kv hkv
  rw [hdone, hss]
  refine ⟨fun hf => ?_, fun hc => ?_, fun hst hns => ?_⟩
  · rw [alookup_aset_ne hne]; exact h1 hf
  · exact (mem_keys_aset _ _ _ _).mpr (Or.inr (h2 hc))
  · exact (mem_keys_aset _ _ _ _).mpr (Or.inr (h3 hst hns))

theorem Processed.snoc {s : LState} {pre : List (Nat × St)} {t : Nat} {st : St} (h : Processed s pre)
    (h1 : st = .failed → alookup t s.done = some .failed) (h2 : st = .completed → t ∈ keys s.done)
    (h3 : st = .stopped → t ∉ s.schedStopped → t ∈ keys s.done) : Processed s (pre ++ [(t, st)]) := by
  intro kv hkv
  rcases List.mem_append.mp hkv with hkv | hkv
  · exact h kv hkv
  · simp only [List.mem_singleton] at hkv; subst hkv; exact ⟨h1, h2, h3⟩

theorem not_mem_pre {sd pre items : List (Nat × St)} {t : Nat} {st : St} (hn : (keys sd).Nodup)
    (hsd : sd = pre ++ (t, st) :: items) : t ∉ keys pre ∧ t ∈ keys sd ∧ ∀ kv ∈ items, kv.1 ≠ t := by
  subst hsd
  simp only [keys, List.map_append, List.map_cons] at hn ⊢
  obtain ⟨_, h2, h3⟩ := List.nodup_append.mp hn
  exact ⟨fun hc => h3 t hc t List.mem_cons_self rfl, by simp,
    fun kv hkv hc => (List.nodup_cons.mp h2).1 (hc ▸ List.mem_map.mpr ⟨kv, hkv, rfl⟩)⟩

theorem SInv.secondItem {s s' : LState} (h : SInv s) (hp : s.pc = .second) {t : Nat} {st : St} {rest : List (Nat × St)}
    (hi : s.items = (t, st) :: rest) (i : Item s t rest st s') : SInv s' := by
  obtain ⟨pre, hsd, hpre⟩ := h.p2 (Or.inl hp)
  rw [hi] at hsd
  have d := h.dicts hp rfl
  have hsd' : s.sd = (pre ++ [(t, st)]) ++ rest := by rw [hsd, List.append_assoc]; rfl
  cases i
  case noMetrics | complete | completeCb => exact .atItem h.base d rfl pre .completed hsd hpre ⟨nofun, fun _ => rfl⟩
  case failed => exact .atItem h.base d rfl pre .failed hsd hpre ⟨fun _ => ⟨rfl, .inl rfl⟩, nofun⟩
  case stoppedAlone hns => exact .atItem h.base d rfl pre .stopped hsd hpre ⟨fun _ => ⟨rfl, .inr ⟨rfl, hns⟩⟩, nofun⟩
  case pausedCompleted hd => exact .atSecond h.base d hp _ hsd' (hpre.snoc nofun (fun _ => mem_keys_of_alookup hd) nofun)
  case skip h1 h2 h3 =>
    exact .atSecond h.base d hp _ hsd' (hpre.snoc (absurd · h2) (absurd · h1) fun hc hns => absurd (h3 hc) hns)

/-- the last call about the current item returned: the item enters `done_trials` with the status
`s.tSt`, which is `failed` if the poll said so -/
theorem SInv.itemDone {s : LState} (h : SInv s) {p : Pc} (hpc : s.pc = p) (hp : curItemPc p = true)
    (kst : List (Nat × KSt)) (hv : ∀ st, CurOK s st → st = .failed → s.tSt = .failed) :
    SInv { s with pc := .second, done := aset s.t s.tSt s.done, kst := kst } := by
  obtain ⟨pre, st, hsd, hpre, hcur⟩ := h.item (by rw [hpc]; exact hp)
  have d := h.dicts hpc (curItem_upd _ hp)
  have htk := not_mem_pre d.sdNodup hsd
  have hin : s.t ∈ keys (aset s.t s.tSt s.done) := (mem_keys_aset _ _ _ _).mpr (.inl rfl)
  exact .atSecond h.base (d.insert htk.2.1 _) rfl (pre ++ [(s.t, st)]) (by rw [hsd, List.append_assoc]; rfl)
    (.snoc (hpre.aset htk.1 rfl rfl) (fun hf => by rw [← hv st hcur hf]; exact alookup_aset_self _ _ _)
      (fun _ => hin) (fun _ _ => hin))

theorem afterUpdate_last (s : LState) : (afterUpdate s).status.last = aupdate s.status.last (aupdate s.sd s.done) :=
  update_last _ _ _

theorem mem_afterUpdate_running {s : LState} {t : Nat} : t ∈ (afterUpdate s).running ↔ t ∈ s.running ∧ t ∉ keys s.done := by
  show t ∈ s.running.filter (fun t => !hasKey t s.done) ↔ _
  rw [List.mem_filter, ← hasKey_false_iff]
  cases hasKey t s.done <;> simp

/-- `trial_status_dict.update(done_trials)` rewrites statuses of polled trials: same keys in the same order -/
theorem SInv.updKeys {s : LState} (h : SInv s) (hp : s.pc = .afterUpd) : keys (aupdate s.sd s.done) = keys s.sd :=
  keys_aupdate_of_subset _ _ (h.dicts hp rfl).doneSub

/-- the recorded status of a trial after `tuning_status.update`: what the second loop put into
`done_trials`, else what the poll said, else what was recorded before -/
theorem SInv.lastAfterUpdate {s : LState} (h : SInv s) (hp : s.pc = .afterUpd) (t : Nat) :
    alookup t (afterUpdate s).status.last = (alookup t s.done).or ((alookup t s.sd).or (alookup t s.status.last)) := by
  obtain ⟨hsdn, _, hdn, _⟩ := h.dicts hp rfl
  rw [afterUpdate_last, alookup_aupdate _ _ _ (by rw [h.updKeys hp]; exact hsdn), alookup_aupdate _ _ _ hdn, Option.or_assoc]

theorem SInv.updRecorded {s : LState} (h : SInv s) (hp : s.pc = .afterUpd) :
    ∀ k ∈ keys (aupdate s.sd s.done), k ∈ s.running ∧ k ∈ keys s.status.last := by
  intro k hk
  rw [h.updKeys hp] at hk
  obtain ⟨kv, hkv, rfl⟩ := List.mem_map.mp hk
  have hr := ((h.dicts hp rfl).sdRun kv hkv).1
  exact ⟨hr, h.runLast _ hr⟩

/-- `tuning_status.update` of `_process_new_results` records statuses of running trials, which are recorded already -/
theorem SInv.keysAfterUpdate {s : LState} (h : SInv s) (hp : s.pc = .afterUpd) :
    keys (afterUpdate s).status.last = keys s.status.last := by
  rw [afterUpdate_last]
  exact keys_aupdate_of_subset _ _ fun k hk => (h.updRecorded hp k hk).2

theorem afterUpdate_numStarted {s : LState} (hS : SInv s) (hp : s.pc = .afterUpd) :
    (afterUpdate s).status.numStarted = s.status.numStarted := by
  have := congrArg List.length (hS.keysAfterUpdate hp)
  simpa [keys, TStatus.numStarted] using this

theorem SInv.afterUpdate {s : LState} (h : SInv s) (hp : s.pc = .afterUpd) : SInv (afterUpdate s) := by
  obtain ⟨pre, hsd, hpre⟩ := h.p2 (Or.inr hp)
  rw [h.p2end hp, List.append_nil] at hsd
  refine .outside ⟨nodup_keys_aupdate _ _ h.doneAllNodup, fun t => ?_, fun t ht => ?_⟩
    (afterUpdate_not_upd s)
  · -- `failedNamed`: a trial recorded as failed was polled as failed in this iteration, and then the second loop
    -- put it into `done_trials`, or it was recorded so before
    show _ → alookup t (aupdate s.doneAll s.done) = some St.failed
    rw [h.lastAfterUpdate hp, alookup_aupdate _ _ _ (h.dicts hp rfl).doneNodup]
    cases hd : alookup t s.done with
    | some w => exact id
    | none =>
      cases hs : alookup t s.sd with
      | none => exact h.failedNamed t
      | some v =>
        rintro ⟨⟩
        have := (hpre _ (hsd ▸ mem_of_alookup hs)).1 rfl
        rw [hd] at this; cases this
  · rw [afterUpdate_last]
    exact (mem_keys_aupdate _ _ _).mpr (Or.inl (h.runLast t (mem_afterUpdate_running.mp ht).1))

theorem scheduled_last (s : LState) (t : Nat) : (scheduled s t).status.last = aset t .inProgress s.status.last := by
  rw [scheduled_eq]; exact update_last _ _ _

theorem scheduled_numStarted (s : LState) (t : Nat) :
    (scheduled s t).status.numStarted =
      if t ∈ keys s.status.last then s.status.numStarted else s.status.numStarted + 1 := by
  unfold TStatus.numStarted; rw [scheduled_last, length_aset]

theorem mem_scheduled_running {s : LState} {t t' : Nat} (h : t' ∈ (scheduled s t).running) : t' = t ∨ t' ∈ s.running := by
  rw [scheduled_running] at h
  split at h
  · exact (mem_sadd _ _ _).mp h
  · exact Or.inr h

theorem SInv.scheduled {s : LState} (h : SInv s) (t : Nat) : SInv (scheduled s t) := by
  rw [scheduled_eq]
  refine .outside ⟨h.doneAllNodup, fun t' ht' => ?_, fun t' ht' => ?_⟩ rfl
  · have ht' : alookup t' (aset t .inProgress s.status.last) = some .failed := ht'
    rw [alookup_aset] at ht'
    split at ht'
    · cases ht'
    · exact h.failedNamed t' ht'
  · apply (mem_keys_aset t t' St.inProgress s.status.last).mpr
    exact (mem_scheduled_running ht').imp_right (h.runLast t')

theorem SInv.polled {s : LState} (h : SInv s) (sd : List (Nat × St)) (res : List Res) (bst : List (Nat × St))
    (hB : (keys sd).Nodup ∧ ∀ kv ∈ sd, kv.1 ∈ s.running ∧ kv.2 ≠ .paused) :
    SInv { s with pc := .cbFetch, sd := sd, allRes := res, rest := res, done := [], bst := bst } :=
  .inFirst h.base ⟨hB.1, hB.2, List.nodup_nil, nofun⟩ rfl nofun

theorem SInv_trans {s s' : LState} {a : Ans} (h : SInv s) (t : Trans s a s') (hB : BOk s a) : SInv s' := by
  cases t
  case poll hpc => exact h.polled _ _ _ (hB hpc _ _ rfl)
  -- the first loop: `sd`, `done` and the trial of the current result stay
  case skipResult hpc _ _ =>
    exact .inFirst h.base (h.dicts hpc rfl) (by show firstPc s.pc = true; rw [hpc]; rfl) (fun hc => h.cur hc)
  case decidedNew hpc | decided hpc | cbPause hpc _ | stopDeleted hpc | paused hpc | cbStop hpc _ _ | cbStopCompleted hpc _ _
      | stopped hpc _ | stoppedKeep hpc _ =>
    exact .inFirst h.base (h.dicts hpc rfl) rfl fun _ => h.curAt hpc rfl
  case cbContinue hpc _ => exact .inFirst h.base (h.dicts hpc rfl) rfl nofun
  case takeResult r _ st hpc _ hd hk =>
    refine .inFirst h.base (h.dicts hpc rfl) rfl fun _ => ⟨?_, ?_⟩
    · exact mem_keys_of_alookup hk
    · exact fun hc => hd ((hasKey_iff_mem_keys _ _).mpr hc)
  case removedStopped hpc | removedPaused hpc =>
    exact .inFirst h.base ((h.dicts hpc rfl).insert (h.curAt hpc rfl).1 _) rfl nofun
  case resultsDone hpc _ => exact .atSecond h.base (h.dicts hpc rfl) rfl [] rfl nofun
  case item hpc hi i => exact h.secondItem hpc hi i
  case completeTold hpc _ =>
    obtain ⟨pre, st, hsd, hpre, hcur⟩ := h.item (by rw [hpc]; rfl)
    exact .atItem h.base (h.dicts hpc rfl) rfl pre st hsd hpre ⟨nofun, fun _ => hcur.2 (.inl hpc)⟩
  case completeToldPaused hpc _ => exact h.itemDone hpc rfl _ fun st hc hf => by cases (hc.2 (.inl hpc)).symm.trans hf
  case completeCalled hpc => exact h.itemDone hpc rfl _ fun st hc hf => by cases (hc.2 (.inr hpc)).symm.trans hf
  case errorTold hpc => exact h.itemDone hpc rfl _ fun st hc hf => (hc.1 hpc).1.trans hf
  case updated hpc => exact h.afterUpdate hpc
  case ctl c =>
    cases c
    case fetched hpc _ => exact .inFirst h.base (h.dicts hpc rfl) rfl nofun
    case stdoutRead hpc =>
      obtain ⟨pre, st, hsd, hpre, hcur⟩ := h.item (by rw [hpc]; rfl)
      exact .atItem h.base (h.dicts hpc rfl) rfl pre st hsd hpre
        ⟨nofun, fun hc => by rcases hc with hc | hc <;> cases hc⟩
    case itemsDone hpc hi =>
      have d := h.dicts hpc rfl
      exact ⟨fun _ => d.sdNodup, fun _ => d.sdRun, fun _ => ⟨d.doneNodup, d.doneSub⟩, nofun, fun _ => h.p2 (.inl hpc), fun _ => hi, nofun,
        h.doneAllNodup, h.failedNamed, h.runLast⟩
    all_goals exact .outside h.base rfl
  -- elsewhere only the running set and the recorded statuses matter
  case scheduled => rw [← scheduled_eq]; exact h.scheduled _
  case fin f =>
    cases f
    case halt => exact h
    case markFailed | markDone =>
      exact .outside ⟨h.doneAllNodup, fun t ht => h.failedNamed t (markStopped_failed _ _ ht),
        fun t ht => by rw [markStopped_keys]; exact h.runLast t ht⟩ rfl
    all_goals exact .outside h.base rfl
  all_goals exact .outside h.base rfl

theorem SInv.reach {c : Cfg} {s : LState} (h : Reach c BOk s) : SInv s :=
  h.inv (.outside ⟨List.nodup_nil, nofun, nofun⟩ rfl)
    (fun _ _ h => ⟨h.sdNodup, h.sdRun, h.doneOK, h.cur, h.p2, h.p2end, h.item, h.doneAllNodup, h.failedNamed, h.runLast⟩)
    fun _ hp ih t => SInv_trans ih t hp

theorem firstFailed_eq (l : List (Nat × St)) : firstFailed l = (l.find? (·.2 = .failed)).map (·.1) := by
  induction l with
  | nil => rfl
  | cons x xs ih => rw [firstFailed, List.find?_cons]; by_cases hv : x.2 = .failed <;> simp [hv, ih]

theorem firstFailed_of_failed {l : List (Nat × St)} (hn : (keys l).Nodup) {t0 : Nat} (h : alookup t0 l = some .failed) :
    ∃ t, firstFailed l = some t ∧ alookup t l = some .failed := by
  obtain ⟨kv, hkv⟩ := Option.isSome_iff_exists.mp
    (List.find?_isSome.mpr ⟨(t0, .failed), mem_of_alookup h, decide_eq_true rfl⟩ : (l.find? (·.2 = .failed)).isSome)
  have hf : kv.2 = .failed := by simpa using List.find?_some hkv
  refine ⟨kv.1, by rw [firstFailed_eq, hkv]; rfl, alookup_of_mem hn ?_⟩
  rw [← hf]; exact List.mem_of_find?_eq_some hkv

def LNInv (s : LState) : Prop := (keys s.status.last).Nodup

theorem LNInv_trans {s s' : LState} {a : Ans} (h : LNInv s) (t : Trans s a s') : LNInv s' := by
  cases t.cnt with
  | same f | toFin f | polled _ f => unfold LNInv; rw [f.status]; exact h
  | updated => unfold LNInv; rw [afterUpdate_last]; exact nodup_keys_aupdate _ _ h
  | scheduled => unfold LNInv; rw [scheduled_last]; exact nodup_keys_aset _ _ h
  | marked _ hst => unfold LNInv; rw [hst, markStopped_keys]; exact h
  | _ => exact h

theorem LNInv.reach {c : Cfg} {P : LState → Ans → Prop} {s : LState} (h : Reach c P s) : LNInv s :=
  h.inv List.nodup_nil (fun _ _ h => h) fun _ _ ih => LNInv_trans ih

theorem SInv.names_failed {s : LState} (hS : SInv s) (hL : LNInv s) (h : 0 < s.status.markStopped.numFailed) :
    ∃ t, firstFailed s.doneAll = some t ∧ alookup t s.doneAll = some .failed := by
  obtain ⟨t0, st, hlk, hst⟩ := exists_of_numIn_pos _ _ h (by rw [markStopped_keys]; exact hL)
  have hst' : st = .failed := by simpa using hst
  subst hst'
  exact firstFailed_of_failed hS.doneAllNodup (hS.failedNamed t0 (markStopped_failed _ _ hlk))

end SyneTune.Tuner
