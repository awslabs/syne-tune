import SyneTune.Lemmas.DomainsCont
/- Categorical encoders.  One-hot stands alone; binary and ordinal-equal are the same thing, an
integer encoder on the positions of the list of choices (`PosEnc`). -/
namespace SyneTune.Dom
open SyneTune

theorem oneHotVec_length (n i : ℕ) : (oneHotVec n i).length = n := by simp [oneHotVec]

theorem oneHotVec_getElem (n i j : ℕ) (hj : j < (oneHotVec n i).length) :
    (oneHotVec n i)[j] = if j = i then 1 else 0 := by
  simp [oneHotVec]

theorem oneHotVec_mem {n i : ℕ} {x : ℚ} (hx : x ∈ oneHotVec n i) : 0 ≤ x ∧ x ≤ 1 := by
  obtain ⟨j, _, rfl⟩ := List.mem_map.mp hx
  split
  · exact ⟨zero_le_one, le_rfl⟩
  · exact ⟨le_rfl, zero_le_one⟩

/-- the arg max of a one-hot vector is its hot position: the entry there is at least the `1` at `i` -/
theorem argmaxFirst_oneHot (n i : ℕ) (h : i < n) : argmaxFirst (oneHotVec n i) = i := by
  have hi : i < (oneHotVec n i).length := by rw [oneHotVec_length]; exact h
  obtain ⟨hr, m, hm, hmax⟩ := argmaxFirst_spec _ (List.ne_nil_of_length_pos (Nat.zero_lt_of_lt hi))
  have h1 := hmax i hi
  rw [List.getElem?_eq_getElem hr, oneHotVec_getElem] at hm
  rw [oneHotVec_getElem, if_pos rfl, ← Option.some.inj hm] at h1
  by_contra hne
  rw [if_neg hne] at h1
  exact absurd h1 (by norm_num)

/-- the `_ndarray_bounds` of the one-hot encoder: `(0, 1)` on the active coordinates (`(1, 1)` if
there is just one), `(0, 0)` on the others -/
def oneHotBounds (choices : List Val) : Option (List Val) → List (ℚ × ℚ)
  | none => if 1 < choices.length then List.replicate choices.length (0, 1) else [(1, 1)]
  | some act => choices.map (fun v =>
      if pyIn v act then (if 1 < act.length then ((0 : ℚ), (1 : ℚ)) else (1, 1)) else (0, 0))

abbrev oneHot (choices : List Val) (active : Option (List Val)) : OneHot := ⟨choices, oneHotBounds choices active⟩

theorem mkOneHot_ok {choices : List Val} {active : Option (List Val)} {r : OneHot}
    (h : mkOneHot choices active = .ok r) :
    choices ≠ [] ∧ r = oneHot choices active := by
  unfold mkOneHot at h
  split at h
  · cases h
  · rename_i hc
    have hne : choices ≠ [] := fun hh => hc (by rw [hh]; rfl)
    split at h
    · exact ⟨hne, (Except.ok.inj h).symm⟩
    · split at h
      · cases h
      · split at h
        · exact ⟨hne, (Except.ok.inj h).symm⟩
        · cases h

/-- **one-hot decode gives a listed category** for every vector of the right length (the code does
not range-check one-hot coordinates) -/
theorem onehot_decode_member {choices : List Val} {active : Option (List Val)} (hne : choices ≠ [])
    {xs : List ℚ} (hl : xs.length = choices.length) :
    ∃ v, (oneHot choices active).decode xs = .ok v ∧ v ∈ choices := by
  have hxs : xs ≠ [] := fun hh => hne (List.eq_nil_of_length_eq_zero (by rw [← hl, hh]; rfl))
  have hr := (argmaxFirst_spec xs hxs).1
  unfold OneHot.decode
  rw [if_pos hl, List.getElem?_eq_getElem (hl ▸ hr)]
  exact ⟨_, rfl, List.getElem_mem _⟩

theorem onehot_decode_reject {choices : List Val} {active : Option (List Val)} {r : OneHot}
    (h : mkOneHot choices active = .ok r) {xs : List ℚ} (hl : xs.length ≠ choices.length) :
    r.decode xs = .error .assertion := by
  obtain ⟨_, rfl⟩ := mkOneHot_ok h
  exact if_neg hl

theorem onehot_encode_cube {r : OneHot} {v : Val} {xs : List ℚ} (he : r.encode v = .ok xs) :
    xs.length = r.choices.length ∧ ∀ x ∈ xs, 0 ≤ x ∧ x ≤ 1 := by
  unfold OneHot.encode at he
  split at he
  · rw [← Except.ok.inj he]
    exact ⟨oneHotVec_length _ _, fun x => oneHotVec_mem⟩
  · cases he

theorem onehot_roundtrip {choices : List Val} {active : Option (List Val)} (hok : catsOk choices = true)
    {v : Val} (hv : v ∈ choices) :
    ∃ xs, (oneHot choices active).encode v = .ok xs ∧ (oneHot choices active).decode xs = .ok v := by
  obtain ⟨i, hi, hci⟩ := index_member hok hv
  refine ⟨oneHotVec choices.length i, ?_, ?_⟩
  · unfold OneHot.encode; rw [hi]
  · unfold OneHot.decode
    rw [if_pos (oneHotVec_length _ _), argmaxFirst_oneHot _ _ (pyIndex_lt hi), hci]

theorem onehot_bounds_cube {choices : List Val} {active : Option (List Val)} (hne : choices ≠ []) :
    (oneHot choices active).bounds.length = choices.length ∧
      ∀ b ∈ (oneHot choices active).bounds, 0 ≤ b.1 ∧ b.2 ≤ 1 := by
  unfold oneHot
  cases active with
  | none =>
    unfold oneHotBounds
    by_cases hlen : 1 < choices.length
    · rw [if_pos hlen]
      refine ⟨List.length_replicate, fun b hb => ?_⟩
      rw [(List.mem_replicate.mp hb).2]
      exact ⟨le_rfl, le_rfl⟩
    · rw [if_neg hlen]
      have := List.length_pos_iff.mpr hne
      refine ⟨by rw [List.length_singleton]; omega, fun b hb => ?_⟩
      rw [List.mem_singleton.mp hb]
      exact ⟨zero_le_one, le_rfl⟩
  | some act =>
    refine ⟨List.length_map _, fun b hb => ?_⟩
    obtain ⟨v, _, rfl⟩ := List.mem_map.mp hb
    split_ifs
    · exact ⟨le_rfl, le_rfl⟩
    · exact ⟨zero_le_one, le_rfl⟩
    · exact ⟨le_rfl, zero_le_one⟩

/-- **active categories, one-hot** (partial): inside the bounds box, if some coordinate is
positive, the decoded category is an active one.  The full statement (without the positivity
hypothesis) is false: see `active_onehot_counterexample` in `Props/C07.lean`. -/
theorem onehot_active_partial {choices act : List Val} {xs : List ℚ}
    (hbox : InBox xs (oneHot choices (some act)).bounds) (hpos : ∃ x ∈ xs, 0 < x) :
    ∃ v, (oneHot choices (some act)).decode xs = .ok v ∧ v ∈ choices ∧ pyIn v act = true := by
  unfold oneHot at hbox ⊢
  obtain ⟨hlen, hin⟩ := hbox
  rw [oneHotBounds, List.length_map] at hlen
  obtain ⟨x, hx, hx0⟩ := hpos
  obtain ⟨hr, m, hm, hmax⟩ := argmaxFirst_spec xs (List.ne_nil_of_mem hx)
  obtain ⟨j, hj, rfl⟩ := List.getElem_of_mem hx
  rw [List.getElem?_eq_getElem hr] at hm
  have hrc : argmaxFirst xs < choices.length := hlen ▸ hr
  -- the largest coordinate is positive, so its upper bound is not `0`: the position is active
  have hbr := (hin _ hr (by rw [oneHotBounds, List.length_map]; exact hrc)).2
  simp only [oneHotBounds, List.getElem_map] at hbr
  unfold OneHot.decode
  rw [if_pos hlen, List.getElem?_eq_getElem hrc]
  refine ⟨_, rfl, List.getElem_mem _, ?_⟩
  by_contra hna
  rw [if_neg hna, Option.some.inj hm] at hbr
  exact absurd (hx0.trans_le (hmax j hj)) (not_lt.mpr hbr)

theorem choiceAt_ok {choices : List Val} {k : ℤ} (h0 : 0 ≤ k) (h1 : k < choices.length) :
    ∃ v, choiceAt choices k = .ok v ∧ choices[k.toNat]? = some v ∧ v ∈ choices := by
  have hlt : k.toNat < choices.length := by omega
  unfold choiceAt
  rw [if_pos h0, List.getElem?_eq_getElem hlt]
  exact ⟨_, rfl, rfl, List.getElem_mem _⟩

/-- What `mkBinary` and `mkOrdEq` build: the integer encoder `ri` of the positions `0 … upper` of
`choices`, whose active window `[aL, aU]` holds positions of active choices only. -/
def PosEnc (env : Env) (c : Consts) (choices : List Val) (active : Option (List Val)) (ri : IntRange) : Prop :=
  ∃ (upper : ℤ) (aL aU : Option ℤ), (choices.length : ℤ) = upper + 1 ∧
    mkInt env c 0 upper .lin aL aU = .ok ri ∧
    ∀ act, active = some act → ∀ (k : ℕ) (v : Val), aL.getD 0 ≤ k → (k : ℤ) ≤ aU.getD upper →
      choices[k]? = some v → pyIn v act = true

/-- `BinRange.encode`, `OrdEq.encode`: `index`, then the integer encoder -/
def posEncode (env : Env) (c : Consts) (choices : List Val) (ri : IntRange) (v : Val) : Except Err ℚ :=
  match pyIndex v choices with
  | some i => ri.encode env c (i : ℚ)
  | none => .error .assertion

/-- `BinRange.decode`, `OrdEq.decode`: the integer decoder, then the lookup -/
def posDecode (env : Env) (c : Consts) (choices : List Val) (ri : IntRange) (x : ℚ) : Except Err Val :=
  match ri.decode env c x with
  | .ok k => choiceAt choices k
  | .error e => .error e

theorem pos_bounds_cube {env : Env} {c : Consts} {choices : List Val} {active : Option (List Val)}
    {ri : IntRange} (h : PosEnc env c choices active ri) : 0 ≤ ri.cont.bLo ∧ ri.cont.bHi ≤ 1 := by
  obtain ⟨_, _, _, _, hri, _⟩ := h
  exact int_bounds_cube hri

theorem pos_encode_cube {env : Env} {c : Consts} {choices : List Val} {ri : IntRange} {v : Val} {x : ℚ}
    (h : posEncode env c choices ri v = .ok x) : 0 ≤ x ∧ x ≤ 1 := by
  unfold posEncode at h
  split at h
  · exact cont_encode_cube h
  · cases h

theorem pos_decode_reject {env : Env} {c : Consts} {choices : List Val} {ri : IntRange} {x : ℚ}
    (hx : ¬ InMargin c x) : posDecode env c choices ri x = .error .assertion := by
  unfold posDecode
  rw [int_decode_reject _ hx]

theorem pos_decode_member {env : Env} {c : Consts} {choices : List Val} {active : Option (List Val)}
    {ri : IntRange} (h : PosEnc env c choices active ri) {x : ℚ} (hx : InMargin c x) :
    ∃ v, posDecode env c choices ri x = .ok v ∧ v ∈ choices := by
  obtain ⟨upper, aL, aU, hup, hri, _⟩ := h
  obtain ⟨k, hk, h0, h1⟩ := int_decode_member hri hx
  obtain ⟨v, hv, _, hm⟩ := choiceAt_ok (choices := choices) h0 (by omega)
  exact ⟨v, by unfold posDecode; rw [hk]; exact hv, hm⟩

theorem pos_roundtrip {env : Env} {c : Consts} {choices : List Val} {active : Option (List Val)}
    {ri : IntRange} (h : PosEnc env c choices active ri) (hok : catsOk choices = true)
    (heps : 0 ≤ c.eps) (heps2 : c.eps ≤ 1 / 2) {v : Val} (hv : v ∈ choices) :
    ∃ x, posEncode env c choices ri v = .ok x ∧ posDecode env c choices ri x = .ok v := by
  obtain ⟨upper, aL, aU, hup, hri, _⟩ := h
  obtain ⟨i, hi, hci⟩ := index_member hok hv
  have hlt := pyIndex_lt hi
  obtain ⟨x, e1, e2⟩ := int_roundtrip hri heps heps2 (scaleOK_lin _ _ _) (k := (i : ℤ)) (by omega) (by omega)
  refine ⟨x, by unfold posEncode; rw [hi]; exact e1, ?_⟩
  unfold posDecode choiceAt
  rw [e2]
  dsimp only
  rw [if_pos (by omega), Int.toNat_natCast, hci]

theorem pos_active {env : Env} {c : Consts} {choices act : List Val} {ri : IntRange}
    (h : PosEnc env c choices (some act) ri) (heps : 0 < c.eps) {x : ℚ}
    (hx : ri.cont.bLo ≤ x ∧ x ≤ ri.cont.bHi) :
    ∃ v, posDecode env c choices ri x = .ok v ∧ v ∈ choices ∧ pyIn v act = true := by
  obtain ⟨upper, aL, aU, hup, hri, hwin⟩ := h
  obtain ⟨hlo, hup', k, hk, hk0, hk1⟩ := int_active hri heps (scaleOK_lin _ _ _) hx
  have h0 : 0 ≤ k := hlo.trans hk0
  obtain ⟨v, hv, hvi, hm⟩ := choiceAt_ok (choices := choices) h0 (by omega)
  refine ⟨v, by unfold posDecode; rw [hk]; exact hv, hm, hwin act rfl k.toNat v ?_ ?_ hvi⟩
  · rw [Int.toNat_of_nonneg h0]; exact hk0
  · rw [Int.toNat_of_nonneg h0]; exact hk1

theorem dedupPy_ne_nil {l : List Val} (h : l ≠ []) : dedupPy l ≠ [] := by
  induction l with
  | nil => exact absurd rfl h
  | cons a as ih =>
    unfold dedupPy
    split
    · rename_i ha
      exact ih (fun hh => by rw [hh] at ha; cases ha)
    · exact List.cons_ne_nil _ _

theorem binActive_pair (a b : Val) (act : List Val) :
    binActive [a, b] act =
      (if pyIn b act = true then (some 1, (if pyIn a act = true then 1 else 0) + 1)
       else if pyIn a act = true then (some 0, 1) else (none, 0)) := by
  have hr2 : List.range 2 = [0, 1] := by decide
  simp only [binActive, List.length_cons, List.length_nil, hr2, List.foldl_cons, List.foldl_nil]
  by_cases ha : pyIn a act = true <;> by_cases hb : pyIn b act = true <;> simp [ha, hb]

/-- the window `[av, av]` of `mkBinary`: both positions if both choices are active, else the
active one -/
theorem binary_window {choices act : List Val} (hlen : choices.length = 2)
    (hnum : (binActive choices act).2 ≠ 0) {av : Option ℤ}
    (hav : av = if (binActive choices act).2 = 2 then none else (binActive choices act).1.map Int.ofNat)
    {k : ℕ} {v : Val} (hk0 : av.getD 0 ≤ k) (hk1 : (k : ℤ) ≤ av.getD 1) (hv : choices[k]? = some v) :
    pyIn v act = true := by
  obtain ⟨a, b, rfl⟩ := List.length_eq_two.mp hlen
  have hk : k < 2 := (List.getElem?_eq_some_iff.mp hv).1
  rw [binActive_pair] at hnum hav
  -- which of the two choices are active: both, `a`, `b`; none contradicts `hnum`
  by_cases ha : pyIn a act = true <;> by_cases hb : pyIn b act = true <;> simp [ha, hb] at hnum hav <;>
    subst hav
  · obtain rfl | rfl : k = 0 ∨ k = 1 := by omega
    · rw [← Option.some.inj hv]; exact ha
    · rw [← Option.some.inj hv]; exact hb
  · obtain rfl : k = 0 := by simpa using hk1
    rw [← Option.some.inj hv]; exact ha
  · obtain rfl : k = 1 := le_antisymm (by omega) (by simpa using hk0)
    rw [← Option.some.inj hv]; exact hb

theorem mkBinary_ok {env : Env} {c : Consts} {choices : List Val} {active : Option (List Val)}
    {r : BinRange} (h : mkBinary env c choices active = .ok r) :
    ∃ ri, PosEnc env c choices active ri ∧ r = ⟨choices, ri⟩ := by
  unfold mkBinary at h
  split at h
  · rename_i hlen
    have hup : (choices.length : ℤ) = 1 + 1 := by rw [hlen]; rfl
    split at h
    · split at h
      · rename_i ri hri
        exact ⟨ri, ⟨1, none, none, hup, hri, fun act hact => nomatch hact⟩, (Except.ok.inj h).symm⟩
      · cases h
    · rename_i act
      split at h
      · cases h
      · rename_i hne
        dsimp only at h
        split at h
        · rename_i hnum
          split at h
          · rename_i ri hri
            refine ⟨ri, ⟨1, _, _, hup, hri, ?_⟩, (Except.ok.inj h).symm⟩
            rintro _ ⟨rfl⟩ k v hk0 hk1 hv
            have hd : (dedupPy act).length ≠ 0 := fun h0 =>
              dedupPy_ne_nil (fun hh => hne (by rw [hh]; rfl)) (List.eq_nil_of_length_eq_zero h0)
            exact binary_window hlen (by rw [hnum]; exact hd) rfl hk0 hk1 hv
          · cases h
        · cases h
  · cases h

theorem zipAllEq_getElem? : ∀ {as bs : List Val}, zipAllEq as bs = true →
    ∀ {j : ℕ} {a b : Val}, as[j]? = some a → bs[j]? = some b → a.pyEq b = true
  | [], _, _, j, a, b, ha, _ => by cases ha
  | _ :: _, [], _, j, a, b, _, hb => by cases hb
  | a0 :: as, b0 :: bs, h, j, a, b, ha, hb => by
    obtain ⟨h1, h2⟩ := (Bool.and_eq_true _ _).mp h
    cases j with
    | zero => rw [← Option.some.inj ha, ← Option.some.inj hb]; exact h1
    | succ j => exact zipAllEq_getElem? h2 ha hb

/-- `_assert_choices_and_active_choices`: the active choices are a contiguous run of the choices,
starting at the returned position -/
theorem firstPos_some {choices act : List Val} {fp : Option ℕ}
    (h : firstPos choices (some act) = .ok fp) :
    ∃ p, fp = some p ∧ act ≠ [] ∧ zipAllEq act (choices.drop p) = true := by
  unfold firstPos at h
  split at h
  · cases h
  · dsimp only at h
    split at h
    · cases h
    · split at h
      · rename_i p hp
        split at h
        · rename_i hz
          exact ⟨p, (Except.ok.inj h).symm, List.cons_ne_nil _ _, hz⟩
        · cases h
      · cases h

theorem firstPos_none {choices : List Val} {fp : Option ℕ}
    (h : firstPos choices none = .ok fp) : fp = none ∧ choices ≠ [] := by
  unfold firstPos at h
  split at h
  · cases h
  · rename_i hne
    exact ⟨(Except.ok.inj h).symm, fun hh => hne (by rw [hh]; rfl)⟩

theorem pyIn_of_window {choices act : List Val} {p i : ℕ} {v : Val}
    (hz : zipAllEq act (choices.drop p) = true) (h1 : p ≤ i) (h2 : i < p + act.length)
    (hv : choices[i]? = some v) : pyIn v act = true := by
  have hj : i - p < act.length := by omega
  have hd : (choices.drop p)[i - p]? = some v := by
    rw [List.getElem?_drop, Nat.add_sub_cancel' h1]; exact hv
  exact pyIn_iff.mpr ⟨act[i - p], List.getElem_mem hj,
    zipAllEq_getElem? hz (List.getElem?_eq_getElem hj) hd⟩

theorem mkOrdEq_ok {env : Env} {c : Consts} {choices : List Val} {active : Option (List Val)}
    {r : OrdEq} (h : mkOrdEq env c choices active = .ok r) :
    ∃ ri, PosEnc env c choices active ri ∧ r = ⟨choices, ri⟩ := by
  unfold mkOrdEq at h
  split at h
  · cases h
  · rename_i fp hfp
    dsimp only at h
    split at h
    · rename_i ri hri
      refine ⟨ri, ⟨_, _, _, (sub_add_cancel _ _).symm, hri, ?_⟩, (Except.ok.inj h).symm⟩
      rintro act rfl k v hk0 hk1 hv
      obtain ⟨p, rfl, hne, hz⟩ := firstPos_some hfp
      have := List.length_pos_iff.mpr hne
      simp only [Option.map_some, Option.getD_some, Int.ofNat_eq_natCast] at hk0 hk1
      exact pyIn_of_window hz (by omega) (by omega) hv
    · cases h

end SyneTune.Dom
