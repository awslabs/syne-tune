import SyneTune.Lemmas.TunerKInv
/-
The life cycle of a trial under the contracts B and K, as the scheduler is told of it and as the tuning status
records it.
Behind C01 `notify_partial`: when a scheduler callback is pending, the run of the trial is open for
the scheduler.  For `on_trial_error` this needs the extra hypothesis `NCOk` on the
scheduler's decisions (no STOP/PAUSE on a result of a trial that the same poll reports as
failed, no PAUSE for one it reports as stopped from outside) — see the counterexample in
`Props/C01.lean`.
Behind C01 `lifecycle`: the statuses the loop records for a trial (`tuning_status.last_trial_status_seen`) only move
along the edges of the life cycle  started, stopping → anything; paused → started; final statuses stay.
-/
namespace SyneTune.Tuner
open SyneTune AL

/-- **no end clash**: the scheduler does not decide STOP / PAUSE on a result of a trial whose
polled status is `failed`, nor PAUSE for one whose polled status is `stopped`. -/
def NCOk (s : LState) (a : Ans) : Prop :=
  s.pc = .decision → ∀ d m, a = .decision d m → d ≠ .continue →
    alookup s.cur.tid s.sd ≠ some .failed ∧ (d = .pause → alookup s.cur.tid s.sd ≠ some .stopped)

/-- a done trial is not one the second loop will report as failed -/
def NoClash (s : LState) (l : List (Nat × St)) : Prop :=
  ∀ kv ∈ l, kv.1 ∈ keys s.done → kv.2 ≠ .failed ∧ (kv.2 = .stopped → kv.1 ∈ s.schedStopped)

def stopPath (s : LState) : Prop :=
  (s.pc = .cbResult ∧ s.curD = .stop) ∨ s.pc = .stopCmd ∨ s.pc = .stopDel ∨ s.pc = .removeS

def pausePath (s : LState) : Prop :=
  (s.pc = .cbResult ∧ s.curD = .pause) ∨ s.pc = .pauseCmd ∨ s.pc = .removeP

/-- `NCOk` carried through `_update_running_trials`: the items still to be handled by the first loop (`d1`) and by
the second (`d2`) do not clash with `done`; the trial being stopped (`d3`) or paused (`d4`) was not polled as
failed (nor, for PAUSE, as stopped); `n1`: the item about to be reported as completed or failed is not in `done`,
so its run is still open. -/
structure DInv (s : LState) : Prop where
  d1 : firstPc s.pc = true → NoClash s s.sd
  d2 : (s.pc = .second ∨ curItemPc s.pc = true) → NoClash s s.items
  d3 : stopPath s → alookup s.cur.tid s.sd ≠ some .failed
  d4 : pausePath s → alookup s.cur.tid s.sd ≠ some .failed ∧ alookup s.cur.tid s.sd ≠ some .stopped
  n1 : (s.pc = .completeS ∨ s.pc = .errorS) → s.t ∉ keys s.done

theorem NoClash.same {s s' : LState} {l : List (Nat × St)} (h : NoClash s l) (hd : s'.done = s.done)
    (hss : s'.schedStopped = s.schedStopped) : NoClash s' l := by
  intro kv hkv hk; rw [hd] at hk; rw [hss]; exact h kv hkv hk

theorem NoClash.tail {s : LState} {kv : Nat × St} {rest : List (Nat × St)} (h : NoClash s (kv :: rest)) :
    NoClash s rest := fun x hx => h x (List.mem_cons_of_mem _ hx)

theorem stopPath_first {s : LState} (h : stopPath s) : firstPc s.pc = true := by
  rcases h with ⟨h, _⟩ | h | h | h <;> rw [h] <;> rfl
theorem pausePath_first {s : LState} (h : pausePath s) : firstPc s.pc = true := by
  rcases h with ⟨h, _⟩ | h | h <;> rw [h] <;> rfl

theorem DInv.out {s' : LState} (hp : updPc s'.pc = false) : DInv s' := by
  have hne : ∀ {p : Pc}, updPc p = true → s'.pc ≠ p := Pc.ne_of_class hp
  refine ⟨fun hc => ?_, fun hc => ?_, fun hc => ?_, fun hc => ?_, fun hc => ?_⟩
  · rw [first_upd _ hc] at hp; cases hp
  · rcases hc with hc | hc
    · exact absurd hc (hne rfl)
    · rw [curItem_upd _ hc] at hp; cases hp
  · rw [first_upd _ (stopPath_first hc)] at hp; cases hp
  · rw [first_upd _ (pausePath_first hc)] at hp; cases hp
  · rcases hc with hc | hc <;> exact absurd hc (hne rfl)

theorem DInv.ofFirst {s' : LState} (hq : s'.pc = .cbFetch ∨ s'.pc = .nextRes ∨ s'.pc = .decision)
    (h1 : NoClash s' s'.sd) : DInv s' := by
  refine ⟨fun _ => h1, fun hc => ?_, fun hc => ?_, fun hc => ?_, fun hc => ?_⟩
  · rcases hc with hc | hc <;> rcases hq with hq | hq | hq <;> (rw [hq] at hc; cases hc)
  · rcases hc with ⟨hc, _⟩ | hc | hc | hc <;> rcases hq with hq | hq | hq <;> (rw [hq] at hc; cases hc)
  · rcases hc with ⟨hc, _⟩ | hc | hc <;> rcases hq with hq | hq | hq <;> (rw [hq] at hc; cases hc)
  · rcases hc with hc | hc <;> rcases hq with hq | hq | hq <;> (rw [hq] at hc; cases hc)

theorem DInv.first {s s' : LState} (h : DInv s) (hp : firstPc s.pc = true) (hp' : firstPc s'.pc = true)
    (hsd : s'.sd = s.sd) (hd : s'.done = s.done) (hss : s'.schedStopped = s.schedStopped)
    (h3 : stopPath s' → alookup s'.cur.tid s.sd ≠ some .failed)
    (h4 : pausePath s' → alookup s'.cur.tid s.sd ≠ some .failed ∧ alookup s'.cur.tid s.sd ≠ some .stopped) :
    DInv s' := by
  refine ⟨fun _ => ?_, fun hc' => ?_, fun hc' => ?_, fun hc' => ?_, fun hc' => ?_⟩
  · rw [hsd]; exact (h.d1 hp).same hd hss
  · rcases hc' with hc' | hc'
    · rw [hc'] at hp'; cases hp'
    · rw [first_not_item _ hp'] at hc'; cases hc'
  · rw [hsd]; exact h3 hc'
  · rw [hsd]; exact h4 hc'
  · rcases hc' with hc' | hc' <;> (rw [hc'] at hp'; cases hp')

theorem DInv.polled {s' : LState} (hp : s'.pc = .cbFetch) (hd : s'.done = []) : DInv s' :=
  .ofFirst (.inl hp) fun kv _ hk => by rw [hd] at hk; simp [keys] at hk

theorem DInv.firstPlain {s s' : LState} (h : DInv s) (hp : firstPc s.pc = true)
    (hp' : s'.pc = .nextRes ∨ s'.pc = .decision)
    (hsd : s'.sd = s.sd) (hd : s'.done = s.done) (hss : s'.schedStopped = s.schedStopped) : DInv s' :=
  .ofFirst (.inr hp') (hsd ▸ (h.d1 hp).same hd hss)

theorem DInv.decided {s s' : LState} (h : DInv s) (hp : s.pc = .decision) (hp' : s'.pc = .cbResult) (d : Decision)
    (hsd : s'.sd = s.sd) (hd : s'.done = s.done) (hss : s'.schedStopped = s.schedStopped)
    (hc : s'.cur.tid = s.cur.tid) (hcd : s'.curD = d)
    (hNC : d ≠ .continue → alookup s.cur.tid s.sd ≠ some .failed ∧ (d = .pause → alookup s.cur.tid s.sd ≠ some .stopped)) :
    DInv s' := by
  refine h.first (by rw [hp]; rfl) (by rw [hp']; rfl) hsd hd hss (fun hh => ?_) (fun hh => ?_)
  · rcases hh with ⟨_, h2⟩ | hh | hh | hh
    · rw [hc]; exact (hNC (by rw [← hcd, h2]; decide)).1
    all_goals (rw [hp'] at hh; cases hh)
  · rcases hh with ⟨_, h2⟩ | hh | hh
    · rw [hc]
      have hdp : d = .pause := by rw [← hcd, h2]
      exact ⟨(hNC (by rw [hdp]; decide)).1, (hNC (by rw [hdp]; decide)).2 hdp⟩
    all_goals (rw [hp'] at hh; cases hh)

theorem DInv.pathStep {s s' : LState} (h : DInv s) (hp : firstPc s.pc = true) (hp' : firstPc s'.pc = true)
    (hsd : s'.sd = s.sd) (hd : s'.done = s.done) (hss : s'.schedStopped = s.schedStopped)
    (hc : s'.cur.tid = s.cur.tid) (h3 : stopPath s' → stopPath s) (h4 : pausePath s' → pausePath s) : DInv s' :=
  h.first hp hp' hsd hd hss (fun hh => by rw [hc]; exact h.d3 (h3 hh)) (fun hh => by rw [hc]; exact h.d4 (h4 hh))

theorem DInv.removed {s s' : LState} (h : DInv s) (hS : SInv s) (hp : curResPc s.pc = true) (hp' : s'.pc = .nextRes)
    (v : St) (hsd : s'.sd = s.sd) (hd : s'.done = aset s.cur.tid v s.done)
    (hnf : alookup s.cur.tid s.sd ≠ some .failed)
    (hst : alookup s.cur.tid s.sd = some .stopped → s.cur.tid ∈ s'.schedStopped)
    (hss : ∀ t ∈ s.schedStopped, t ∈ s'.schedStopped) : DInv s' := by
  have hu := curRes_upd _ hp
  have hfp := curRes_first _ hp
  have hnd := hS.sdNodup hu
  refine .ofFirst (.inr (.inl hp')) ?_
  rw [hsd]
  intro kv hkv hk
  rw [hd] at hk
  have hlk : alookup kv.1 s.sd = some kv.2 := alookup_of_mem hnd hkv
  rcases (mem_keys_aset _ _ _ _).mp hk with h1 | h1
  · rw [h1] at hlk
    refine ⟨fun hc => hnf (by rw [hlk, hc]), fun hc => ?_⟩
    rw [h1]; exact hst (by rw [hlk, hc])
  · obtain ⟨h2, h3⟩ := h.d1 hfp kv hkv h1
    exact ⟨h2, fun hc => hss _ (h3 hc)⟩

theorem DInv.ofSecond {s' : LState} (hq : firstPc s'.pc = false) (h2 : NoClash s' s'.items)
    (hn : (s'.pc = .completeS ∨ s'.pc = .errorS) → s'.t ∉ keys s'.done) : DInv s' := by
  refine ⟨fun hc => ?_, fun _ => h2, fun hc => ?_, fun hc => ?_, hn⟩
  · rw [hq] at hc; cases hc
  · rw [stopPath_first hc] at hq; cases hq
  · rw [pausePath_first hc] at hq; cases hq

/-- a trial already in `done_trials` is neither failed nor stopped from outside, so `on_trial_error` is only called
for one that is not in it -/
theorem DInv.item {s s' : LState} {t : Nat} {st : St} {rest : List (Nat × St)} (h : DInv s) (hp : s.pc = .second)
    (hi : s.items = (t, st) :: rest) (i : Item s t rest st s') : DInv s' := by
  have hnc : NoClash s ((t, st) :: rest) := hi ▸ h.d2 (.inl hp)
  have hhead := hnc (t, st) List.mem_cons_self
  cases i
  case noMetrics | completeCb => exact .ofSecond rfl (hnc.tail.same rfl rfl) (by rintro (hc | hc) <;> cases hc)
  case complete hl hd => exact .ofSecond rfl (hnc.tail.same rfl rfl) fun _ => hd
  case failed => exact .ofSecond rfl (hnc.tail.same rfl rfl) fun _ hc => (hhead hc).1 rfl
  case stoppedAlone hns => exact .ofSecond rfl (hnc.tail.same rfl rfl) fun _ hc => hns ((hhead hc).2 rfl)
  case pausedCompleted | skip =>
    exact .ofSecond (hp ▸ rfl) (hnc.tail.same rfl rfl) (by rintro (hc | hc) <;> (rw [hp] at hc; cases hc))

theorem DInv.itemStep {s s' : LState} (h : DInv s) (hS : SInv s) (hp : curItemPc s.pc = true)
    (hq : firstPc s'.pc = false) (hp' : s'.pc ≠ .completeS ∧ s'.pc ≠ .errorS)
    (hit : s'.items = s.items) (hss : s'.schedStopped = s.schedStopped)
    (hd : s'.done = s.done ∨ ∃ v, s'.done = aset s.t v s.done) : DInv s' := by
  obtain ⟨pre, st, hsd, _, _⟩ := hS.item hp
  have hnd := hS.sdNodup (curItem_upd _ hp)
  have hnk := (not_mem_pre hnd hsd).2.2
  have hnc := h.d2 (Or.inr hp)
  refine .ofSecond hq ?_ fun hc => hc.elim (absurd · hp'.1) (absurd · hp'.2)
  rw [hit]
  intro kv hkv hk
  rw [hss]
  rcases hd with hd | ⟨v, hd⟩
  · rw [hd] at hk; exact hnc kv hkv hk
  · rw [hd] at hk
    rcases (mem_keys_aset _ _ _ _).mp hk with h1 | h1
    · exact absurd h1 (hnk kv hkv)
    · exact hnc kv hkv h1

theorem DInv.addRow {s : LState} (h : DInv s) : DInv (addRow s) := by
  rw [addRow_eq]; exact ⟨h.d1, h.d2, h.d3, h.d4, h.n1⟩

theorem addRow_curD (s : LState) : (addRow s).curD = s.curD := by rw [addRow_eq]

theorem DInv_trans {s s' : LState} {a : Ans} (h : DInv s) (t : Trans s a s') (hN : NCOk s a) (hS : SInv s) :
    DInv s' := by
  have noStop : ∀ {s' : LState}, s'.pc = .nextRes ∨ s'.pc = .pauseCmd ∨ s'.pc = .removeP → ¬stopPath s' := by
    rintro s' (hq | hq | hq) (⟨hc, _⟩ | hc | hc | hc) <;> (rw [hq] at hc; cases hc)
  have noPause : ∀ {s' : LState}, s'.pc = .nextRes ∨ s'.pc = .stopCmd ∨ s'.pc = .stopDel ∨ s'.pc = .removeS →
      ¬pausePath s' := by
    rintro s' (hq | hq | hq | hq) (⟨hc, _⟩ | hc | hc) <;> (rw [hq] at hc; cases hc)
  cases t
  case fin f => exact .out (Pc.forall (P := fun q => finPc q = true → updPc q = false) (by decide +kernel) _ f.tgt)
  case poll => exact .polled rfl rfl
  case ctl p c =>
    cases c
    case fetched hpc _ => exact h.firstPlain (hpc ▸ rfl) (.inl rfl) rfl rfl rfl
    case itemsDone hpc _ => exact .ofSecond rfl (h.d2 (.inl hpc)) (by rintro (hc | hc) <;> cases hc)
    case stdoutRead hpc => exact h.itemStep hS (hpc ▸ rfl) rfl ⟨nofun, nofun⟩ rfl rfl (.inl rfl)
    all_goals exact .out rfl
  case resultsDone hpc _ =>
    exact .ofSecond rfl (h.d1 (hpc ▸ rfl)) (by rintro (hc | hc) <;> cases hc)
  case skipResult hpc _ _ => exact h.firstPlain (hpc ▸ rfl) (.inl hpc) rfl rfl rfl
  case takeResult hpc _ _ _ => exact h.firstPlain (hpc ▸ rfl) (.inr rfl) rfl rfl rfl
  case decidedNew d m' hpc | decided d hpc => exact h.decided hpc rfl d rfl rfl rfl rfl rfl (hN hpc _ _ rfl)
  case cbStop hpc hd _ | cbStopCompleted hpc hd _ =>
    exact h.pathStep (hpc ▸ rfl) rfl rfl rfl rfl rfl (fun _ => .inl ⟨hpc, hd⟩) (absurd · (noPause (by simp)))
  case stopped hpc _ | stoppedKeep hpc _ =>
    exact h.pathStep (hpc ▸ rfl) rfl rfl rfl rfl rfl (fun _ => .inr (.inl hpc)) (absurd · (noPause (by simp)))
  case stopDeleted hpc =>
    exact h.pathStep (hpc ▸ rfl) rfl rfl rfl rfl rfl (fun _ => .inr (.inr (.inl hpc))) (absurd · (noPause (by simp)))
  case removedStopped hpc =>
    exact h.removed hS (hpc ▸ rfl) rfl _ rfl rfl (h.d3 (.inr (.inr (.inr hpc))))
      (fun _ => (mem_sadd _ _ _).mpr (.inl rfl)) fun t ht => (mem_sadd _ _ _).mpr (.inr ht)
  case cbPause hpc hd =>
    exact h.pathStep (hpc ▸ rfl) rfl rfl rfl rfl rfl (absurd · (noStop (by simp))) fun _ => .inl ⟨hpc, hd⟩
  case paused hpc =>
    exact h.pathStep (hpc ▸ rfl) rfl rfl rfl rfl rfl (absurd · (noStop (by simp))) fun _ => .inr (.inl hpc)
  case removedPaused hpc =>
    exact h.removed hS (hpc ▸ rfl) rfl _ rfl rfl (h.d4 (.inr (.inr hpc))).1
      (fun hc => absurd hc (h.d4 (.inr (.inr hpc))).2) fun t ht => ht
  case cbContinue hpc _ => exact h.firstPlain (hpc ▸ rfl) (.inl rfl) rfl rfl rfl
  case item hpc hi i => exact h.item hpc hi i
  case completeTold hpc _ => exact h.itemStep hS (hpc ▸ rfl) rfl ⟨nofun, nofun⟩ rfl rfl (.inl rfl)
  case completeToldPaused hpc _ | completeCalled hpc | errorTold hpc =>
    exact h.itemStep hS (hpc ▸ rfl) rfl ⟨nofun, nofun⟩ rfl rfl (.inr ⟨_, rfl⟩)
  case updated => exact .out (afterUpdate_not_upd s)
  all_goals exact .out rfl

theorem DInv.reach {c : Cfg} {s : LState} (h : Reach c (fun s a => BOk s a ∧ NCOk s a) s) : DInv s :=
  h.inv (DInv.out rfl) (fun _ _ h => ⟨h.d1, h.d2, h.d3, h.d4, h.n1⟩)
    fun h hp ih t => DInv_trans ih t hp.2 (.reach (h.mono fun _ _ => And.left))

/-- when a scheduler callback is pending, the run of the trial is open for the scheduler -/
structure NotifyOK (s : LState) : Prop where
  result : s.pc = .decision → alookup s.cur.tid s.kst = some .live
  remove : (s.pc = .removeS ∨ s.pc = .removeP) → alookup s.cur.tid s.kst = some .live
  complete : s.pc = .completeS → alookup s.t s.kst = some .live
  error : s.pc = .errorS → alookup s.t s.kst = some .live
  add : s.pc = .addS → alookup s.sId s.kst = none

theorem notifyOK_of_inv {s : LState} (hS : SInv s) (hK : KInv s) (hD : DInv s) : NotifyOK s := by
  have item : (s.pc = .completeS ∨ s.pc = .errorS) → alookup s.t s.kst = some .live := by
    intro hp
    have hci : curItemPc s.pc = true := hp.elim (· ▸ rfl) (· ▸ rfl)
    have hf : finPc s.pc = false := hp.elim (· ▸ rfl) (· ▸ rfl)
    have hb := hK hf
    have hrun := (item_facts hS hb hci).1
    rcases hb.lv.live _ hrun with h1 | h1 | h1
    · exact absurd h1.2 (hD.n1 hp)
    · exact h1
    · rcases hp with hp | hp <;> (rw [hp] at h1; exact nomatch h1.1)
  refine ⟨fun hp => ?_, fun hp => ?_, fun hp => item (Or.inl hp), fun hp => item (Or.inr hp), fun hp => ?_⟩
  · exact (cur_facts hS (hK (by rw [hp]; rfl)) (by rw [hp]; rfl)).live
  · rcases hp with hp | hp <;> exact (cur_facts hS (hK (by rw [hp]; rfl)) (by rw [hp]; rfl)).live
  · exact alookup_eq_none_iff.mpr ((hK (by rw [hp]; rfl)).rg.regAddK hp)

theorem NotifyOK.reach {c : Cfg} {s : LState} (h : Reach c (fun s a => BOk s a ∧ KOk s a ∧ NCOk s a) s) : NotifyOK s :=
  notifyOK_of_inv (.reach (h.mono fun _ _ => And.left)) (.reach (h.mono fun _ _ hp => ⟨hp.1, hp.2.1⟩))
    (.reach (h.mono fun _ _ hp => ⟨hp.1, hp.2.2⟩))

def legal : St → St → Bool
  | .inProgress, _ => true
  | .stopping, _ => true
  | .paused, b => b == .paused || b == .inProgress
  | .stopped, b => b == .stopped
  | .completed, b => b == .completed
  | .failed, b => b == .failed

/-- legal moves of the entry of a trial in `last_trial_status_seen` -/
def Edge : Option St → Option St → Prop
  | none, none => True
  | none, some b => b = .inProgress
  | some a, some b => legal a b = true
  | some _, none => False

theorem legal_refl (a : St) : legal a a = true := by cases a <;> rfl

theorem Edge.refl (o : Option St) : Edge o o := by
  cases o with
  | none => trivial
  | some a => exact legal_refl a

theorem Edge.of_active {o : Option St} (h : Active o) (b : St) : Edge o (some b) := by
  rcases h with h | h <;> subst h <;> rfl

theorem edge_markStopped (ts : TStatus) (t : Nat) :
    Edge (alookup t ts.last) (alookup t ts.markStopped.last) := by
  rw [alookup_markStopped]
  cases h : alookup t ts.last with
  | none => trivial
  | some v =>
    simp only [Option.map_some]
    by_cases hv : v = .inProgress
    · subst hv; rfl
    · simp only [hv, if_false]; exact legal_refl v

theorem edge_afterUpdate {s : LState} (hS : SInv s) (h : KBody s) (hp : s.pc = .afterUpd) (t : Nat) :
    Edge (alookup t s.status.last) (alookup t (afterUpdate s).status.last) := by
  rw [afterUpdate_last, alookup_aupdate _ _ _ (by rw [hS.updKeys hp]; exact (hS.dicts hp rfl).sdNodup)]
  cases hv : alookup t (aupdate s.sd s.done) with
  | none => exact Edge.refl _
  -- only running trials are rewritten, and those are recorded as in progress or stopping
  | some v => exact Edge.of_active (h.ls.act t (hS.updRecorded hp t (mem_keys_of_alookup hv)).1) v

theorem edge_scheduled {s : LState} (u : Nat) (h : alookup u s.status.last = none ∨ alookup u s.status.last = some .paused)
    (t : Nat) : Edge (alookup t s.status.last) (alookup t (scheduled s u).status.last) := by
  rw [scheduled_last, alookup_aset]
  split
  · next hc => rcases h with h | h <;> rw [hc, h] <;> rfl
  · exact Edge.refl _

theorem Trans.edge {s s' : LState} {a : Ans} (tr : Trans s a s') (hS : SInv s) (hI : KInv s) (t : Nat) :
    Edge (alookup t s.status.last) (alookup t s'.status.last) := by
  cases tr.cnt with
  | same f | toFin f | polled _ f => rw [f.status]; exact Edge.refl _
  | updated hp => exact edge_afterUpdate hS (hI (hp ▸ rfl)) hp t
  | marked _ hst => rw [hst]; exact edge_markStopped _ t
  -- a trial enters the records as in progress, or goes back to it from paused
  | scheduled hp =>
    rcases hp with hp | hp
    · exact edge_scheduled _ (.inl (alookup_eq_none_iff.mpr ((hI (hp ▸ rfl)).rg.regAdd (.inr hp)).2)) t
    · exact edge_scheduled _ (.inr ((hI (hp ▸ rfl)).rg.regResumeCb hp).1) t
  | _ => exact Edge.refl _

end SyneTune.Tuner
