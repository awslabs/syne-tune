import SyneTune.Lemmas.TunerCases
/-
Control flow of the tuning-loop machine: the control point only moves along the edges of `flow` (`Trans.flow`), the
configuration never changes (`Trans.cfg`), the ghost log is written by `step` only (`Trans.log`, `step_of_trans`).
"Which call can follow which" questions become finite checks over `Pc` (`Pc.forall`, `flow_rel`); a clause guarded by
a class of control points is kept by a step that does not start at one of the class's entry points (`EnteredFrom`).
Over runs: `Reach.cfg`, `Reach.inv` (of which the `X.reach` are instances), `step_log_obs`; how the loop is left:
`Trans.into_fin`, `Trans.of_raise`, `Trans.err_mono`.
-/
namespace SyneTune.Tuner
open SyneTune

/-- the control points that can follow `p`: a hand-written table that mirrors `next`; `Trans.flow` is its justification -/
def succs : Pc → List Pc
  | .tuningStart => [.evalStop, .finTuningEnd]
  | .evalStop => [.clock, .loopHead]
  | .clock => [.loopHead, .finTuningEnd]
  | .loopHead => [.loopStart, .finTuningEnd]
  | .loopStart => [.fetch, .finTuningEnd]
  | .fetch => [.cbFetch, .finTuningEnd]
  | .cbFetch => [.nextRes, .finTuningEnd]
  | .nextRes => [.second, .nextRes, .decision, .finTuningEnd]
  | .decision => [.cbResult, .finTuningEnd]
  | .cbResult => [.stopCmd, .removeS, .pauseCmd, .nextRes, .finTuningEnd]
  | .stopCmd => [.stopDel, .removeS, .finTuningEnd]
  | .stopDel => [.removeS, .finTuningEnd]
  | .removeS => [.nextRes, .finTuningEnd]
  | .pauseCmd => [.removeP, .finTuningEnd]
  | .removeP => [.nextRes, .finTuningEnd]
  | .second => [.afterUpd, .stdoutNM, .completeS, .completeCb, .errorS, .second]
  | .stdoutNM => [.stderrNM, .finTuningEnd]
  | .stderrNM => [.finTuningEnd]
  | .completeS => [.completeCb, .second, .finTuningEnd]
  | .completeCb => [.second, .finTuningEnd]
  | .errorS => [.second, .finTuningEnd]
  | .afterUpd => [.sleepWait, .finTuningEnd, .schedNew]
  | .sleepWait => [.loopEnd, .finTuningEnd]
  | .schedNew => [.sleepSched, .suggestNext, .busy]
  | .busy => [.sleepSched, .suggestNext, .finTuningEnd]
  | .sleepSched => [.loopEnd, .finTuningEnd]
  | .suggestNext => [.loopEnd, .suggest]
  | .suggest => [.loopEnd, .startCmd, .resumeCmd, .finTuningEnd]
  | .startCmd => [.copyCmd, .addS, .finTuningEnd]
  | .copyCmd => [.addS, .finTuningEnd]
  | .addS => [.startCb, .finTuningEnd]
  | .startCb => [.suggestNext, .finTuningEnd]
  | .resumeCmd => [.resumeCb, .finTuningEnd]
  | .resumeCb => [.suggestNext, .finTuningEnd]
  | .loopEnd => [.removable, .evalStop, .finTuningEnd]
  | .removable => [.delNext, .finTuningEnd]
  | .delNext => [.evalStop, .delRem]
  | .delRem => [.delNext, .finTuningEnd]
  | .finTuningEnd => [.finAll, .done]
  | .finAll => [.finStatusNext, .done]
  | .finStatusNext => [.finDelAll, .finStatus]
  | .finStatus => [.finStop, .finStatusNext, .done]
  | .finStop => [.finStopDel, .finStatusNext, .done]
  | .finStopDel => [.finStatusNext, .done]
  | .finDelAll => [.finDelNext, .finMark]
  | .finDelNext => [.finMark, .finDel]
  | .finDel => [.finDelNext, .done]
  | .finMark => [.hfOut, .done]
  | .hfOut => [.hfErr, .done]
  | .hfErr => [.done]
  | .done => [.done]

def flow (p q : Pc) : Bool := (succs p).contains q

/-- the control points in the order of their declaration (`Pc.mem_all` relies on the order) -/
def Pc.all : List Pc :=
  [.tuningStart, .clock, .loopStart, .fetch, .cbFetch, .decision, .cbResult, .stopCmd, .stopDel, .removeS, .pauseCmd,
   .removeP, .stdoutNM, .stderrNM, .completeS, .completeCb, .errorS, .sleepWait, .busy, .sleepSched, .suggest,
   .startCmd, .copyCmd, .addS, .startCb, .resumeCmd, .resumeCb, .loopEnd, .removable, .delRem, .finTuningEnd, .finAll,
   .finStatus, .finStop, .finStopDel, .finDel, .hfOut, .hfErr, .done,
   .evalStop, .loopHead, .nextRes, .second, .afterUpd, .schedNew, .suggestNext, .delNext, .finStatusNext, .finDelAll,
   .finDelNext, .finMark]

theorem Pc.mem_all (p : Pc) : p ∈ Pc.all :=
  List.mem_of_getElem? (show Pc.all[p.ctorIdx]? = some p by cases p <;> rfl)

/-- a fact about every control point, checked by evaluation (`h` by `decide`) -/
theorem Pc.forall {P : Pc → Prop} (h : ∀ p ∈ Pc.all, P p) (p : Pc) : P p := h p (Pc.mem_all p)

theorem Pc.ne_of_class {C : Pc → Bool} {b : Bool} {q p : Pc} (hq : C q = b) (hp : C p = !b) : q ≠ p :=
  fun e => by rw [e, hp] at hq; cases b <;> cases hq

/-- a fact about every edge of the control-flow graph, checked by evaluation (`h` by `decide`) -/
theorem flow_rel {R : Pc → Pc → Prop} (h : ∀ p ∈ Pc.all, ∀ q ∈ succs p, R p q) {p q : Pc} (hf : flow p q = true) :
    R p q :=
  h p (Pc.mem_all p) q (List.contains_iff_mem.mp hf)

/-- The control points of the class `C` are entered from those in `E` only: along every other edge the
class at the target gives the class at the source.  A clause of an invariant that is guarded by `C` and
reads fields a transition leaves alone therefore survives the transition unless it starts in `E`. -/
abbrev EnteredFrom (E : List Pc) (C : Pc → Prop) : Prop :=
  ∀ p ∈ Pc.all, p ∉ E → ∀ q ∈ succs p, C q → C p

theorem EnteredFrom.back {E : List Pc} {C : Pc → Prop} (h : EnteredFrom E C) {p q : Pc} (hf : flow p q = true)
    {p₀ : Pc} (hpc : p = p₀) (hp : p₀ ∉ E) (hq : C q) : C p :=
  h p (Pc.mem_all p) (hpc ▸ hp) q (List.contains_iff_mem.mp hf) hq

theorem EnteredFrom.not {E : List Pc} {C : Pc → Prop} (h : EnteredFrom E C) {p q : Pc} (hf : flow p q = true)
    {p₀ : Pc} (hpc : p = p₀) (hp : p₀ ∉ E) (hn : ¬C p) : ¬C q :=
  fun hq => hn (h.back hf hpc hp hq)

/-- the `finally` block is never left -/
theorem fin_from : EnteredFrom [] (finPc · = false) := by decide +kernel

theorem fin_back {p q : Pc} (hf : flow p q = true) (hq : finPc q = false) : finPc p = false :=
  fin_from.back hf rfl nofun hq

@[simp] theorem scheduled_pc (s : LState) (t : Nat) : (scheduled s t).pc = .suggestNext := rfl
theorem scheduled_cfg (s : LState) (t : Nat) : (scheduled s t).cfg = s.cfg := by rw [scheduled_eq]
theorem scheduled_k (s : LState) (t : Nat) : (scheduled s t).k = s.k - 1 := by rw [scheduled_eq]
theorem scheduled_running (s : LState) (t : Nat) :
    (scheduled s t).running = if s.loc = none then sadd t s.running else s.running := by
  unfold scheduled addRunning; split <;> simp [*]
@[simp] theorem started_pc (s : LState) : (started s).pc = .addS := rfl
@[simp] theorem started_cfg (s : LState) : (started s).cfg = s.cfg := rfl
@[simp] theorem afterUpdate_cfg (s : LState) : (afterUpdate s).cfg = s.cfg := rfl
@[simp] theorem raiseFin_pc (s : LState) (e : Raised) : (raiseFin s e).pc = .finTuningEnd := rfl
@[simp] theorem exitRaise_pc (s : LState) : (exitRaise s).pc = .done := rfl
@[simp] theorem raiseFin_cfg (s : LState) (e : Raised) : (raiseFin s e).cfg = s.cfg := rfl
@[simp] theorem exitRaise_cfg (s : LState) : (exitRaise s).cfg = s.cfg := rfl

/-- the three targets of the branch of `run` after `_process_new_results` -/
theorem afterUpdate_pc (s : LState) :
    (afterUpdate s).pc = .sleepWait ∨ (afterUpdate s).pc = .finTuningEnd ∨ (afterUpdate s).pc = .schedNew := by
  unfold afterUpdate
  dsimp only
  split
  · split
    · exact Or.inl rfl
    · exact Or.inr (Or.inl rfl)
  · exact Or.inr (Or.inr rfl)

theorem afterUpdate_pc_not {C : Pc → Bool} (h : ∀ q ∈ succs .afterUpd, C q = false) (s : LState) :
    C (afterUpdate s).pc = false := by
  rcases afterUpdate_pc s with hh | hh | hh <;> rw [hh] <;> exact h _ (by decide)

theorem Item.pc {s s' : LState} {t : Nat} {st : St} {rest : List (Nat × St)} (h : Item s t rest st s') :
    flow .second s'.pc = true ∨ s'.pc = s.pc := by
  cases h
  case pausedCompleted | skip => exact .inr rfl
  all_goals exact .inl rfl

theorem Trans.cfg {s s' : LState} {a : Ans} (t : Trans s a s') : s'.cfg = s.cfg := by
  cases t
  case fin f => cases f <;> rfl
  case item i => cases i <;> rfl
  all_goals rfl

theorem Trans.flow {s s' : LState} {a : Ans} (t : Trans s a s') : flow s.pc s'.pc = true := by
  cases t
  case ctl h => cases h <;> (rw [‹s.pc = _›]; rfl)
  -- every calling control point has an edge to where its exception is handled
  case raiseEnv hpc hs =>
    exact Pc.forall (P := fun p => finPc p = false → p.silent = false → Tuner.flow p .finTuningEnd = true) (by decide +kernel) _ hpc hs
  case fin f =>
    cases f
    case exitRaise hpc hs =>
      exact Pc.forall (P := fun p => finPc p = true → p.silent = false → Tuner.flow p .done = true) (by decide +kernel) _ hpc hs
    all_goals (rw [‹s.pc = _›]; rfl)
  case item hpc _ i =>
    rcases i.pc with h | h
    · rw [hpc]; exact h
    · rw [h, hpc]; rfl
  case updated hpc => rcases afterUpdate_pc s with h | h | h <;> rw [h, hpc] <;> rfl
  case scheduled hpc => rcases hpc with hpc | hpc <;> rw [hpc] <;> rfl
  all_goals (rw [‹s.pc = _›]; rfl)

theorem Trans.log {s s' : LState} {a : Ans} (t : Trans s a s') : s'.log = s.log := by
  cases t
  case fin f => cases f <;> rfl
  case item i => cases i <;> rfl
  all_goals rfl

theorem step_eq_log (s : LState) (a : Ans) : step s a = { next s a with log := (step s a).log } := by
  rw [step_eq]; split <;> rfl

theorem step_of_trans {P : LState → Prop} (hlog : ∀ (s : LState) (l : List Call), P s → P { s with log := l })
    {s : LState} {a : Ans} (h : ∀ {s'}, Trans s a s' → P s') : P (step s a) :=
  step_of_next hlog s a (h (next_trans s a))

theorem step_cfg (s : LState) (a : Ans) : (step s a).cfg = s.cfg :=
  step_of_trans (P := fun s' => s'.cfg = s.cfg) (fun _ _ h => h) Trans.cfg

theorem Reach.cfg {c : Cfg} {P : LState → Ans → Prop} {s : LState} (h : Reach c P s) : s.cfg = c := by
  induction h with
  | init => rfl
  | step _ _ ih => exact (step_cfg _ _).trans ih

theorem Reach.inv {c : Cfg} {P : LState → Ans → Prop} {X : LState → Prop} (h0 : X (Tuner.init c))
    (hlog : ∀ (s : LState) (l : List Call), X s → X { s with log := l })
    (htr : ∀ {s a s'}, Reach c P s → P s a → X s → Trans s a s' → X s') {s : LState} (h : Reach c P s) : X s := by
  induction h with
  | init => exact h0
  | step h hp ih => exact step_of_trans hlog (htr h hp ih)

theorem run_cfg (s : LState) (as : List Ans) : (run s as).cfg = s.cfg := by
  induction as generalizing s with
  | nil => rfl
  | cons a as ih => simp only [run]; rw [ih, step_cfg]

theorem step_pc (s : LState) (a : Ans) : (step s a).pc = (next s a).pc := by
  rw [step_eq]; split <;> rfl

theorem step_pending (s : LState) (a : Ans) : pending (step s a) = pending (next s a) := by
  rw [step_eq]; split
  · rfl
  · unfold pending; rfl

theorem step_flow (s : LState) (a : Ans) : flow s.pc (step s a).pc = true :=
  step_pc s a ▸ (next_trans s a).flow

/-- The calls of one kind in the log, after a step.  `F` extracts them from a log (`g` from a single
call) and such a call is pending exactly at the control point `p`, where it reads `x`. -/
theorem step_log_obs {α} {F : List Call → List α} {g : Call → List α} (happ : ∀ l c, F (l ++ [c]) = F l ++ g c)
    {p : Pc} {x : LState → α} (hg : ∀ s, g (pending s) = if s.pc = p then [x s] else [])
    (hs : p.silent = false) (hd : p ≠ .done) (s : LState) (a : Ans) :
    F (step s a).log = F s.log ++ if (next s a).pc = p then [x (next s a)] else [] := by
  have t := next_trans s a
  rw [step_eq]
  split
  · rename_i hsil
    -- nothing is logged: the target is silent or the source is `done`; `p` makes a call, so the target could be `p`
    -- only from `done`, and `done` only goes to `done ≠ p`
    have hne : (next s a).pc ≠ p := by
      intro hc
      rw [hc, hs, Bool.false_or, decide_eq_true_eq] at hsil
      have hfl := t.flow
      rw [hsil, hc] at hfl
      exact hd (by simpa [flow, succs] using hfl)
    rw [t.log, if_neg hne, List.append_nil]
  · show F ((next s a).log ++ [pending (next s a)]) = _
    rw [happ, hg, t.log]

variable {s s' : LState} {a : Ans}

/-- the `finally` block is entered at `on_tuning_end` -/
theorem enter_fin {p q : Pc} (hf : flow p q = true) (hp : finPc p = false) (hq : finPc q = true) : q = .finTuningEnd :=
  flow_rel (R := fun p q => finPc p = false → finPc q = true → q = .finTuningEnd) (by decide +kernel) hf hp hq

/-- a transition from inside the loop into the `finally` block is the `while` test with the stopping condition true,
the `break`, or an exception -/
theorem Trans.into_fin (t : Trans s a s') (hf : finPc s.pc = false) (hf' : finPc s'.pc = true) :
    (s.pc = .loopHead ∧ s.stopReached = true) ∨
    (s.pc = .afterUpd ∧ (s.exhausted = true ∨ (s.cfg.wait = true ∧ s.stopReached = true))) ∨
    s'.err.isSome = true := by
  have hfl := t.flow
  have hq := enter_fin hfl hf hf'
  cases t
  case ctl hc =>
    cases hc
    case leaveLoop hpc hg =>
      refine .inl ⟨hpc, ?_⟩
      cases hsr : s.stopReached
      · simp [hsr] at hg
      · rfl
    all_goals cases hq
  case raiseEnv | assertFail | keyError | noMetrics => exact .inr (.inr rfl)
  case updated hpc =>
    refine .inr (.inl ⟨hpc, ?_⟩)
    unfold afterUpdate at hq
    dsimp only at hq
    split at hq
    · rename_i hc
      simpa only [Bool.or_eq_true, Bool.and_eq_true] using hc
    · cases hq
  case fin f => exact nomatch hf.symm.trans f.src
  case skipResult => exact nomatch hf.symm.trans (congrArg finPc hq)
  case item hpc _ _ => rw [hpc, hq] at hfl; cases hfl
  all_goals cases hq

theorem Trans.into_fin_ok (t : Trans s a s') (hf : finPc s.pc = false) (hf' : finPc s'.pc = true) (he : s'.err = none) :
    s.pc = .loopHead ∨ s.pc = .afterUpd := by
  rcases t.into_fin hf hf' with h | h | h
  · exact .inl h.1
  · exact .inr h.1
  · rw [he] at h; cases h

/-- an exception is an answer to a call: it is accepted at a calling control point only, and inside the loop
the `finally` block starts -/
theorem Trans.of_raise (t : Trans s .raise s') :
    pending s = .tau ∨ (finPc s.pc = false ∧ s' = raiseFin s .env) ∨ finPc s.pc = true := by
  cases t
  case ctl hc => cases hc <;> exact .inl (by unfold pending; rw [‹s.pc = _›])
  case fin f => exact .inr (.inr f.src)
  case raiseEnv hpc _ => exact .inr (.inl ⟨hpc, rfl⟩)
  all_goals exact .inl (by unfold pending; rw [‹s.pc = _›])

/-- an exception in flight is never cleared -/
theorem Trans.err_mono (t : Trans s a s') (h : s'.err = none) : s.err = none := by
  cases t
  case raiseEnv | assertFail | keyError | noMetrics => cases h
  case fin f =>
    cases f
    case exitRaise | failed => cases h
    all_goals exact h
  case item i => cases i <;> exact h
  all_goals exact h

end SyneTune.Tuner
