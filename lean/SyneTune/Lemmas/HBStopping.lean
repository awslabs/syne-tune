import SyneTune.Model.HB
import SyneTune.Lemmas.Rung
/- The loop of `StoppingRungSystem.on_task_report` (`stopScan`): where it stops and what it keeps; when the
comparison with the cutoff is forced; the rung system `mkRungSys` builds. -/
namespace SyneTune

/-- `_rungs` is ordered by strictly decreasing level. -/
def RungsDecr (rs : List Rung) : Prop := rs.Pairwise (fun a b => b.level < a.level)

/-- per-rung invariant: every trial at most once, data sorted best-first. -/
def RungOK (m : Mode) (rg : Rung) : Prop :=
  (rg.data.map (·.tid)).Nodup ∧ SortedBy m rg.data

/-- value of the loop variable `next_milestone` after the rungs of `pre` have been passed -/
def lastLevel (next : Nat) : List Rung → Nat
  | [] => next
  | rg :: rest => lastLevel rg.level rest

theorem lastLevel_mem (next : Nat) (pre : List Rung) :
    lastLevel next pre = next ∨ ∃ p ∈ pre, p.level = lastLevel next pre := by
  induction pre generalizing next with
  | nil => exact .inl rfl
  | cons rg rest ih =>
    refine .inr ((ih rg.level).elim (fun h => ⟨rg, List.mem_cons_self .., h.symm⟩) fun ⟨p, hp, h⟩ => ⟨p, List.mem_cons_of_mem _ hp, h⟩)

/-- levels decrease along `_rungs`, so the loop variable ends at the smallest level passed -/
theorem lastLevel_le {next : Nat} {pre : List Rung} (hd : RungsDecr pre) : ∀ p ∈ pre, lastLevel next pre ≤ p.level := by
  induction pre generalizing next with
  | nil => exact nofun
  | cons rg rest ih =>
    have hd' := List.pairwise_cons.mp hd
    intro p hp
    show lastLevel rg.level rest ≤ p.level
    rcases List.mem_cons.mp hp with rfl | hp
    · rcases lastLevel_mem p.level rest with h | ⟨q, hq, h⟩
      · exact Nat.le_of_eq h
      · exact h ▸ Nat.le_of_lt (hd'.1 q hq)
    · exact ih hd'.2 p hp

theorem RungsDecr.above_of_append {pre post : List Rung} {rg : Rung} (hd : RungsDecr (pre ++ rg :: post)) :
    ∀ p ∈ pre, rg.level < p.level :=
  fun p hp => (List.pairwise_append.mp hd).2.2 p hp rg (List.mem_cons_self ..)

theorem stopScan_at_rung (m : Mode) (tid r : Nat) (v : Rat) (hint : Bool) (next : Nat)
    (pre post : List Rung) (rg : Rung)
    (hd : ∀ p ∈ pre, r < p.level ∨ p.contains tid = true) (hl : rg.level = r) (hnc : rg.contains tid = false) :
    stopScan m tid r v hint next (pre ++ rg :: post) =
      (pre ++ rg.add m { tid := tid, val := v } :: post,
        { continues := (taskContinues m v (rg.add m { tid := tid, val := v }) hint).1, reached := true,
          next := some (lastLevel next pre),
          free := (taskContinues m v (rg.add m { tid := tid, val := v }) hint).2 }) := by
  induction pre generalizing next with
  | nil =>
    simp only [List.nil_append, stopScan, hl, Nat.lt_irrefl, hnc, Bool.false_eq_true, or_self, if_false, lastLevel]
  | cons p ps ih =>
    obtain ⟨hp, hd'⟩ := List.forall_mem_cons.mp hd
    simp only [List.cons_append, stopScan, hp, if_true, ih p.level hd', lastLevel]

/-- Where the loop of `StoppingRungSystem.on_task_report` stops.  It passes the rungs `pre` (above `r`, or
holding the trial already).  Then either nothing is recorded (no rung is left, or the next one lies below
`r`), or the next rung `rg` has level `r`: the value is entered there and compared with the cutoff. -/
theorem stopScan_out (m : Mode) (tid r : Nat) (v : Rat) (hint : Bool) (next : Nat) (rs : List Rung) :
    ∃ pre, (∀ p ∈ pre, r < p.level ∨ p.contains tid = true) ∧
      ((stopScan m tid r v hint next rs =
            (rs, { continues := true, reached := false, next := some (lastLevel next pre) }) ∧
          (rs = pre ∨ ∃ rg post, rs = pre ++ rg :: post ∧ rg.level < r)) ∨
        ∃ rg post, rs = pre ++ rg :: post ∧ rg.level = r ∧ rg.contains tid = false ∧
          stopScan m tid r v hint next rs =
            (pre ++ rg.add m { tid := tid, val := v } :: post,
              { continues := (taskContinues m v (rg.add m { tid := tid, val := v }) hint).1, reached := true,
                next := some (lastLevel next pre),
                free := (taskContinues m v (rg.add m { tid := tid, val := v }) hint).2 })) := by
  induction rs generalizing next with
  | nil => exact ⟨[], nofun, .inl ⟨rfl, .inl rfl⟩⟩
  | cons rg rest ih =>
    unfold stopScan
    by_cases h1 : r < rg.level ∨ rg.contains tid = true
    · obtain ⟨pre, hpre, hcase⟩ := ih rg.level
      refine ⟨rg :: pre, List.forall_mem_cons.mpr ⟨h1, hpre⟩, ?_⟩
      rw [if_pos h1]
      rcases hcase with ⟨he, hrs⟩ | ⟨x, post, hrs, hl, hnc, he⟩
      · refine .inl ⟨by rw [he]; rfl, hrs.imp (congrArg (rg :: ·)) fun ⟨x, post, h, hl⟩ => ⟨x, post, congrArg (rg :: ·) h, hl⟩⟩
      · exact .inr ⟨x, post, congrArg (rg :: ·) hrs, hl, hnc, by rw [he]; rfl⟩
    · refine ⟨[], nofun, ?_⟩
      rw [if_neg h1]
      by_cases h2 : rg.level < r
      · rw [if_pos h2]
        exact .inl ⟨rfl, .inr ⟨rg, rest, rfl, h2⟩⟩
      · rw [if_neg h2]
        exact .inr ⟨rg, rest, rfl, by omega, Bool.eq_false_iff.mpr (not_or.mp h1).2, rfl⟩

theorem stopScan_off_rung (m : Mode) (tid r : Nat) (v : Rat) (hint : Bool) (next : Nat)
    (rs : List Rung) (h : ∀ rg ∈ rs, rg.level = r → rg.contains tid = true) :
    ∃ n, stopScan m tid r v hint next rs = (rs, { continues := true, reached := false, next := some n }) := by
  obtain ⟨pre, _, ⟨he, _⟩ | ⟨rg, post, rfl, hl, hnc, _⟩⟩ := stopScan_out m tid r v hint next rs
  · exact ⟨_, he⟩
  · rw [h rg (by simp) hl] at hnc; cases hnc

theorem rungOK_add (m : Mode) (rg : Rung) (e : Entry) (h : RungOK m rg)
    (hn : rg.contains e.tid = false) : RungOK m (rg.add m e) := by
  unfold RungOK Rung.add at *
  exact ⟨insertEntry_tids_nodup m e rg.data h.1 (not_mem_of_contains hn), insertEntry_sorted m e rg.data h.2⟩

theorem taskContinues_forced (m : Mode) (v : Rat) (rg : Rung) (hint : Bool) (c : Rat) (b : Bool)
    (hc : rg.cutoff m = some c) (hf : cmpNoWorse m v c rg.scale = .forced b) :
    (taskContinues m v rg hint).1 = b := by
  unfold taskContinues; simp [hc, hf, Cmp.resolve]

theorem taskContinues_none (m : Mode) (v : Rat) (rg : Rung) (hint : Bool)
    (hc : rg.cutoff m = none) : (taskContinues m v rg hint).1 = true := by
  unfold taskContinues; simp [hc]

theorem cmpLe_forced (a b sc : Rat) (x : Bool) (h : cmpLe a b sc = .forced x) : (x = true ↔ a ≤ b) := by
  unfold cmpLe at h
  split at h
  · cases h
  · injection h with h; subst h; simp

theorem cmpNoWorse_forced (m : Mode) (v c sc : Rat) (x : Bool) (h : cmpNoWorse m v c sc = .forced x) :
    (x = true ↔ m.noWorse v c) := by
  cases m <;> simp only [cmpNoWorse, Mode.noWorse] at * <;> exact cmpLe_forced _ _ _ _ h

theorem mem_mkRungSys {levels : List Nat} {qs : List Rat} {maxT : Nat} {rg : Rung}
    (h : rg ∈ (mkRungSys levels qs maxT).rungs) : rg.data = [] ∧ rg.q ∈ qs ∧ rg.level ∈ levels := by
  replace h := List.mem_reverse.mp h
  induction levels generalizing qs with
  | nil => cases h
  | cons l ls ih =>
    cases qs with
    | nil => cases h
    | cons q qs' =>
      rcases List.mem_cons.mp h with rfl | h
      · exact ⟨rfl, List.mem_cons_self .., List.mem_cons_self ..⟩
      · exact (ih h).imp id (.imp (List.mem_cons_of_mem _) (List.mem_cons_of_mem _))

theorem mkSys_fields (type : HBType) (numThr : Nat) (levels : List Nat) (quants : List Rat) (maxT : Nat) :
    (mkSys type numThr levels quants maxT).rungs = (mkRungSys levels quants maxT).rungs ∧
    (mkSys type numThr levels quants maxT).maxT = maxT ∧ (mkSys type numThr levels quants maxT).running = [] := by
  unfold mkSys
  split <;> exact ⟨rfl, rfl, rfl⟩

theorem Manager.init_sys {ty : HBType} {mode : Mode} {maxT : Nat} {levels : List Nat} {brackets : Nat}
    {perBracket : Bool} {numThr : Nat} {sys : RungSys}
    (h : sys ∈ (Manager.init ty mode maxT levels brackets perBracket numThr).systems) :
    ∃ k, sys = mkSys ty numThr (levels.drop k) ((promoteQuantiles levels maxT).drop k) maxT := by
  simp only [Manager.init, List.mem_map, List.mem_range] at h
  obtain ⟨k, _, rfl⟩ := h
  exact ⟨k, rfl⟩

end SyneTune
