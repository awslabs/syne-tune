import SyneTune.Lemmas.SimSteps
/-
Results in flight.  The results of the jobs are kept in three stores: the event heap, the queue of a
trial (`_next_results_to_fetch`), the log of handled results.  No step of the backend invents one: a
result in a store after a step was in a store before it, or it was born at the start event the step
handled, as a result of the run that event recorded (`Prim.pend`, `Prim.tok`; `Prov` says which result of
which recorded run it is, `runsOf` counts the runs of a trial).  So a property of results that no step
destroys and that holds at birth holds of every result in every store (`Tok.keeps`); the first instance
is `Fresh`.
-/
namespace SyneTune.SimL
open SyneTune SyneTune.Backend

variable {J : Type}

def runsOf (s : Sim J) (t : Nat) : Nat := ((s.trials[t]?).map (·.runs)).getD 0

theorem runsOf_some {s : Sim J} {t : Nat} {x : STrial} (h : s.trials[t]? = some x) : runsOf s t = x.runs := by
  simp [runsOf, h]

theorem runsOf_congr {s s' : Sim J} (h : s'.trials.map (·.runs) = s.trials.map (·.runs)) (u : Nat) :
    runsOf s' u = runsOf s u := by
  have := congrArg (fun l => (l[u]?).getD 0) h
  simpa only [runsOf, List.getElem?_map] using this

theorem runsOf_of_rv {s s' : Sim J} (h : s'.trials.map rv = s.trials.map rv) (u : Nat) : runsOf s' u = runsOf s u := by
  have := congrArg (List.map Prod.fst) h
  rw [List.map_map, List.map_map] at this
  exact runsOf_congr this u

theorem runsOf_updT (s : Sim J) (t u : Nat) (f : STrial → STrial) (hf : ∀ y, (f y).runs = y.runs) :
    runsOf (s.updT t f) u = runsOf s u :=
  runsOf_congr (map_updT (g := (·.runs)) s t hf) u

theorem runsOf_newTrial (s : Sim J) (u : Nat) :
    runsOf ({ s with trials := s.trials ++ [{}] } : Sim J) u = runsOf s u := by
  unfold runsOf
  cases hx : (s.trials ++ [({} : STrial)])[u]? with
  | none =>
    rw [List.getElem?_eq_none (l := s.trials)]
    have := List.getElem?_eq_none_iff.mp hx
    simp at this; omega
  | some x =>
    rcases newTrial_get hx with hx' | ⟨rfl, rfl⟩
    · rw [hx']
    · rw [List.getElem?_eq_none (Nat.le_refl _)]; rfl

theorem startResult_runsOf (A : Arith) (s : Sim J) (t : Nat) (te : Rat) (x : STrial) (js' : J) (status : St)
    (rs : List Res) (hx : s.trials[t]? = some x) (u : Nat) :
    runsOf (startResult A s t te x.runs js' status rs) u = if u = t then x.runs + 1 else runsOf s u := by
  unfold runsOf
  rw [show (startResult A s t te x.runs js' status rs).trials[u]? = _ from getElem?_modifyAt _ t u s.trials]
  by_cases hu : u = t
  · subst hu; simp [hx]
  · simp only [hu, if_false]

theorem runsOf_le_startResult (A : Arith) (s : Sim J) (t : Nat) (te : Rat) (x : STrial) (js' : J) (status : St)
    (rs : List Res) (hx : s.trials[t]? = some x) (u : Nat) :
    runsOf s u ≤ runsOf (startResult A s t te x.runs js' status rs) u := by
  rw [startResult_runsOf A s t te x js' status rs hx]
  split
  · rename_i hu; rw [hu, runsOf_some hx]; omega
  · exact Nat.le_refl _

/-- a result in flight -/
structure Tok where
  trial : Nat
  res : Res
  time : Rat
  tag : Tag

def Tok.Pend (s : Sim J) (k : Tok) : Prop :=
  (∃ e ∈ s.heap, e.trial = k.trial ∧ e.time = k.time ∧ e.kind = .result k.res k.tag) ∨
  (∃ l, (k.trial, l) ∈ s.next ∧ ⟨k.res, k.time, k.tag⟩ ∈ l)

def Tok.In (s : Sim J) (k : Tok) : Prop :=
  k.Pend s ∨ ∃ en ∈ s.log, en.trial = k.trial ∧ en.tag = k.tag ∧ en.arr.res = k.res ∧ en.arr.time = k.time

def Prov (A : Arith) (job : JobFn J) (s : Sim J) (t : Nat) (res : Res) (time : Rat) (tag : Tag) : Prop :=
  ∃ ρ ∈ s.runs, ρ.trial = t ∧ ρ.run = tag.run ∧ ρ.results[tag.idx]? = some res ∧
    (∃ st, job ρ.jsBefore t = .ok (ρ.jsAfter, st, ρ.results)) ∧
    time = A.add (A.add ρ.start res.elapsed) s.cfg.dResult

structure Born (A : Arith) (job : JobFn J) (s s' : Sim J) (k : Tok) : Prop where
  run_eq : runsOf s k.trial = k.tag.run
  run_lt : k.tag.run < runsOf s' k.trial
  prov : Prov A job s' k.trial k.res k.time k.tag

theorem Tok.Pend.of_sub {s s' : Sim J} {k : Tok} (h : k.Pend s') (hh : ∀ e ∈ s'.heap, e ∈ s.heap)
    (hn : ∀ p ∈ s'.next, p ∈ s.next) : k.Pend s :=
  h.imp (fun ⟨e, he, h⟩ => ⟨e, hh e he, h⟩) (fun ⟨l, hl, h⟩ => ⟨l, hn _ hl, h⟩)

theorem Tok.In.of_sub {s s' : Sim J} {k : Tok} (h : k.In s') (hh : ∀ e ∈ s'.heap, e ∈ s.heap)
    (hn : ∀ p ∈ s'.next, p ∈ s.next) (hl : ∀ en ∈ s'.log, en ∈ s.log) : k.In s :=
  h.imp (·.of_sub hh hn) (fun ⟨en, hen, h⟩ => ⟨en, hl en hen, h⟩)

theorem Tok.In.of_eq {s s' : Sim J} {k : Tok} (h : k.In s') (hh : s'.heap = s.heap) (hn : s'.next = s.next)
    (hl : s'.log = s.log) : k.In s :=
  h.of_sub (hh ▸ fun _ h => h) (hn ▸ fun _ h => h) (hl ▸ fun _ h => h)

theorem Tok.Pend.of_push {s : Sim J} {tm : Rat} {t : Nat} {ek : EvKind} {k : Tok} (hk : ∀ r tag, ek ≠ .result r tag)
    (h : k.Pend (s.push tm t ek)) : k.Pend s := by
  rcases h with ⟨e, he, h⟩ | h
  · rcases (mem_insertEv _ _ _).mp he with rfl | he
    · exact absurd h.2.2 (hk _ _)
    · exact Or.inl ⟨e, he, h⟩
  · exact Or.inr h

section
variable {A : Arith} {job : JobFn J} {H : J → J → Prop} {s s' : Sim J}

theorem Tok.In.of_flush {t : Nat} {l : List Arrived} {d : Bool} {k : Tok} (hl : alookup t s.next = some l)
    (h : k.In (flush s t l d)) : k.In s := by
  obtain ⟨kt, kr, ktm, ktg⟩ := k
  rcases h with h | ⟨en, hen, h⟩
  · exact Or.inl (h.of_sub (fun _ h => h) (fun _ => mem_adel))
  · rcases List.mem_append.mp hen with hen | hen
    · exact Or.inr ⟨en, hen, h⟩
    · obtain ⟨a, ha, rfl⟩ := List.mem_map.mp hen
      obtain ⟨rfl, rfl, rfl, rfl⟩ := h
      exact Or.inl (Or.inr ⟨l, mem_of_alookup hl, ha⟩)

theorem Prim.pend (hp : Prim A job H s s') {k : Tok} (h : k.Pend s') : k.Pend s ∨ Born A job s s' k := by
  obtain ⟨kt, kr, ktm, ktg⟩ := k
  cases hp with
  | @event _ e rest hheap _ hev =>
    have hrest : ∀ e' ∈ rest, e' ∈ s.heap := fun e' he' => hheap ▸ List.mem_cons_of_mem _ he'
    rcases processEvent_cases hev with ⟨x, js', st, rs, _, hx, hj, rfl⟩ | ⟨st, nat, _, _, rfl⟩ | ⟨_, rfl⟩ | ⟨r, tag, hk, _, rfl⟩
    · rcases h with ⟨e', he', ht, htm, hk'⟩ | h
      · rcases mem_startResult.mp he' with rfl | h1 | ⟨i, r', hi, rfl⟩
        · cases hk'
        · exact Or.inl (Or.inl ⟨e', hrest e' h1, ht, htm, hk'⟩)
        · obtain ⟨rfl, rfl⟩ := EvKind.result.inj hk'
          cases ht; cases htm
          let ρ : RunRec J := ⟨e.trial, x.runs, e.time, s.js, js', rs⟩
          refine Or.inr {
            run_eq := runsOf_some hx
            run_lt := ?_
            prov := ⟨ρ, List.mem_append_right _ List.mem_cons_self, rfl, rfl, hi, ⟨st, hj⟩, rfl⟩ }
          rw [startResult_runsOf A _ _ _ x js' st rs hx, if_pos rfl]
          exact Nat.lt_succ_self _
      · exact Or.inl (Or.inr h)
    · exact Or.inl (h.of_sub hrest (fun _ h => h))
    · exact Or.inl (h.of_sub (fun e' he' => hrest e' (List.mem_filter.mp he').1) (fun _ h => h))
    · -- the head of the heap moves to the end of its trial's queue
      rcases h with ⟨e', he', h⟩ | ⟨l, hl, ha⟩
      · exact Or.inl (Or.inl ⟨e', hrest e' he', h⟩)
      · rcases mem_aset hl with hkv | hl
        · obtain ⟨ht, rfl⟩ := Prod.mk.inj hkv
          rcases List.mem_append.mp ha with ha | ha
          · obtain ⟨q, hq, ha⟩ := mem_getD_alookup ha
            exact Or.inl (Or.inr ⟨q, ht ▸ mem_of_alookup hq, ha⟩)
          · obtain ⟨rfl, rfl, rfl⟩ := Arrived.mk.inj (List.mem_singleton.mp ha)
            exact Or.inl (Or.inl ⟨e, hheap ▸ List.mem_cons_self, ht.symm, rfl, hk⟩)
        · exact Or.inl (Or.inr ⟨l, hl, ha⟩)
  | push tm t hk _ => exact Or.inl (h.of_push hk)
  | deliver ids =>
    refine Or.inl (h.of_sub (fun _ he => ?_) (fun _ hp => ?_))
    · exact (deliver_frame s ids).heap ▸ he
    · rw [dropRest_next] at hp; cases hp
  | _ => exact Or.inl h

/-- only a poll adds to the log, from the queues -/
theorem Prim.tok (hp : Prim A job H s s') {k : Tok} (h : k.In s') : k.In s ∨ Born A job s s' k := by
  rcases h with h | h
  · exact (hp.pend h).imp_left Or.inl
  · refine Or.inl ?_
    cases hp with
    | event _ _ hev =>
      rcases processEvent_cases hev with ⟨_, _, _, _, _, _, _, rfl⟩ | ⟨_, _, _, _, rfl⟩ | ⟨_, rfl⟩ | ⟨_, _, _, _, rfl⟩
      all_goals exact Or.inr h
    | deliver ids =>
      exact deliver_induct (fun x => ∀ k : Tok, k.In x → k.In s) (fun _ _ _ _ hl hx k hk => hx k (hk.of_flush hl))
        s ids (fun _ h => h) _ (Or.inr h)
    | _ => exact Or.inr h

theorem Prim.grow (hp : Prim A job H s s') : (∀ ρ ∈ s.runs, ρ ∈ s'.runs) ∧ ∀ u, runsOf s u ≤ runsOf s' u := by
  cases hp with
  | @event _ e rest hheap _ hev =>
    rcases processEvent_cases hev with ⟨x, js', st, rs, _, hx, hj, rfl⟩ | ⟨st, nat, _, _, rfl⟩ | ⟨_, rfl⟩ | ⟨r, tag, hk, _, rfl⟩
    · exact ⟨fun ρ hρ => List.mem_append_left _ hρ,
        runsOf_le_startResult A ({ s with heap := rest } : Sim J) _ _ x js' st rs hx⟩
    · exact ⟨fun _ h => h, fun u =>
        -- `by exact`: elaborated against the expected type, which is what determines the record update
        Nat.le_of_eq (Eq.symm (by exact runsOf_updT _ _ u _ (fun _ => rfl)))⟩
    · exact ⟨fun _ h => h, fun _ => Nat.le_refl _⟩
    · exact ⟨fun _ h => h, fun u =>
        Nat.le_of_eq (runsOf_updT ({ s with heap := rest } : Sim J) _ u _ (fun y => by split <;> rfl)).symm⟩
  | newTrial => exact ⟨fun _ h => h, fun u => Nat.le_of_eq (runsOf_newTrial s u).symm⟩
  | flags hrv _ => exact ⟨fun _ h => h, fun u => Nat.le_of_eq (runsOf_of_rv hrv u).symm⟩
  | deliver ids =>
    have ht := deliver_map (g := (·.runs)) (fun _ d _ => by cases d <;> rfl) s ids
    exact ⟨(deliver_frame s ids).runs ▸ fun _ h => h, fun u => Nat.le_of_eq (runsOf_congr ht u).symm⟩
  | _ => exact ⟨fun _ h => h, fun _ => Nat.le_refl _⟩

theorem Tok.keeps {P : Sim J → Tok → Prop} (mono : ∀ k, P s k → P s' k) (born : ∀ k, Born A job s s' k → P s' k)
    (hp : Prim A job H s s') (h : ∀ k : Tok, k.In s → P s k) : ∀ k : Tok, k.In s' → P s' k :=
  fun k hk => (hp.tok hk).elim (fun h0 => mono k (h k h0)) (born k)

end

def Fresh (s : Sim J) : Prop := ∀ k : Tok, k.In s → k.tag.run < runsOf s k.trial

theorem Fresh.prim {A : Arith} {job : JobFn J} {H : J → J → Prop} {s s' : Sim J} (hp : Prim A job H s s')
    (h : Fresh s) : Fresh s' :=
  Tok.keeps (P := fun s k => k.tag.run < runsOf s k.trial) (fun _ hk => Nat.lt_of_lt_of_le hk (hp.grow.2 _))
    (fun _ hb => hb.run_lt) hp h

theorem fresh_iff (s : Sim J) : Fresh s ↔
    (∀ e ∈ s.heap, ∀ r tag, e.kind = .result r tag → tag.run < runsOf s e.trial) ∧
    (∀ p ∈ s.next, ∀ a ∈ p.2, a.tag.run < runsOf s p.1) ∧ (∀ en ∈ s.log, en.tag.run < runsOf s en.trial) := by
  constructor
  · intro h
    exact ⟨fun e he r tag hk => h ⟨e.trial, r, e.time, tag⟩ (Or.inl (Or.inl ⟨e, he, rfl, rfl, hk⟩)),
      fun p hp a ha => h ⟨p.1, a.res, a.time, a.tag⟩ (Or.inl (Or.inr ⟨p.2, hp, ha⟩)),
      fun en hen => h ⟨en.trial, en.arr.res, en.arr.time, en.tag⟩ (Or.inr ⟨en, hen, rfl, rfl, rfl, rfl⟩)⟩
  · rintro ⟨h1, h2, h3⟩ k ((⟨e, he, ht, _, hk⟩ | ⟨l, hl, ha⟩) | ⟨en, hen, ht, hg, _⟩)
    · exact ht ▸ h1 e he _ _ hk
    · exact h2 _ hl _ ha
    · exact ht ▸ hg ▸ h3 en hen

end SyneTune.SimL
