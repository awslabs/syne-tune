import SyneTune.Model.Moasha
import Mathlib.Algebra.Order.Ring.Rat
import Mathlib.Data.List.Sort
/- Helper lemmas for C19: `sorted` / `searchsorted`, the rank comparison, `_Bracket.on_result`.

The statements of `Props/C19.lean` speak of one rung through `MRung.skips` (the loop passes it over), `MRung.record`
(it gains the entry) and `MRung.OK` (no trial twice), of the scheduler through `Moasha.OK`; they are defined here, in
front of the lemmas that use them.  `Moasha.Keeps` is proof-side: what every operation preserves.  A lemma `f_ok` reads
a call `f … = .ok …` backwards. -/
namespace SyneTune

theorem insertRat_eq_orderedInsert : insertRat = List.orderedInsert (· ≤ ·) := by
  funext v l
  induction l with
  | nil => rfl
  | cons x xs ih => rw [insertRat, List.orderedInsert_cons, ih]

theorem sortRat_eq (l : List Rat) : sortRat l = l.insertionSort (· ≤ ·) := by
  rw [sortRat, insertRat_eq_orderedInsert]; rfl

theorem sortRat_perm (l : List Rat) : (sortRat l).Perm l :=
  sortRat_eq l ▸ List.perm_insertionSort _ l

theorem sortRat_sorted (l : List Rat) : (sortRat l).Pairwise (· ≤ ·) :=
  sortRat_eq l ▸ List.pairwise_insertionSort _ l

theorem takeWhile_lt_length (v : Rat) : ∀ (s : List Rat), s.Pairwise (· ≤ ·) →
    (s.takeWhile (fun x => decide (x < v))).length = s.countP (fun x => decide (x < v))
  | [], _ => rfl
  | x :: xs, h => by
    rw [List.pairwise_cons] at h
    by_cases hx : x < v
    · rw [List.takeWhile_cons_of_pos (p := fun x => decide (x < v)) (decide_eq_true hx),
        List.countP_cons_of_pos (p := fun x => decide (x < v)) (decide_eq_true hx),
        List.length_cons, takeWhile_lt_length v xs h.2]
    · -- behind an element `≥ v` of an ascending list nothing is smaller than `v`
      have hx' : ¬ decide (x < v) = true := by simpa using hx
      rw [List.takeWhile_cons_of_neg (p := fun x => decide (x < v)) hx',
        List.countP_cons_of_neg (p := fun x => decide (x < v)) hx', List.length_nil, eq_comm,
        List.countP_eq_zero]
      exact fun a ha => by simpa using le_trans (not_lt.mp hx) (h.1 a ha)

theorem searchsortedLeft_sortRat (p : List Rat) (v : Rat) :
    searchsortedLeft (sortRat p) v = p.countP (fun x => decide (x < v)) := by
  rw [searchsortedLeft, takeWhile_lt_length v _ (sortRat_sorted p)]
  exact (sortRat_perm p).countP_eq _

theorem lastRank_append (ps : List Rat) (v : Rat) :
    lastRank (ps ++ [v]) = some (ps.countP (fun x => decide (x < v))) := by
  simp only [lastRank, List.getLast?_append, List.getLast?_singleton, Option.some_or,
    searchsortedLeft_sortRat]
  simp [List.countP_append]

theorem rankDecision_forced (rf : Rat) (ps : List Rat) (v : Rat) (hint x : Bool)
    (hf : cmpRankGt (ps.countP (fun y => decide (y < v))) (ps.length + 1) rf = .forced x) :
    rankDecision rf (ps ++ [v]) hint = .ok (x, false) := by
  simp only [rankDecision, lastRank_append, List.length_append, List.length_singleton, hf, Cmp.resolve,
    Cmp.isFree]

/-- the rung is passed over by the loop: `cur_iter < milestone or trial_id in recorded` -/
def MRung.skips (rg : MRung) (tid cur : Nat) : Prop := (cur : Rat) < rg.milestone ∨ rg.has tid = true

instance (rg : MRung) (tid cur : Nat) : Decidable (rg.skips tid cur) := by
  unfold MRung.skips; infer_instance

/-- `recorded[trial_id] = metrics` for a trial not yet in the dict -/
def MRung.record (rg : MRung) (tid : Nat) (metrics : Point) : MRung :=
  { rg with recorded := rg.recorded ++ [(tid, metrics)] }

section bracketScan
variable {prio : List Point → Except MErr (List Rat)} {rf : Rat} {tid cur : Nat} {metrics : Point}
  {hint : Bool}

theorem bracketScan_skip {rg : MRung} (h : rg.skips tid cur) (rest : List MRung) :
    bracketScan prio rf tid cur metrics hint (rg :: rest) =
      match bracketScan prio rf tid cur metrics hint rest with
      | .error e => .error e
      | .ok res => .ok (rg :: res.1, res.2) := by
  rw [bracketScan]; exact if_pos h

theorem bracketScan_take {rg : MRung} (h : ¬ rg.skips tid cur) (rest : List MRung) :
    bracketScan prio rf tid cur metrics hint (rg :: rest) =
      match rungDecision prio rf rg metrics hint with
      | .error e => .error e
      | .ok d => .ok (rg.record tid metrics :: rest, d) := by
  rw [bracketScan]; exact if_neg h

/-- the result is taken by the first rung that does not skip it -/
theorem bracketScan_at {pre : List MRung} (hpre : ∀ r ∈ pre, r.skips tid cur) {rg : MRung}
    (hrg : ¬ rg.skips tid cur) (post : List MRung) :
    bracketScan prio rf tid cur metrics hint (pre ++ rg :: post) =
      match rungDecision prio rf rg metrics hint with
      | .error e => .error e
      | .ok d => .ok (pre ++ rg.record tid metrics :: post, d) := by
  induction pre with
  | nil => exact bracketScan_take hrg post
  | cons r pre ih =>
    rw [List.forall_mem_cons] at hpre
    rw [List.cons_append, bracketScan_skip hpre.1, ih hpre.2]
    cases rungDecision prio rf rg metrics hint <;> rfl

/-- a successful call changes at most one rung, by recording the trial there -/
theorem bracketScan_ok {rungs : List MRung} {res : List MRung × Decision × Bool}
    (h : bracketScan prio rf tid cur metrics hint rungs = .ok res) :
    res.1 = rungs ∨ ∃ pre rg post, rungs = pre ++ rg :: post ∧ ¬ rg.skips tid cur ∧
      res.1 = pre ++ rg.record tid metrics :: post := by
  induction rungs generalizing res with
  | nil => cases h; exact .inl rfl
  | cons r rest ih =>
    by_cases hr : r.skips tid cur
    · rw [bracketScan_skip hr] at h
      cases hrec : bracketScan prio rf tid cur metrics hint rest with
      | error e => rw [hrec] at h; cases h
      | ok res' =>
        rw [hrec] at h; cases h
        rcases ih hrec with h' | ⟨pre, rg, post, rfl, hrg, h'⟩
        · exact .inl (congrArg (r :: ·) h')
        · exact .inr ⟨r :: pre, rg, post, rfl, hrg, congrArg (r :: ·) h'⟩
    · rw [bracketScan_take hr] at h
      cases hd : rungDecision prio rf r metrics hint with
      | error e => rw [hd] at h; cases h
      | ok d => rw [hd] at h; cases h; exact .inr ⟨[], r, rest, rfl, hr, rfl⟩

end bracketScan

/-- every trial at most once in the rung -/
def MRung.OK (rg : MRung) : Prop := (rg.recorded.map (·.1)).Nodup

theorem has_iff (rg : MRung) (tid : Nat) : rg.has tid = true ↔ tid ∈ rg.recorded.map (·.1) := by
  simp only [MRung.has, List.any_eq_true, beq_iff_eq, List.mem_map]

theorem MRung.OK.record {rg : MRung} (h : rg.OK) (tid : Nat) (metrics : Point) (hn : ¬ rg.has tid = true) :
    (rg.record tid metrics).OK := by
  unfold MRung.OK MRung.record at *
  rw [List.map_append, List.nodup_append]
  refine ⟨h, by simp, fun a ha b hb hab => hn ((has_iff rg tid).mpr ?_)⟩
  obtain rfl : b = tid := by simpa using hb
  exact hab ▸ ha

theorem bracketScan_preserves {prio : List Point → Except MErr (List Rat)} {rf : Rat} {tid cur : Nat}
    {metrics : Point} {hint : Bool} {rungs : List MRung} {res : List MRung × Decision × Bool}
    (h : bracketScan prio rf tid cur metrics hint rungs = .ok res) :
    ((∀ r ∈ rungs, r.OK) → ∀ r ∈ res.1, r.OK) ∧ res.1.map (·.milestone) = rungs.map (·.milestone) := by
  rcases bracketScan_ok h with h' | ⟨pre, rg, post, rfl, hrg, h'⟩
  · rw [h']; exact ⟨id, rfl⟩
  · rw [h']
    simp only [List.forall_mem_append, List.forall_mem_cons]
    exact ⟨fun hok => ⟨hok.1, hok.2.1.record tid metrics fun hh => hrg (.inr hh), hok.2.2⟩,
      by simp [MRung.record]⟩

/-- every rung of every bracket holds each trial at most once -/
def Moasha.OK (s : Moasha) : Prop := ∀ b ∈ s.brackets, ∀ r ∈ b, MRung.OK r

theorem bracketResult_ok {s s' : Moasha} {prio : List Point → Except MErr (List Rat)}
    {tid cur : Nat} {raw : Point} {hint : Bool} {o : Decision × Bool}
    (h : s.bracketResult prio tid cur raw hint = .ok (s', o)) :
    ∃ b rungs rungs', alookup tid s.trialInfo = some b ∧ s.brackets[b]? = some rungs ∧
      bracketScan prio s.rf tid cur (s.signed raw) hint rungs = .ok (rungs', o) ∧
      s' = { s with brackets := s.brackets.set b rungs' } := by
  unfold Moasha.bracketResult at h
  cases h1 : alookup tid s.trialInfo with
  | none => simp [h1] at h
  | some b =>
    cases h2 : s.brackets[b]? with
    | none => simp [h1, h2] at h
    | some rungs =>
      cases h3 : bracketScan prio s.rf tid cur (s.signed raw) hint rungs with
      | error e => simp [h1, h2, h3] at h
      | ok res =>
        simp only [h1, h2, h3, Except.ok.injEq, Prod.mk.injEq] at h
        exact ⟨b, rungs, res.1, rfl, h2, h.2 ▸ h3, h.1.symm⟩

/-- `s'` has the rungs of `s`, possibly with more entries: the milestones are those of `s`, and
no trial is twice in a rung unless one was in `s` -/
def Moasha.Keeps (s s' : Moasha) : Prop :=
  (s.OK → s'.OK) ∧
    s'.brackets.map (fun b => b.map (·.milestone)) = s.brackets.map (fun b => b.map (·.milestone))

theorem Moasha.Keeps.of_brackets_eq {s s' : Moasha} (h : s'.brackets = s.brackets) : s.Keeps s' := by
  unfold Moasha.Keeps Moasha.OK
  rw [h]
  exact ⟨id, rfl⟩

theorem Moasha.Keeps.trans {s s₁ s₂ : Moasha} (h₁ : s.Keeps s₁) (h₂ : s₁.Keeps s₂) : s.Keeps s₂ :=
  ⟨h₂.1 ∘ h₁.1, h₂.2.trans h₁.2⟩

theorem bracketResult_keeps {s s' : Moasha} {prio : List Point → Except MErr (List Rat)}
    {tid cur : Nat} {raw : Point} {hint : Bool} {o : Decision × Bool}
    (h : s.bracketResult prio tid cur raw hint = .ok (s', o)) : s.Keeps s' := by
  obtain ⟨b, rungs, rungs', -, h2, h3, rfl⟩ := bracketResult_ok h
  have pr := bracketScan_preserves h3
  obtain ⟨hb, rfl⟩ := List.getElem?_eq_some_iff.mp h2
  refine ⟨fun hok b' hb' => (List.mem_or_eq_of_mem_set hb').elim (hok b')
    (· ▸ pr.1 (hok _ (List.getElem_mem hb))), ?_⟩
  -- position `b` of the list of milestone lists is overwritten with the value it already has
  have e := List.getElem_map (fun b : List MRung => b.map (·.milestone)) (l := s.brackets) (i := b)
    (h := by rwa [List.length_map])
  rw [List.map_set, pr.2, ← e, List.set_getElem_self]

theorem onAdd_keeps {s s' : Moasha} {tid idx : Nat} (h : s.onAdd tid idx = .ok s') : s.Keeps s' := by
  unfold Moasha.onAdd at h
  split at h <;> cases h
  exact .of_brackets_eq rfl

theorem onRemove_keeps {s s' : Moasha} {tid : Nat} (h : s.onRemove tid = .ok s') : s.Keeps s' := by
  unfold Moasha.onRemove at h
  split at h <;> cases h
  exact .of_brackets_eq rfl

theorem countStop_keeps (s : Moasha) (d : Decision) : s.Keeps (s.countStop d) := by
  unfold Moasha.countStop
  split <;> exact .of_brackets_eq rfl

theorem onResult_keeps {s : Moasha} {prio : List Point → Except MErr (List Rat)} {tid cur : Nat}
    {raw : Point} {hint : Bool} {r : Moasha × Decision × Bool}
    (h : s.onResult prio tid cur raw hint = .ok r) : s.Keeps r.1 := by
  unfold Moasha.onResult at h
  split at h
  · cases h; exact countStop_keeps s .stop
  · cases hb : s.bracketResult prio tid cur raw hint with
    | error e => rw [hb] at h; cases h
    | ok res =>
      rw [hb] at h; cases h
      exact (bracketResult_keeps hb).trans (countStop_keeps _ _)

theorem onComplete_keeps {s : Moasha} {prio : List Point → Except MErr (List Rat)} {tid cur : Nat}
    {raw : Point} {hint : Bool} {r : Moasha × Bool}
    (h : s.onComplete prio tid cur raw hint = .ok r) : s.Keeps r.1 := by
  unfold Moasha.onComplete at h
  cases hb : s.bracketResult prio tid cur raw hint with
  | error e => rw [hb] at h; cases h
  | ok res =>
    rw [hb] at h; cases h
    exact (bracketResult_keeps hb).trans (.of_brackets_eq rfl)

theorem prioNDS_ok {eps : Nat → List Point → List Nat} {mx : Option Nat} {pts : List Point}
    {p : List Rat} (h : prioNDS eps mx pts = .ok p) :
    ∃ pn, ndPriority pts eps mx = .ok pn ∧ pn.map (fun (n : Nat) => (n : Rat)) = p := by
  unfold prioNDS at h
  cases hn : ndPriority pts eps mx with
  | error e => rw [hn] at h; cases h
  | ok pn => rw [hn] at h; cases h; exact ⟨pn, rfl, rfl⟩

end SyneTune
