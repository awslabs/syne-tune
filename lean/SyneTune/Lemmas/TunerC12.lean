import SyneTune.Lemmas.TunerStruct
import SyneTune.Lemmas.TunerBudgetIds
/-
Invariants behind C12: no trial is started in an iteration that began with the stopping condition
true; the `finally` block leaves no visible trial in progress; `max_num_trials_started` is overshot
by at most `n_workers`.

Each invariant is kept by every transition: those that write what the invariant reads are treated by
name, all others only move the control point, and the clauses, which are guarded by classes of control
points, carry over because the transition does not start where such a class is entered (`EnteredFrom`).
-/
namespace SyneTune.Tuner
open SyneTune

variable {s s' : LState} {a : Ans}

/-- control points of an iteration up to the end of `_process_new_results` -/
def iterPc : Pc → Bool
  | .loopStart | .fetch | .cbFetch | .nextRes | .decision | .cbResult | .stopCmd | .stopDel | .removeS | .pauseCmd
  | .removeP | .second | .stdoutNM | .stderrNM | .completeS | .completeCb | .errorS | .afterUpd => true
  | _ => false

/-- control points of `_schedule_new_tasks` -/
def startPc : Pc → Bool
  | .schedNew | .busy | .sleepSched | .suggestNext | .suggest | .startCmd | .copyCmd | .addS | .startCb
  | .resumeCmd | .resumeCb => true
  | _ => false

/-- `j1`: an iteration runs with the stopping condition true only under `wait_trial_completion_when_stopping`;
`j2`: `_schedule_new_tasks` runs only with the stopping condition false. -/
structure JInv (s : LState) : Prop where
  j1 : iterPc s.pc = true → s.stopReached = true → s.cfg.wait = true
  j2 : startPc s.pc = true → s.stopReached = false

theorem iterPc_from : EnteredFrom [.loopHead, .afterUpd] (iterPc · = true) := by decide +kernel
theorem startPc_from : EnteredFrom [.loopHead, .afterUpd] (startPc · = true) := by decide +kernel

theorem iterPc_fin : ∀ q : Pc, finPc q = true → iterPc q = false ∧ startPc q = false :=
  Pc.forall (by decide +kernel)

theorem JInv.move (h : JInv s) (f : Cnt.Frame s s') (hc : s'.cfg = s.cfg)
    (hf : flow s.pc s'.pc = true) {p : Pc} (hpc : s.pc = p) (hp : p ∉ [Pc.loopHead, .afterUpd]) : JInv s' :=
  ⟨fun hq hs => hc ▸ h.j1 (iterPc_from.back hf hpc hp hq) (f.sr ▸ hs), fun hq => f.sr ▸ h.j2 (startPc_from.back hf hpc hp hq)⟩

/-- without `wait_trial_completion_when_stopping` an iteration runs with the stopping condition false -/
theorem JInv.noWait (h : JInv s) (hit : iterPc s.pc = true) (hw : s.cfg.wait = false) : s.stopReached = false := by
  cases hsr : s.stopReached
  · rfl
  · exact nomatch hw.symm.trans (h.j1 hit hsr)

theorem JInv.out (h1 : iterPc s'.pc = false) (h2 : startPc s'.pc = false) : JInv s' :=
  ⟨(fun hp => nomatch h1.symm.trans hp), (fun hp => nomatch h2.symm.trans hp)⟩

/-- `_schedule_new_tasks` is only reached when neither the search space is exhausted nor the loop
merely waits with the stopping condition true -/
theorem JInv.afterUpdate (h : JInv s) (hp : s.pc = .afterUpd) : JInv (afterUpdate s) := by
  unfold Tuner.afterUpdate
  dsimp only
  split
  · split <;> exact .out rfl rfl
  · rename_i hcond
    refine ⟨nofun, fun _ => ?_⟩
    show s.stopReached = false
    cases hsr : s.stopReached
    · rfl
    · simp [h.j1 (hp ▸ rfl) hsr, hsr] at hcond

theorem JInv.enterLoop (hc : (!s.stopReached || s.cfg.wait && !s.running.isEmpty) = true) :
    JInv { s with pc := .loopStart } := by
  refine ⟨fun _ hs => ?_, nofun⟩
  rw [show s.stopReached = true from hs] at hc
  simp only [Bool.not_true, Bool.false_or, Bool.and_eq_true] at hc
  exact hc.1

theorem JInv_trans (h : JInv s) (t : Trans s a s') : JInv s' := by
  have hf := t.flow
  cases t.cnt with
  | same f _ _ hsrc => exact h.move f t.cfg hf rfl (not_entry (by decide) hsrc)
  | toFin _ _ hq => exact .out (iterPc_fin _ hq).1 (iterPc_fin _ hq).2
  | marked _ _ _ _ _ _ hq => exact .out (hq.elim (· ▸ rfl) (· ▸ rfl)) (hq.elim (· ▸ rfl) (· ▸ rfl))
  | enterLoop _ hg => exact .enterLoop hg
  | updated hp => exact h.afterUpdate hp
  | scheduled hp => rw [scheduled_eq]; exact ⟨nofun, fun _ => h.j2 (hp.elim (· ▸ rfl) (· ▸ rfl))⟩
  | polled hp f _ => exact h.move f t.cfg hf hp (by decide)
  | askBusy hp => exact h.move ⟨rfl, rfl, rfl⟩ rfl hf hp (by decide)
  | enterFor hp _ _ _ | toSleep hp => exact hp.elim (h.move ⟨rfl, rfl, rfl⟩ rfl hf · (by decide)) (h.move ⟨rfl, rfl, rfl⟩ rfl hf · (by decide))
  | _ => exact .out rfl rfl

theorem JInv.reach {c : Cfg} {P : LState → Ans → Prop} {s : LState} (h : Reach c P s) : JInv s :=
  h.inv (.out rfl rfl) (fun _ _ h => ⟨h.j1, h.j2⟩) fun _ _ ih => JInv_trans ih

/-- the loop of `stop_all` over the visible trials -/
def stopLoopPc : Pc → Bool
  | .finStatusNext | .finStatus | .finStop | .finStopDel => true
  | _ => false

/-- where a visible trial stands in `stop_all` -/
def Stage (s : LState) (t : Nat) : Prop :=
  (stopLoopPc s.pc = true ∧ t ∈ s.dels) ∨ ((s.pc = .finStatus ∨ s.pc = .finStop) ∧ t = s.t) ∨
  alookup t s.bst ≠ some .inProgress

/-- `stop_all` leaves no visible trial in progress: no trial is visible before `_all_trial_results` has answered (`vis0`);
from then on every visible trial has a `Stage` unless the `finally` block itself raised (`stage`); `noFinErr`: such an
exception is in flight at `done` only -/
structure FInv (s : LState) : Prop where
  vis0 : (finPc s.pc = false ∨ s.pc = .finTuningEnd ∨ s.pc = .finAll) → s.visible = []
  stage : finPc s.pc = true → s.err ≠ some .envFin → ∀ t ∈ s.visible, Stage s t
  noFinErr : s.pc ≠ .done → s.err ≠ some .envFin

/-- a step before `_all_trial_results` has answered: no trial is visible yet -/
theorem FInv.before (h : FInv s) (hp : finPc s.pc = false ∨ s.pc = .finTuningEnd ∨ s.pc = .finAll)
    (hv : s'.visible = s.visible) (he : s'.err ≠ some .envFin) : FInv s' :=
  ⟨fun _ => hv ▸ h.vis0 hp, (fun _ _ t ht => by rw [hv, h.vis0 hp] at ht; cases ht), fun _ => he⟩

/-- a transition inside the loop; an exception it raises is not one of the `finally` block -/
theorem FInv.loop (h : FInv s) {p : Pc} (hpc : s.pc = p) (hp : finPc p = false) (hv : s'.visible = s.visible)
    (he : s'.err = s.err ∨ s'.err ≠ some .envFin) : FInv s' :=
  have hf : finPc s.pc = false := hpc ▸ hp
  h.before (.inl hf) hv (he.elim (fun e => e ▸ h.noFinErr fun hd => by rw [hd] at hf; cases hf) id)

theorem FInv.raised (s : LState) : FInv (exitRaise s) :=
  ⟨(fun hc => by rcases hc with hc | hc | hc <;> cases hc), (fun _ he => absurd rfl he), (fun hc => absurd rfl hc)⟩

/-- a step of the `finally` block past `_all_trial_results` after which every visible trial has a stage again -/
theorem FInv.keep (h : FInv s) {p : Pc} (hpc : s.pc = p) (hp : finPc p = true ∧ p ≠ .done)
    (hf' : finPc s'.pc = true) (hn : s'.pc ≠ .finTuningEnd ∧ s'.pc ≠ .finAll)
    (hv : s'.visible = s.visible) (he : s'.err = s.err ∨ s'.err ≠ some .envFin)
    (hst : ∀ t ∈ s.visible, Stage s t → Stage s' t) : FInv s' :=
  have hnf := h.noFinErr (hpc ▸ hp.2)
  ⟨fun hc => hc.elim (fun hc => nomatch hc.symm.trans hf') (fun hc => hc.elim (absurd · hn.1) (absurd · hn.2)),
   fun _ _ t ht => hst t (hv ▸ ht) (h.stage (hpc ▸ hp.1) hnf t (hv ▸ ht)), fun _ => he.elim (· ▸ hnf) id⟩

/-- a step of the stop loop taken while no trial's turn is on; `hd`: what becomes of the trials still listed -/
theorem FInv.between (h : FInv s) {p : Pc} (hpc : s.pc = p)
    (hp : finPc p = true ∧ p ≠ .done ∧ p ≠ .finStatus ∧ p ≠ .finStop)
    (hf' : finPc s'.pc = true) (hn : s'.pc ≠ .finTuningEnd ∧ s'.pc ≠ .finAll)
    (hv : s'.visible = s.visible) (he : s'.err = s.err) (hb : s'.bst = s.bst)
    (hd : ∀ t ∈ s.dels, Stage s' t) : FInv s' := by
  refine h.keep hpc ⟨hp.1, hp.2.1⟩ hf' hn hv (.inl he) fun t _ hst => ?_
  rcases hst with ⟨_, h1⟩ | ⟨h1, _⟩ | h1
  · exact hd t h1
  · exact (h1.elim (fun h1 => hp.2.2.1 (hpc ▸ h1)) (fun h1 => hp.2.2.2 (hpc ▸ h1))).elim
  · exact .inr (.inr (hb ▸ h1))

/-- the status of the trial whose turn it is has been read (`q` = `finStop` if it is in progress), or
`stop_trial` has returned for it -/
theorem FInv.turn (h : FInv s) (hp : s.pc = .finStatus ∨ s.pc = .finStop) (st : St) {q : Pc}
    (hq : stopLoopPc q = true) (hst : st = .inProgress → q = .finStop) :
    FInv { s with bst := aset s.t st s.bst, pc := q } := by
  have hq' : finPc q = true ∧ q ≠ .finTuningEnd ∧ q ≠ .finAll :=
    Pc.forall (P := fun q => stopLoopPc q = true → finPc q = true ∧ q ≠ .finTuningEnd ∧ q ≠ .finAll) (by decide +kernel) q hq
  have key : ∀ u ∈ s.visible, Stage s u → Stage { s with bst := aset s.t st s.bst, pc := q } u := by
    intro u _ hu
    by_cases hut : u = s.t
    · by_cases hip : st = .inProgress
      · exact .inr (.inl ⟨.inr (hst hip), hut⟩)
      · refine .inr (.inr ?_)
        show alookup u (aset s.t st s.bst) ≠ some St.inProgress
        rw [hut, alookup_aset_self]; exact fun hc => hip (Option.some.inj hc)
    · rcases hu with ⟨_, h1⟩ | ⟨_, h1⟩ | h1
      · exact .inl ⟨hq, h1⟩
      · exact absurd h1 hut
      · refine .inr (.inr ?_)
        show alookup u (aset s.t st s.bst) ≠ some St.inProgress
        rw [alookup_aset_ne hut]; exact h1
  rcases hp with hp | hp
  · exact h.keep hp ⟨rfl, nofun⟩ hq'.1 hq'.2 rfl (.inl rfl) key
  · exact h.keep hp ⟨rfl, nofun⟩ hq'.1 hq'.2 rfl (.inl rfl) key

/-- after the stop loop nothing changes for the visible trials -/
theorem FInv.after (h : FInv s) {p : Pc} (hpc : s.pc = p) (hp : finPc p = true ∧ p ≠ .done ∧ stopLoopPc p = false)
    (hf' : finPc s'.pc = true) (hn : s'.pc ≠ .finTuningEnd ∧ s'.pc ≠ .finAll)
    (hv : s'.visible = s.visible) (hb : s'.bst = s.bst) (he : s'.err = s.err ∨ s'.err ≠ some .envFin) : FInv s' := by
  refine h.keep hpc ⟨hp.1, hp.2.1⟩ hf' hn hv he fun t _ hst => ?_
  have hsl : stopLoopPc s.pc = false := hpc ▸ hp.2.2
  rcases hst with ⟨h1, _⟩ | ⟨h1, _⟩ | h1
  · exact nomatch hsl.symm.trans h1
  · rcases h1 with h1 | h1 <;> (rw [h1] at hsl; cases hsl)
  · exact .inr (.inr (hb ▸ h1))

theorem FInv_trans (h : FInv s) (t : Trans s a s') : FInv s' := by
  cases t
  case fin f =>
    cases f
    case halt => exact h
    case exitRaise => exact .raised s
    case tuningEnded hpc => exact h.before (.inr (.inl hpc)) rfl (h.noFinErr (hpc ▸ nofun))
    case allResults l hpc =>
      exact ⟨(fun hc => by rcases hc with hc | hc | hc <;> cases hc), fun _ _ t ht => .inl ⟨rfl, ht⟩,
        fun _ => h.noFinErr (hpc ▸ nofun)⟩
    case finStatusNext u rest hpc hd =>
      refine h.between hpc (by decide) rfl ⟨nofun, nofun⟩ rfl rfl rfl fun t ht => ?_
      rw [hd] at ht
      rcases List.mem_cons.mp ht with ht | ht
      · exact .inr (.inl ⟨.inl rfl, ht⟩)
      · exact .inl ⟨rfl, ht⟩
    case statusesDone hpc hd => exact h.between hpc (by decide) rfl ⟨nofun, nofun⟩ rfl rfl rfl (by rw [hd]; nofun)
    case finStatus st hpc _ => exact h.turn (.inl hpc) st rfl fun _ => rfl
    case finStatusOther st hpc hst => exact h.turn (.inl hpc) st rfl (absurd · hst)
    case finStopped hpc _ | finStoppedKeep hpc _ => exact h.turn (.inr hpc) .stopped rfl nofun
    case finStopDeleted hpc => exact h.between hpc (by decide) rfl ⟨nofun, nofun⟩ rfl rfl rfl fun t ht => .inl ⟨rfl, ht⟩
    case keepCkpts hpc _ | finDelsDone hpc _ | hfStdoutRead hpc | deleteAll hpc _ | finDelNext hpc _ | finDeleted hpc
        | markFailed hpc _ _ | markDone hpc _ =>
      exact h.after hpc (by decide) rfl ⟨nofun, nofun⟩ rfl rfl (.inl rfl)
    case failed hpc => exact h.after hpc (by decide) rfl ⟨nofun, nofun⟩ rfl rfl (.inr nofun)
  -- inside the loop no trial is visible
  case ctl hc => cases hc <;> exact h.loop ‹_› rfl rfl (.inl rfl)
  case raiseEnv hpc _ => exact h.before (.inl hpc) rfl nofun
  case assertFail | keyError | noMetrics => exact h.loop ‹_› rfl rfl (.inr nofun)
  case scheduled hpc => exact hpc.elim (h.loop · rfl rfl (.inl rfl)) (h.loop · rfl rfl (.inl rfl))
  case item hpc _ i => cases i <;> exact h.loop hpc rfl rfl (.inl rfl)
  all_goals exact h.loop ‹_› rfl rfl (.inl rfl)

theorem FInv.at_done (h : FInv s) (hp : s.pc = .done) (he : s.err ≠ some .envFin) :
    ∀ t ∈ s.visible, alookup t s.bst ≠ some .inProgress := by
  intro t ht
  rcases h.stage (hp ▸ rfl) he t ht with ⟨h1, _⟩ | ⟨h1, _⟩ | h1
  · rw [hp] at h1; cases h1
  · rcases h1 with h1 | h1 <;> (rw [hp] at h1; cases h1)
  · exact h1

theorem FInv.reach {c : Cfg} {P : LState → Ans → Prop} {s : LState} (h : Reach c P s) : FInv s :=
  h.inv ⟨fun _ => rfl, nofun, fun _ => nofun⟩ (fun _ _ h => ⟨h.vis0, h.stage, h.noFinErr⟩)
    fun _ _ ih => FInv_trans ih

theorem exceedsNat_false {v m : Nat} (h : exceedsNat (some m) v = false) : v ≤ m :=
  Nat.not_lt.mp (of_decide_eq_false h)

/-- while the criterion is false none of its count-based bounds is exceeded -/
theorem Criterion.eval_false {c : Criterion} {ts : TStatus} {clk : Rat} {kc : Nat} (h : c.eval ts clk kc = false) :
    exceedsNat c.maxStarted ts.numStarted = false ∧ exceedsNat c.maxCompleted ts.numCompleted = false ∧
    exceedsNat c.maxFinished ts.numFinished = false ∧ exceedsNat c.maxEvals ts.overall.count = false := by
  unfold Criterion.eval at h
  simp only [Bool.or_eq_false_iff] at h
  -- the disjuncts of `Criterion.eval` in order: wall clock, started, completed, finished, cost, evaluations, two metric bounds
  obtain ⟨⟨⟨⟨⟨⟨⟨_, hS⟩, hC⟩, hF⟩, _⟩, hE⟩, _⟩, _⟩ := h
  exact ⟨hS, hC, hF, hE⟩

theorem stopCond_false {clk : Rat} (h : stopCond s clk = false) : s.cfg.crit.eval s.status clk s.cfg.keyCost = false :=
  (Bool.or_eq_false_iff.mp h).1

/-- the control points of the `for` loop of `_schedule_new_tasks`; equal to `schedPc` (TunerBudgetIds) -/
def schedLoopPc : Pc → Bool
  | .suggestNext | .suggest | .startCmd | .copyCmd | .addS | .startCb | .resumeCmd | .resumeCb => true
  | _ => false

/-- control points at which a false `stop_condition_reached` still bounds the number of trials -/
def beforeSchedPc : Pc → Bool
  | .loopHead | .schedNew | .busy => true
  | p => iterPc p

/-- overshoot of `max_num_trials_started = m`: at most `n_workers` everywhere (`o1`), none while the last
evaluation of the stopping condition was false and no trial of this iteration has been started (`o2`); `o3`: the
`k` iterations the `for` loop has left fit into the overshoot. -/
structure OInv (m : Nat) (s : LState) : Prop where
  o1 : s.status.numStarted ≤ m + s.cfg.nWorkers
  o2 : s.stopReached = false → beforeSchedPc s.pc = true → s.status.numStarted ≤ m
  o3 : schedLoopPc s.pc = true → s.status.numStarted + s.k ≤ m + s.cfg.nWorkers

variable {m : Nat}

theorem beforeSchedPc_from : EnteredFrom [.evalStop, .clock, .schedNew, .busy] (beforeSchedPc · = true) := by decide +kernel
theorem schedLoopPc_from : EnteredFrom [.evalStop, .clock, .schedNew, .busy] (schedLoopPc · = true) := by decide +kernel

theorem schedLoopPc_fin : ∀ q : Pc, finPc q = true → beforeSchedPc q = false ∧ schedLoopPc q = false :=
  Pc.forall (by decide +kernel)

theorem OInv.move (h : OInv m s) (f : Cnt.Frame s s') (hc : s'.cfg = s.cfg) (hk : s'.k = s.k)
    (hf : flow s.pc s'.pc = true) {p : Pc} (hpc : s.pc = p) (hp : p ∉ [Pc.evalStop, .clock, .schedNew, .busy]) :
    OInv m s' :=
  ⟨by rw [f.status, hc]; exact h.o1, fun hs hq => by rw [f.status]; exact h.o2 (f.sr ▸ hs) (beforeSchedPc_from.back hf hpc hp hq),
   fun hq => by rw [f.status, hk, hc]; exact h.o3 (schedLoopPc_from.back hf hpc hp hq)⟩

theorem OInv.out (h : OInv m s) (hst : s'.status.numStarted = s.status.numStarted)
    (hc : s'.cfg = s.cfg) (h2 : beforeSchedPc s'.pc = false) (h3 : schedLoopPc s'.pc = false) : OInv m s' :=
  ⟨by rw [hst, hc]; exact h.o1, (fun _ hp => nomatch h2.symm.trans hp), (fun hp => nomatch h3.symm.trans hp)⟩

theorem OInv.evaluated {m : Nat} {s : LState} (h : OInv m s) (hm : s.cfg.crit.maxStarted = some m) (clk : Rat) :
    OInv m { s with stopReached := stopCond s clk, pc := .loopHead } :=
  ⟨h.o1, fun hs _ => exceedsNat_false (hm ▸ (Criterion.eval_false (stopCond_false hs)).1), nofun⟩

theorem OInv.afterUpdate (h : OInv m s) (hS : SInv s) (hp : s.pc = .afterUpd) : OInv m (afterUpdate s) := by
  have hn := afterUpdate_numStarted hS hp
  rcases afterUpdate_pc s with hh | hh | hh
  · exact h.out hn rfl (hh ▸ rfl) (hh ▸ rfl)
  · exact h.out hn rfl (hh ▸ rfl) (hh ▸ rfl)
  · exact ⟨hn ▸ h.o1, fun hs _ => hn ▸ h.o2 hs (hp ▸ rfl), fun hc => nomatch (hh ▸ hc)⟩

/-- the `for` loop of `_schedule_new_tasks` is entered with at most `n_workers` suggestions to ask for, and (`JInv`)
with the stopping condition false -/
theorem OInv.enter (h : OInv m s) (hJ : JInv s) (hp : s.pc = .schedNew ∨ s.pc = .busy) (k : Nat) (loc : Option (List Nat))
    (hk : k ≤ s.cfg.nWorkers) : OInv m { s with k := k, loc := loc, pc := .suggestNext } := by
  have hN := h.o2 (hJ.j2 (hp.elim (· ▸ rfl) (· ▸ rfl))) (hp.elim (· ▸ rfl) (· ▸ rfl))
  exact ⟨h.o1, nofun, fun _ => Nat.add_le_add hN hk⟩

theorem OInv.scheduled {m : Nat} {s : LState} (h : OInv m s) (hp : schedLoopPc s.pc = true) (hk : 1 ≤ s.k) (t : Nat) :
    OInv m (scheduled s t) := by
  have h3 := h.o3 hp
  have hle : (Tuner.scheduled s t).status.numStarted ≤ s.status.numStarted + 1 := by
    rw [scheduled_numStarted]; split <;> omega
  refine ⟨?_, nofun, fun _ => ?_⟩
  · rw [scheduled_cfg]; omega
  · rw [scheduled_cfg, scheduled_k]; omega

theorem OInv_trans (h : OInv m s) (t : Trans s a s') (hm : s.cfg.crit.maxStarted = some m)
    (hS : SInv s) (hJ : JInv s) (hBu : BudgetInv s) : OInv m s' := by
  have hf := t.flow
  have hc := t.cfg
  cases t.cnt with
  | same f hk _ hsrc => exact h.move f hc hk hf rfl (not_entry (by decide) hsrc)
  | toFin f _ hq => exact h.out (congrArg _ f.status) hc (schedLoopPc_fin _ hq).1 (schedLoopPc_fin _ hq).2
  | marked _ hst _ _ _ _ hq =>
    exact h.out (hst ▸ numStarted_markStopped _) hc (hq.elim (· ▸ rfl) (· ▸ rfl)) (hq.elim (· ▸ rfl) (· ▸ rfl))
  | evaluated => exact h.evaluated hm _
  | polled hp f hq =>
    exact ⟨hc ▸ f.status ▸ h.o1, fun hs _ => f.status ▸ h.o2 (f.sr ▸ hs) (hp ▸ rfl), fun hh => nomatch hq ▸ hh⟩
  | updated hp => exact h.afterUpdate hS hp
  | askBusy hp => exact ⟨h.o1, fun hs _ => h.o2 hs (hp ▸ rfl), nofun⟩
  | enterFor hp k loc hk => exact h.enter hJ hp k loc hk
  | scheduled hp =>
    exact h.scheduled (hp.elim (· ▸ rfl) (· ▸ rfl))
      ((hBu.2 (hp.elim (· ▸ rfl) (· ▸ rfl))).1 (hp.elim (· ▸ nofun) (· ▸ nofun))) _
  | enterLoop hp _ => exact h.move ⟨rfl, rfl, rfl⟩ rfl rfl hf hp (by decide)
  | _ => exact h.out rfl rfl rfl rfl

/-- the number of trials the loop has recorded never exceeds `max_num_trials_started + n_workers`
(under contract B) -/
theorem OInv.reach {c : Cfg} {s : LState} (hm : c.crit.maxStarted = some m) (h : Reach c BOk s) : OInv m s :=
  h.inv ⟨Nat.zero_le _, fun _ => nofun, nofun⟩ (fun _ _ h => ⟨h.o1, h.o2, h.o3⟩)
    fun h _ ih t => OInv_trans ih t (h.cfg ▸ hm) (.reach h) (.reach h) (.reach h)

end SyneTune.Tuner
