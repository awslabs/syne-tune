import SyneTune.Model.Simulator
import SyneTune.Lemmas.BackendBasic
import SyneTune.Lemmas.AssocList
import Mathlib.Tactic.Linarith
/-
Shared lemmas for the simulator model: heap order and `insertEv`, the trial records, a poll as a sequence
of `flush` steps (`deliver_induct`, `deliver_frame`), a start event as one record update (`startResult`), what
each event handler does to the state (`processEvent_cases`), an induction principle for
`_process_events_until_now`.
-/
namespace SyneTune.SimL
open SyneTune SyneTune.Backend SyneTune.SimTab

variable {J : Type}

/-- `(time, cnt)` lexicographic -/
def keyLt (a b : Ev) : Prop := a.time < b.time ∨ (a.time = b.time ∧ a.cnt < b.cnt)

theorem before_iff (a b : Ev) : a.before b = true ↔ keyLt a b := by
  simp [Ev.before, keyLt]

theorem keyLt_trans {a b c : Ev} (h1 : keyLt a b) (h2 : keyLt b c) : keyLt a c := by
  rcases h1 with h1 | ⟨h1, h1'⟩ <;> rcases h2 with h2 | ⟨h2, h2'⟩
  · exact Or.inl (lt_trans h1 h2)
  · exact Or.inl (lt_of_lt_of_eq h1 h2)
  · exact Or.inl (lt_of_eq_of_lt h1 h2)
  · exact Or.inr ⟨h1.trans h2, Nat.lt_trans h1' h2'⟩

theorem keyLt_asymm {a b : Ev} (h1 : keyLt a b) (h2 : keyLt b a) : False := by
  rcases h1 with h1 | ⟨h1, h1'⟩ <;> rcases h2 with h2 | ⟨h2, h2'⟩
  · exact lt_asymm h1 h2
  · exact lt_irrefl _ (lt_of_lt_of_eq h1 h2)
  · exact lt_irrefl _ (lt_of_eq_of_lt h1 h2)
  · exact Nat.lt_asymm h1' h2'

theorem keyLt_of_not {a b : Ev} (h : ¬ keyLt a b) (hc : a.cnt ≠ b.cnt) : keyLt b a := by
  unfold keyLt at *
  rw [not_or, not_and] at h
  rcases lt_trichotomy a.time b.time with h3 | h3 | h3
  · exact absurd h3 h.1
  · have := h.2 h3
    exact Or.inr ⟨h3.symm, by omega⟩
  · exact Or.inl h3

theorem insertEv_eq (e : Ev) (l : List Ev) :
    ∃ l1 l2, l = l1 ++ l2 ∧ insertEv e l = l1 ++ e :: l2 ∧ (∀ x ∈ l1, ¬ keyLt e x) ∧
      (l.Pairwise keyLt → ∀ x ∈ l2, keyLt e x) := by
  induction l with
  | nil => exact ⟨[], [], rfl, rfl, by simp, by simp⟩
  | cons y ys ih =>
    unfold insertEv
    split
    · rename_i hb
      rw [before_iff] at hb
      refine ⟨[], y :: ys, rfl, rfl, by simp, fun hs x hx => ?_⟩
      rcases List.mem_cons.mp hx with rfl | hx
      · exact hb
      · exact keyLt_trans hb ((List.pairwise_cons.mp hs).1 x hx)
    · rename_i hb
      rw [before_iff] at hb
      obtain ⟨l1, l2, h1, h2, h3, h4⟩ := ih
      refine ⟨y :: l1, l2, by rw [h1]; rfl, by rw [h2]; rfl, ?_, fun hs => h4 (List.pairwise_cons.mp hs).2⟩
      intro x hx
      rcases List.mem_cons.mp hx with rfl | hx
      · exact hb
      · exact h3 x hx

theorem mem_insertEv (e x : Ev) (l : List Ev) : x ∈ insertEv e l ↔ x = e ∨ x ∈ l := by
  obtain ⟨l1, l2, rfl, h2, _⟩ := insertEv_eq e l
  rw [h2, List.mem_append, List.mem_cons, List.mem_append]
  exact or_left_comm

theorem insertEv_sorted (e : Ev) (l : List Ev) (hs : l.Pairwise keyLt) (hc : ∀ x ∈ l, x.cnt ≠ e.cnt) :
    (insertEv e l).Pairwise keyLt := by
  obtain ⟨l1, l2, rfl, h2, h3, h4⟩ := insertEv_eq e l
  obtain ⟨p1, p2, p12⟩ := List.pairwise_append.mp hs
  rw [h2]
  refine List.pairwise_append.mpr ⟨p1, List.pairwise_cons.mpr ⟨h4 hs, p2⟩, fun a ha b hb => ?_⟩
  rcases List.mem_cons.mp hb with rfl | hb
  · exact keyLt_of_not (h3 a ha) fun h => hc a (List.mem_append_left _ ha) h.symm
  · exact p12 a ha b hb

/-- a new entry whose counter is fresh goes behind every entry that is not later in time -/
theorem insertEv_split (e : Ev) (l : List Ev) (hc : ∀ x ∈ l, x.cnt < e.cnt) :
    ∃ l1 l2, l = l1 ++ l2 ∧ insertEv e l = l1 ++ e :: l2 ∧ (∀ x ∈ l1, x.time ≤ e.time) := by
  obtain ⟨l1, l2, h1, h2, h3, _⟩ := insertEv_eq e l
  exact ⟨l1, l2, h1, h2, fun x hx => not_lt.mp fun h => h3 x hx (Or.inl h)⟩

@[simp] theorem push_heap (s : Sim J) (tm : Rat) (t : Nat) (k : EvKind) :
    (s.push tm t k).heap = insertEv ⟨tm, s.added, t, k⟩ s.heap := rfl
@[simp] theorem push_added (s : Sim J) (tm : Rat) (t : Nat) (k : EvKind) : (s.push tm t k).added = s.added + 1 := rfl
@[simp] theorem push_now (s : Sim J) (tm : Rat) (t : Nat) (k : EvKind) : (s.push tm t k).now = s.now := rfl
@[simp] theorem push_cfg (s : Sim J) (tm : Rat) (t : Nat) (k : EvKind) : (s.push tm t k).cfg = s.cfg := rfl
@[simp] theorem push_trials (s : Sim J) (tm : Rat) (t : Nat) (k : EvKind) : (s.push tm t k).trials = s.trials := rfl
@[simp] theorem push_next (s : Sim J) (tm : Rat) (t : Nat) (k : EvKind) : (s.push tm t k).next = s.next := rfl
@[simp] theorem push_log (s : Sim J) (tm : Rat) (t : Nat) (k : EvKind) : (s.push tm t k).log = s.log := rfl
@[simp] theorem push_runs (s : Sim J) (tm : Rat) (t : Nat) (k : EvKind) : (s.push tm t k).runs = s.runs := rfl
@[simp] theorem push_js (s : Sim J) (tm : Rat) (t : Nat) (k : EvKind) : (s.push tm t k).js = s.js := rfl

theorem updT_get (s : Sim J) (t u : Nat) (f : STrial → STrial) :
    (s.updT t f).trials[u]? = if u = t then (s.trials[u]?).map f else s.trials[u]? :=
  getElem?_modifyAt f t u s.trials

@[simp] theorem updT_heap (s : Sim J) (t : Nat) (f : STrial → STrial) : (s.updT t f).heap = s.heap := rfl
@[simp] theorem updT_now (s : Sim J) (t : Nat) (f : STrial → STrial) : (s.updT t f).now = s.now := rfl
@[simp] theorem updT_next (s : Sim J) (t : Nat) (f : STrial → STrial) : (s.updT t f).next = s.next := rfl
@[simp] theorem updT_log (s : Sim J) (t : Nat) (f : STrial → STrial) : (s.updT t f).log = s.log := rfl
@[simp] theorem updT_added (s : Sim J) (t : Nat) (f : STrial → STrial) : (s.updT t f).added = s.added := rfl
@[simp] theorem updT_cfg (s : Sim J) (t : Nat) (f : STrial → STrial) : (s.updT t f).cfg = s.cfg := rfl
@[simp] theorem updT_runs (s : Sim J) (t : Nat) (f : STrial → STrial) : (s.updT t f).runs = s.runs := rfl
@[simp] theorem updT_js (s : Sim J) (t : Nat) (f : STrial → STrial) : (s.updT t f).js = s.js := rfl

/-! ### the trial records

Most invariants read only some fields of the trial records; `g` below is the projection to
those fields, and the lemmas say which changes of the records `g` does not see. -/

section trials
variable {β : Type}

theorem map_modifyAt {g : STrial → β} {f : STrial → STrial} (hf : ∀ y, g (f y) = g y) (n : Nat) (l : List STrial) :
    (modifyAt f n l).map g = l.map g := by
  induction l generalizing n with
  | nil => simp [modifyAt]
  | cons x xs ih => cases n <;> simp [modifyAt, hf, ih]

theorem map_updT {g : STrial → β} (s : Sim J) (t : Nat) {f : STrial → STrial} (hf : ∀ y, g (f y) = g y) :
    (s.updT t f).trials.map g = s.trials.map g :=
  map_modifyAt hf t s.trials

theorem map_get {g : STrial → β} {l l' : List STrial} (h : l'.map g = l.map g) {u : Nat} {x' : STrial}
    (hx' : l'[u]? = some x') : ∃ x, l[u]? = some x ∧ g x = g x' := by
  have := congrArg (·[u]?) h
  simp only [List.getElem?_map, hx', Option.map_some] at this
  cases hx : l[u]? with
  | none => rw [hx] at this; cases this
  | some x => rw [hx] at this; exact ⟨x, rfl, (Option.some.inj this).symm⟩

theorem newTrial_get {l : List STrial} {u : Nat} {x : STrial} (hx : (l ++ [({} : STrial)])[u]? = some x) :
    l[u]? = some x ∨ (u = l.length ∧ x = {}) := by
  rcases Nat.lt_trichotomy u l.length with hu | hu | hu
  · exact Or.inl (by rwa [List.getElem?_append_left hu] at hx)
  · subst hu; exact Or.inr ⟨rfl, by simpa using hx.symm⟩
  · rw [List.getElem?_eq_none (by simp; omega)] at hx; cases hx

theorem markFlushed_get (ids : List Nat) (l : List STrial) (u : Nat) :
    (markFlushed ids l)[u]? = (l[u]?).map fun y => if y.commanded ∧ u ∉ ids then { y with flushed := true } else y := by
  unfold markFlushed
  simp only [List.getElem?_map, List.getElem?_zipIdx]
  cases l[u]? with
  | none => rfl
  | some y => simp

theorem map_markFlushed {g : STrial → β} (hg : ∀ y, g { y with flushed := true } = g y) (ids : List Nat)
    (l : List STrial) : (markFlushed ids l).map g = l.map g := by
  apply List.ext_getElem?
  intro u
  simp only [List.getElem?_map, markFlushed_get]
  cases l[u]? with
  | none => rfl
  | some y =>
    simp only [Option.map_some, Option.some.injEq]
    split
    · exact hg y
    · rfl

end trials

/-! ### polls

Both loops of `fetch_status_results` take the queues of `_next_results_to_fetch` one at a time:
a poll is a sequence of `flush` steps. -/

/-- what a poll records in the trial whose queue `l` it takes: delivered (`true`) or dropped -/
def flushT (l : List Arrived) : Bool → STrial → STrial
  | true, y => { y with since := y.since ++ l.map Arrived.tag }
  | false, y => { y with droppedSince := y.droppedSince || decide (l ≠ []) }

/-- the queue `l` of trial `t` goes to the log -/
def flush (s : Sim J) (t : Nat) (l : List Arrived) (d : Bool) : Sim J :=
  { s with
    next := adel t s.next
    seen := incSeen s.seen t l.length
    log := s.log ++ l.map fun (a : Arrived) => (⟨t, a.tag, d, a⟩ : LogEntry)
    trials := modifyAt (flushT l d) t s.trials }

theorem deliver_induct (P : Sim J → Prop)
    (hP : ∀ (s : Sim J) (t : Nat) (l : List Arrived) (d : Bool), alookup t s.next = some l → P s → P (flush s t l d))
    (s : Sim J) (ids : List Nat) (h : P s) : P (dropRest (fetchCovered s ids).1 (fetchCovered s ids).1.next) := by
  have cov : ∀ (ids : List Nat) (s : Sim J), P s → P (fetchCovered s ids).1 := by
    intro ids
    induction ids with
    | nil => exact fun _ h => h
    | cons t rest ih =>
      intro s h
      unfold fetchCovered
      split
      · exact ih s h
      · exact ih _ (hP s t _ true ‹_› h)
  -- the second loop (`dropRest`) leaves `next` alone and clears it at the end, so the induction is on
  -- `P { s with next := l }` with `l` the queues not yet visited; on a list headed by `t`, `flush`'s `adel t` is `tail`
  have drop : ∀ (l : List (Nat × List Arrived)) (s : Sim J), P { s with next := l } → P (dropRest s l) := by
    intro l
    induction l with
    | nil => exact fun _ h => h
    | cons p rest ih =>
      intro s h
      obtain ⟨t, q⟩ := p
      have h1 := hP _ t q false (show alookup t ((t, q) :: rest) = some q from if_pos rfl) h
      unfold flush at h1
      rw [show adel t ((t, q) :: rest) = rest from if_pos rfl] at h1
      exact ih _ h1
  exact drop _ _ (cov ids s h)

theorem dropRest_next (l : List (Nat × List Arrived)) : ∀ (s : Sim J), (dropRest s l).next = [] := by
  induction l with
  | nil => exact fun _ => rfl
  | cons p rest ih => exact fun s => ih _

structure SameCore (s s' : Sim J) : Prop where
  heap : s'.heap = s.heap
  added : s'.added = s.added
  now : s'.now = s.now
  cfg : s'.cfg = s.cfg
  js : s'.js = s.js
  runs : s'.runs = s.runs

/-- a poll leaves `heap`, `added`, `now`, `cfg`, `js`, `runs` alone -/
theorem deliver_frame (s : Sim J) (ids : List Nat) :
    SameCore s (dropRest (fetchCovered s ids).1 (fetchCovered s ids).1.next) :=
  deliver_induct (SameCore s) (fun _ _ _ _ _ h => ⟨h.heap, h.added, h.now, h.cfg, h.js, h.runs⟩) s ids
    ⟨rfl, rfl, rfl, rfl, rfl, rfl⟩

theorem deliver_map {β : Type} {g : STrial → β} (hg : ∀ l d y, g (flushT l d y) = g y) (s : Sim J) (ids : List Nat) :
    (dropRest (fetchCovered s ids).1 (fetchCovered s ids).1.next).trials.map g = s.trials.map g :=
  deliver_induct (fun x => x.trials.map g = s.trials.map g) (fun _ t l d _ h => (map_modifyAt (hg l d) t _).trans h) s ids rfl

theorem mem_fetchCovered (ids : List Nat) : ∀ (s : Sim J) (p : Nat × Arrived), p ∈ (fetchCovered s ids).2 →
    ∃ l, (p.1, l) ∈ s.next ∧ p.2 ∈ l := by
  induction ids with
  | nil => intro s p hp; cases hp
  | cons t rest ih =>
    intro s p hp
    unfold fetchCovered at hp
    split at hp
    · exact ih s p hp
    · rename_i l hl
      rcases List.mem_append.mp hp with hp | hp
      · obtain ⟨a, ha, rfl⟩ := List.mem_map.mp hp
        exact ⟨l, mem_of_alookup hl, ha⟩
      · obtain ⟨l', hl', ha⟩ := ih _ p hp
        exact ⟨l', mem_adel hl', ha⟩

/-! ### the start event

`_process_start_event` written as one record update: `resultHeap` is the heap after the loop
`pushResults`, `finalTime` the `time_final_result` it returns. -/

def resultHeap (A : Arith) (d : Rat) (t : Nat) (te : Rat) (run : Nat) : List Res → Nat → Nat → List Ev → List Ev
  | [], _, _, h => h
  | r :: rs, i, c, h =>
    resultHeap A d t te run rs (i + 1) (c + 1) (insertEv ⟨A.add (A.add te r.elapsed) d, c, t, .result r ⟨run, i⟩⟩ h)

def finalTime (A : Arith) (te : Rat) : List Res → Rat → Rat
  | [], tf => tf
  | r :: rs, tf => finalTime A te rs (maxRat tf (A.add te r.elapsed))

theorem pushResults_eq (A : Arith) (t : Nat) (te : Rat) (run : Nat) (rs : List Res) : ∀ (s : Sim J) (i : Nat) (tf : Rat),
    pushResults A s t te run rs i tf =
      ({ s with heap := resultHeap A s.cfg.dResult t te run rs i s.added s.heap, added := s.added + rs.length },
       finalTime A te rs tf) := by
  induction rs with
  | nil => intro s i tf; rfl
  | cons r rs ih =>
    intro s i tf
    simp only [pushResults, ih, resultHeap, finalTime, push_cfg, push_added, push_heap, List.length_cons]
    simp only [Sim.push, Nat.add_assoc, Nat.add_comm 1]

theorem mem_resultHeap (A : Arith) (d : Rat) (t : Nat) (te : Rat) (run : Nat) (rs : List Res) :
    ∀ (i c : Nat) (h : List Ev) (e : Ev), e ∈ resultHeap A d t te run rs i c h ↔
      e ∈ h ∨ ∃ k r, rs[k]? = some r ∧ e = ⟨A.add (A.add te r.elapsed) d, c + k, t, .result r ⟨run, i + k⟩⟩ := by
  induction rs with
  | nil => intro i c h e; simp [resultHeap]
  | cons r rs ih =>
    intro i c h e
    rw [resultHeap, ih, mem_insertEv]
    constructor
    · rintro ((rfl | h) | ⟨k, r', hk, rfl⟩)
      · exact Or.inr ⟨0, r, rfl, rfl⟩
      · exact Or.inl h
      · exact Or.inr ⟨k + 1, r', hk, by rw [Nat.add_right_comm c, Nat.add_right_comm i]; rfl⟩
    · rintro (h | ⟨k, r', hk, rfl⟩)
      · exact Or.inl (Or.inr h)
      · cases k with
        | zero => cases hk; exact Or.inl (Or.inl rfl)
        | succ k => exact Or.inr ⟨k, r', hk, by rw [Nat.add_right_comm c, Nat.add_right_comm i]; rfl⟩

theorem le_finalTime (A : Arith) (te : Rat) (rs : List Res) : ∀ (tf : Rat),
    tf ≤ finalTime A te rs tf ∧ ∀ r ∈ rs, A.add te r.elapsed ≤ finalTime A te rs tf := by
  induction rs with
  | nil => intro tf; exact ⟨le_refl _, by simp⟩
  | cons r rs ih =>
    intro tf
    obtain ⟨h1, h2⟩ := ih (maxRat tf (A.add te r.elapsed))
    refine ⟨le_trans (le_maxRat_left _ _) h1, ?_⟩
    intro r' hr'
    rcases List.mem_cons.mp hr' with rfl | hr'
    · exact le_trans (le_maxRat_right _ _) h1
    · exact h2 r' hr'

/-- the state after a start event of trial `t` (run number `run`) at time `te` whose job returned
`(js', status, rs)` -/
def startResult (A : Arith) (s : Sim J) (t : Nat) (te : Rat) (run : Nat) (js' : J) (status : St)
    (rs : List Res) : Sim J :=
  { s with
    js := js'
    heap := insertEv ⟨A.add (finalTime A te rs te) s.cfg.dCompleteFinal, s.added + rs.length, t,
                      .complete status (some run)⟩
              (resultHeap A s.cfg.dResult t te run rs 0 s.added s.heap)
    added := s.added + rs.length + 1
    trials := modifyAt (fun y => { y with runs := y.runs + 1 }) t s.trials
    busy := insertNat t s.busy
    runs := s.runs ++ [⟨t, run, te, s.js, js', rs⟩] }

theorem mem_startResult {A : Arith} {s : Sim J} {t : Nat} {te : Rat} {run : Nat} {js' : J} {status : St}
    {rs : List Res} {e : Ev} : e ∈ (startResult A s t te run js' status rs).heap ↔
      e = ⟨A.add (finalTime A te rs te) s.cfg.dCompleteFinal, s.added + rs.length, t, .complete status (some run)⟩ ∨
      e ∈ s.heap ∨
      ∃ k r, rs[k]? = some r ∧ e = ⟨A.add (A.add te r.elapsed) s.cfg.dResult, s.added + k, t, .result r ⟨run, k⟩⟩ := by
  simp only [startResult, mem_insertEv, mem_resultHeap, Nat.zero_add]

theorem processEvent_cases {A : Arith} {job : JobFn J} {s s' : Sim J} {e : Ev} (h : s.processEvent A job e = .ok s') :
    (∃ x js' status rs, e.kind = .start ∧ s.trials[e.trial]? = some x ∧ job s.js e.trial = .ok (js', status, rs) ∧
        s' = startResult A s e.trial e.time x.runs js' status rs) ∨
    (∃ st nat, e.kind = .complete st nat ∧ e.trial < s.trials.length ∧
        s' = { (s.updT e.trial fun y => { y with isResult := true, status := st,
                                                 completedRun := if nat.isSome then nat else y.completedRun }) with
               busy := s.busy.erase e.trial }) ∨
    (e.kind = .stop ∧ s' = s.processStop e.trial) ∨
    (∃ r tag, e.kind = .result r tag ∧ e.trial < s.trials.length ∧
        s' = { (s.updT e.trial fun y => if y.isResult then y else { y with isResult := true, status := .inProgress }) with
               next := aset e.trial ((alookup e.trial s.next).getD [] ++ [⟨r, e.time, tag⟩]) s.next }) := by
  unfold Sim.processEvent at h
  split at h
  · rename_i hk
    unfold Sim.processStart at h
    cases hx : s.trials[e.trial]? with
    | none => rw [hx] at h; cases h
    | some x =>
      rw [hx] at h
      cases hj : job s.js e.trial with
      | error err => simp only [hj] at h; cases h
      | ok r =>
        obtain ⟨js', status, rs⟩ := r
        simp only [hj, pushResults_eq, Except.ok.injEq] at h
        exact Or.inl ⟨x, js', status, rs, hk, rfl, rfl, h.symm⟩
  · rename_i st nat hk
    unfold Sim.processComplete at h
    split at h
    · rename_i hl; cases h; exact Or.inr (Or.inl ⟨st, nat, hk, hl, rfl⟩)
    · cases h
  · rename_i hk
    cases h; exact Or.inr (Or.inr (Or.inl ⟨hk, rfl⟩))
  · rename_i r tag hk
    unfold Sim.processResult at h
    split at h
    · rename_i hl; cases h; exact Or.inr (Or.inr (Or.inr ⟨r, tag, hk, hl, rfl⟩))
    · cases h

structure SameNowCfg (s s' : Sim J) : Prop where
  now : s'.now = s.now
  cfg : s'.cfg = s.cfg

theorem processEvent_fields {A : Arith} {job : JobFn J} {s s' : Sim J} {e : Ev}
    (h : s.processEvent A job e = .ok s') : SameNowCfg s s' := by
  rcases processEvent_cases h with ⟨x, js', st, rs, _, _, _, rfl⟩ | ⟨st, nat, _, _, rfl⟩ | ⟨_, rfl⟩ | ⟨r, tag, _, _, rfl⟩
  all_goals exact ⟨rfl, rfl⟩

theorem processUntil_induct (A : Arith) (job : JobFn J) (P : Sim J → Prop)
    (hstep : ∀ (s : Sim J) (e : Ev) (rest : List Ev) (s' : Sim J), P s → s.heap = e :: rest → e.time ≤ s.now →
        ({ s with heap := rest } : Sim J).processEvent A job e = .ok s' → P s') :
    ∀ (fuel : Nat) (s s' : Sim J), P s → Sim.processUntil A job fuel s = .ok s' → P s' := by
  intro fuel
  induction fuel with
  | zero =>
    intro s s' hp h
    unfold Sim.processUntil at h
    split at h
    · cases h; exact hp
    · split at h
      · cases h
      · cases h; exact hp
  | succ n ih =>
    intro s s' hp h
    unfold Sim.processUntil at h
    split at h
    · cases h; exact hp
    · rename_i e rest hheap
      split at h
      · rename_i hdue
        cases hev : ({ s with heap := rest } : Sim J).processEvent A job e with
        | error err => rw [hev] at h; cases h
        | ok s1 =>
          rw [hev] at h
          exact ih s1 s' (hstep s e rest s1 hp hheap hdue hev) h
      · cases h; exact hp

theorem processUntil_head (A : Arith) (job : JobFn J) :
    ∀ (fuel : Nat) (s s' : Sim J), Sim.processUntil A job fuel s = .ok s' →
      ∀ e, s'.heap.head? = some e → s'.now < e.time := by
  intro fuel
  induction fuel with
  | zero =>
    intro s s' h e he
    unfold Sim.processUntil at h
    split at h
    · cases h; rename_i hh; rw [hh] at he; cases he
    · rename_i e0 rest hheap
      split at h
      · cases h
      · cases h
        rw [hheap] at he
        cases he
        exact not_le.mp ‹_›
  | succ n ih =>
    intro s s' h e he
    unfold Sim.processUntil at h
    split at h
    · cases h; rename_i hh; rw [hh] at he; cases he
    · rename_i e0 rest hheap
      split at h
      · cases hev : ({ s with heap := rest } : Sim J).processEvent A job e0 with
        | error err => rw [hev] at h; cases h
        | ok s1 => rw [hev] at h; exact ih s1 s' h e he
      · cases h
        rw [hheap] at he
        cases he
        exact not_le.mp ‹_›

theorem processUntil_fields {A : Arith} {job : JobFn J} {fuel : Nat} {s s' : Sim J}
    (h : Sim.processUntil A job fuel s = .ok s') : SameNowCfg s s' :=
  processUntil_induct A job (SameNowCfg s)
    (fun _ _ _ _ hx _ _ hev => ⟨(processEvent_fields hev).now.trans hx.now, (processEvent_fields hev).cfg.trans hx.cfg⟩)
    fuel s s' ⟨rfl, rfl⟩ h

end SyneTune.SimL
