import SyneTune.Lemmas.C14CompDefs
import SyneTune.Lemmas.RungLevels
/- C14 composed system: how the invariant sees the bracket manager — through its `shape` (never changes), the
per-trial view `trialView` (with `nextLevel`, the milestone of a stopping-type trial) and the rung entries `EntIn` —
and what `on_task_add` / `on_task_remove` do to these; the constructed manager is well formed and holds no entry. -/
namespace SyneTune.C14Comp
open SyneTune

theorem nextLevel_mem (l d : Nat) (ms : List Nat) : nextLevel l d ms = d ∨ nextLevel l d ms ∈ ms := by
  induction ms generalizing d with
  | nil => exact Or.inl rfl
  | cons x xs ih =>
    unfold nextLevel
    split
    · rcases ih x with h | h
      · right; rw [h]; simp
      · right; exact List.mem_cons_of_mem _ h
    · exact Or.inl rfl

theorem nextLevel_gt (l d : Nat) (ms : List Nat) (hd : l < d) : l < nextLevel l d ms := by
  induction ms generalizing d with
  | nil => exact hd
  | cons x xs ih =>
    unfold nextLevel
    split
    · rename_i hx; exact ih x hx
    · exact hd

theorem nextLevel_succ_of_not_mem (l d : Nat) (ms : List Nat) (h : l + 1 ∉ ms) :
    nextLevel (l + 1) d ms = nextLevel l d ms := by
  induction ms generalizing d with
  | nil => rfl
  | cons x xs ih =>
    simp only [List.mem_cons, not_or] at h
    unfold nextLevel
    by_cases hx : l < x
    · have hx' : l + 1 < x := by omega
      simp only [hx, hx', if_true]
      exact ih x h.2
    · have hx' : ¬ l + 1 < x := by omega
      simp only [hx, hx', if_false]

theorem nextLevel_of_succ_mem (l d : Nat) (ms : List Nat) (hp : ms.Pairwise (fun a b => b < a))
    (h : l + 1 ∈ ms) : nextLevel l d ms = l + 1 := by
  induction ms generalizing d with
  | nil => simp at h
  | cons x xs ih =>
    rw [List.pairwise_cons] at hp
    unfold nextLevel
    rcases List.mem_cons.mp h with hx | hx
    · subst hx
      simp only [Nat.lt_succ_self, if_true]
      cases xs with
      | nil => rfl
      | cons y ys =>
        unfold nextLevel
        have := hp.1 y (by simp)
        have hy : ¬ l < y := by omega
        simp [hy]
    · have := hp.1 _ hx
      have hlt : l < x := by omega
      simp only [hlt, if_true]
      exact ih x hp.2 hx

theorem nextLevel_zero (d : Nat) (ms : List Nat) (hpos : ∀ x ∈ ms, 1 ≤ x) :
    nextLevel 0 d ms = (match ms.getLast? with | some x => x | none => d) := by
  induction ms generalizing d with
  | nil => rfl
  | cons x xs ih =>
    have hx : 0 < x := hpos x (by simp)
    unfold nextLevel
    simp only [hx, if_true]
    rw [ih x (fun y hy => hpos y (List.mem_cons_of_mem _ hy))]
    cases xs with
    | nil => rfl
    | cons y ys =>
      rw [List.getLast?_cons_cons]
      have : (y :: ys).getLast? = some ((y :: ys).getLast (by simp)) := List.getLast?_eq_some_getLast (by simp)
      simp only [this]

/-- what the invariant reads of the part of the manager no operation changes (`Manager.const`): the rungs by
their levels only (`sig`) -/
def shape (g : Manager) : HBType × Mode × Nat × List Nat × Bool × List (Nat × List Nat) :=
  (g.type, g.mode, g.maxT, g.rungLevels, g.perBracket, g.systems.map sig)

theorem shape_type {g g' : Manager} (h : shape g' = shape g) : g'.type = g.type := congrArg (·.1) h

theorem shape_maxT {g g' : Manager} (h : shape g' = shape g) : g'.maxT = g.maxT := congrArg (·.2.2.1) h

theorem shape_levels {g g' : Manager} (h : shape g' = shape g) : g'.rungLevels = g.rungLevels :=
  congrArg (·.2.2.2.1) h

theorem MgrWF_of_shape {g g' : Manager} (h : shape g' = shape g) (hw : MgrWF g) : MgrWF g' := by
  have h6 : g'.systems.map sig = g.systems.map sig := congrArg (·.2.2.2.2.2) h
  unfold MgrWF at *
  rw [shape_maxT h, shape_levels h, h6]; exact hw

theorem sysFor_of_shape {g g' : Manager} (h : shape g' = shape g) (b : Nat) : g'.sysFor b = g.sysFor b := by
  have h5 : g'.perBracket = g.perBracket := congrArg (·.2.2.2.2.1) h
  unfold Manager.sysFor; rw [h5]

theorem shape_of_const {g g' : Manager} (h : g'.const = g.const) : shape g' = shape g := by
  have hs : ∀ g : Manager, shape g = (g.const.type, g.const.mode, g.const.maxT, g.const.rungLevels, g.const.perBracket,
      g.const.systems.map fun c => (c.1, c.2.map (·.1))) := fun g => by
    simp [shape, Manager.const, sig, RungSys.const, Function.comp_def]
  rw [hs, hs, h]

theorem sig_of_const {s s' : RungSys} (h : s'.const = s.const) : sig s' = sig s := by
  have := congrArg (fun c : Nat × List (Nat × Rat) => (c.1, c.2.map Prod.fst)) h
  simpa [RungSys.const, sig, Function.comp_def] using this

theorem milestones_congr {a b : RungSys} (h : sig b = sig a) (skip : Nat) :
    b.milestones skip = a.milestones skip := by
  have hm : ∀ s : RungSys, s.milestones skip = (sig s).2.take ((sig s).2.length - skip) := fun s => by
    simp [RungSys.milestones, milestoneRungs, sig, List.map_take]
  rw [hm, hm, h]

theorem MgrWF_sys {g : Manager} (hw : MgrWF g) {sys : RungSys} (hs : sys ∈ g.systems) :
    sys.maxT = g.maxT ∧ RungsDecr sys.rungs ∧ ∀ rg ∈ sys.rungs, 1 ≤ rg.level ∧ rg.level < g.maxT ∧ rg.level ∈ g.rungLevels := by
  obtain ⟨h1, h2, h3⟩ := hw.2.2 (sig sys) (List.mem_map_of_mem hs)
  refine ⟨h1, ?_, ?_⟩
  · unfold RungsDecr
    simp only [sig, List.pairwise_map] at h2
    exact h2
  · intro rg hrg
    exact h3 rg.level (List.mem_map_of_mem hrg)

theorem trialView_of (g : Manager) (tid b : Nat) (sys : RungSys) (h1 : alookup tid g.taskInfo = some b)
    (h2 : g.systems[(g.sysFor b).1]? = some sys) :
    trialView g tid = some (alookup tid sys.running, sys.milestones (g.sysFor b).2) := by
  unfold trialView; simp only [h1, h2]

theorem milestoneOf_of_view {g : Manager} {t : Nat} {run : Option (Nat × Option Nat)} {ms : List Nat}
    (hv : trialView g t = some (run, ms)) (l : Nat) :
    milestoneOf g t l = if g.type.pauseResume then (run.map (·.1)).getD 0 else nextLevel l g.maxT ms := by
  unfold milestoneOf; simp only [hv]; cases run <;> rfl

theorem trialView_set (g g' : Manager) (t i : Nat) (sys sys' : RungSys)
    (hsh : g'.perBracket = g.perBracket) (hinfo : alookup t g'.taskInfo = alookup t g.taskInfo)
    (hs : g.systems[i]? = some sys) (hset : g'.systems = g.systems.set i sys')
    (hr : alookup t sys'.running = alookup t sys.running) (hsig : sig sys' = sig sys) :
    trialView g' t = trialView g t := by
  unfold trialView
  rw [hinfo]
  cases alookup t g.taskInfo with
  | none => rfl
  | some b =>
    simp only
    have hsf : g'.sysFor b = g.sysFor b := by unfold Manager.sysFor; rw [hsh]
    rw [hsf, hset, List.getElem?_set]
    by_cases hik : i = (g.sysFor b).1
    · subst hik
      have hlt := (List.getElem?_eq_some_iff.mp hs).1
      simp only [hlt, if_true, hs, hr, milestones_congr hsig]
    · rw [if_neg hik]

theorem trialView_setSys (g : Manager) {i : Nat} {sys sys' : RungSys} (hs : g.systems[i]? = some sys)
    (hr : sys'.running = sys.running) (hsig : sig sys' = sig sys) (t : Nat) :
    trialView (g.setSys i sys') t = trialView g t :=
  trialView_set g _ t i sys sys' rfl rfl hs rfl (by rw [hr]) hsig

theorem milestoneOf_congr {g g' : Manager} (hs : shape g' = shape g) {t : Nat}
    (hv : trialView g' t = trialView g t) (l : Nat) : milestoneOf g' t l = milestoneOf g t l := by
  unfold milestoneOf
  rw [hv, shape_type hs, shape_maxT hs]

theorem resumedBelow_congr {g g' : Manager} (hs : shape g' = shape g) {t : Nat}
    (hv : trialView g' t = trialView g t) (r : Nat) : resumedBelow g' t r = resumedBelow g t r := by
  unfold resumedBelow
  rw [hv, shape_type hs, shape_maxT hs]

theorem EntIn_unpromoted {ss : List RungSys} {L : Nat} {e : Entry} (h : EntIn ss L e)
    (hp : e.promoted = false) : e.tid ∈ unpromotedSys ss := by
  obtain ⟨sys, hs, rg, hrg, _, he⟩ := h
  simp only [unpromotedSys, unpromotedOf, Rung.unpromoted, List.mem_flatMap, List.mem_map, List.mem_filter]
  exact ⟨sys, hs, rg, hrg, e, ⟨he, by simp [hp]⟩, rfl⟩

theorem EntIn_set {ss : List RungSys} {i : Nat} {sys' : RungSys}
    {L : Nat} {e : Entry} (h : EntIn (ss.set i sys') L e) :
    EntIn ss L e ∨ ∃ rg ∈ sys'.rungs, rg.level = L ∧ e ∈ rg.data := by
  obtain ⟨y, hy, rg, hrg, hl, he⟩ := h
  rcases List.mem_or_eq_of_mem_set hy with hm | rfl
  · exact Or.inl ⟨y, hm, rg, hrg, hl, he⟩
  · exact Or.inr ⟨rg, hrg, hl, he⟩

theorem EntIn_set_same_rungs {ss : List RungSys} {i : Nat} {sys sys' : RungSys} (hs : ss[i]? = some sys)
    (hr : sys'.rungs = sys.rungs) {L : Nat} {e : Entry} (h : EntIn (ss.set i sys') L e) : EntIn ss L e := by
  rcases EntIn_set h with h | ⟨rg, hrg, hl, he⟩
  · exact h
  · rw [hr] at hrg
    exact ⟨sys, List.mem_of_getElem? hs, rg, hrg, hl, he⟩

def EntsFrom (ss ss' : List RungSys) : Prop :=
  ∀ L e, EntIn ss' L e → ∃ e0, EntIn ss L e0 ∧ e0.tid = e.tid ∧ (e.promoted = false → e0.promoted = false)

theorem EntsFrom.of_subset {ss ss' : List RungSys} (h : ∀ L e, EntIn ss' L e → EntIn ss L e) : EntsFrom ss ss' :=
  fun L e he => ⟨e, h L e he, rfl, id⟩

theorem EntsFrom.trans {a b c : List RungSys} (h1 : EntsFrom a b) (h2 : EntsFrom b c) : EntsFrom a c := by
  intro L e he
  obtain ⟨e1, k1, t1, p1⟩ := h2 L e he
  obtain ⟨e0, k0, t0, p0⟩ := h1 L e1 k1
  exact ⟨e0, k0, t0.trans t1, fun hp => p0 (p1 hp)⟩

theorem EntsFrom.of_set {ss : List RungSys} {i : Nat} {sys sys' : RungSys} (hs : ss[i]? = some sys)
    (h : ∀ rg' ∈ sys'.rungs, ∀ e' ∈ rg'.data, ∃ rg ∈ sys.rungs, rg.level = rg'.level ∧
      ∃ e ∈ rg.data, e.tid = e'.tid ∧ (e'.promoted = false → e.promoted = false)) :
    EntsFrom ss (ss.set i sys') := by
  intro L e' he'
  rcases EntIn_set he' with he' | ⟨rg', hrg', hl, hmem'⟩
  · exact ⟨e', he', rfl, id⟩
  · obtain ⟨rg, hrg, hl2, e, he, ht, hp⟩ := h rg' hrg' e' hmem'
    exact ⟨e, ⟨sys, List.mem_of_getElem? hs, rg, hrg, hl2.trans hl, he⟩, ht, hp⟩

theorem taskRemove_effect (g : Manager) (tid : Nat) :
    (∀ t, t ≠ tid → trialView (g.taskRemove tid) t = trialView g t) ∧
    (∀ L e, EntIn (g.taskRemove tid).systems L e → EntIn g.systems L e) := by
  rcases g.taskRemove_eq tid with h | ⟨i, h⟩ <;> rw [h]
  · exact ⟨fun _ _ => rfl, fun _ _ h => h⟩
  · rcases delRunningAt_eq g.systems i tid with h' | ⟨sys, hs, h'⟩ <;> simp only [h']
    · exact ⟨fun t ht => by unfold trialView; rw [alookup_adel_ne ht]; rfl, fun _ _ h => h⟩
    · exact ⟨fun t ht => trialView_set g _ t _ sys _ rfl (alookup_adel_ne ht _) hs rfl (alookup_adel_ne ht _) rfl,
        fun L e h => EntIn_set_same_rungs (sys' := { sys with running := adel tid sys.running }) hs rfl h⟩

theorem firstOfList_props {g : Manager} (hw : MgrWF g) {sys : RungSys} (hs : sys ∈ g.systems) (skip : Nat) :
    1 ≤ sys.firstOfList skip g.maxT ∧
    (sys.firstOfList skip g.maxT = g.maxT ∨ sys.firstOfList skip g.maxT ∈ g.rungLevels) := by
  obtain ⟨_, _, h3⟩ := MgrWF_sys hw hs
  unfold RungSys.firstOfList
  cases hl : (sys.milestones skip).getLast? with
  | none => exact ⟨hw.1, Or.inl rfl⟩
  | some x =>
    obtain ⟨rg, hrg, rfl⟩ := mem_milestones (List.mem_of_getLast? hl)
    exact ⟨(h3 rg hrg).1, Or.inr (h3 rg hrg).2.2⟩

theorem milestoneOf_taskAdd (g : Manager) (tid b : Nat) {sys sys' : RungSys} (hs : g.systems[(g.sysFor b).1]? = some sys)
    (hsig : sig sys' = sig sys) (l : Nat) :
    milestoneOf (({ g with taskInfo := aset tid b g.taskInfo } : Manager).setSys (g.sysFor b).1 sys') tid l
      = if g.type.pauseResume then ((alookup tid sys'.running).map (·.1)).getD 0
        else nextLevel l g.maxT (sys.milestones (g.sysFor b).2) := by
  rw [milestoneOf_of_view (run := alookup tid sys'.running) (ms := sys.milestones (g.sysFor b).2)]
  · rfl
  · rw [trialView_of _ tid b sys' (alookup_aset_self ..) (getElem?_set_self' _ _ sys sys' hs), milestones_congr hsig]
    rfl

theorem taskAdd_mgrStep {g g' : Manager} {tid b : Nat} {resume : Option (Nat × Nat)} {first : Nat}
    (h : g.taskAdd tid b resume = .ok (g', first)) :
    (∀ t, t ≠ tid → trialView g' t = trialView g t) ∧ (∀ L e, EntIn g'.systems L e → EntIn g.systems L e) := by
  obtain ⟨sys, sys', hs, ha, rfl, _⟩ := Manager.taskAdd_ok h
  have hsys : sys'.rungs = sys.rungs ∧ sig sys' = sig sys ∧
      ∀ t, t ≠ tid → alookup t sys'.running = alookup t sys.running := by
    rcases RungSys.taskAdd_ok ha with ⟨_, rfl⟩ | ⟨_, _, _, rfl, _⟩
    · exact ⟨rfl, rfl, fun _ _ => rfl⟩
    · exact ⟨rfl, rfl, fun t ht => alookup_aset_ne ht _ _⟩
  exact ⟨fun t ht => trialView_set g _ t _ sys sys' rfl (alookup_aset_ne ht _ _) hs rfl (hsys.2.2 t ht) hsys.2.1,
    fun L e he => EntIn_set_same_rungs hs hsys.1 he⟩

theorem taskAdd_new {g g' : Manager} {tid b first : Nat} (h : g.taskAdd tid b none = .ok (g', first)) (hw : MgrWF g) :
    milestoneOf g' tid 0 = first ∧ 1 ≤ first ∧ (first = g.maxT ∨ first ∈ g.rungLevels) := by
  obtain ⟨sys, sys', hs, ha, rfl, rfl⟩ := Manager.taskAdd_ok h
  have hmem : sys ∈ g.systems := List.mem_of_getElem? hs
  obtain ⟨w1, _, w3⟩ := MgrWF_sys hw hmem
  obtain ⟨p1, p2⟩ := firstOfList_props hw hmem (g.sysFor b).2
  rcases RungSys.taskAdd_ok ha with ⟨hpr, rfl⟩ | ⟨hpr, ms, rf, rfl, _, hn, _⟩
  · -- stopping types: the first milestone is the lowest level of the bracket
    refine ⟨?_, p1, p2⟩
    rw [milestoneOf_taskAdd g tid b hs rfl, hpr, if_neg Bool.false_ne_true,
      nextLevel_zero g.maxT _ fun x hx => by obtain ⟨rg, hrg, rfl⟩ := mem_milestones hx; exact (w3 rg hrg).1]
    rfl
  · refine ⟨?_, p1, p2⟩
    rw [milestoneOf_taskAdd g tid b (sys' := { sys with running := aset tid (ms, rf) sys.running }) hs rfl,
      hpr, if_pos rfl, alookup_aset_self, (hn rfl).1, firstMilestone_eq, w1]
    rfl

theorem taskAdd_resumed {g g' : Manager} {tid b m f first : Nat} (h : g.taskAdd tid b (some (m, f)) = .ok (g', first))
    (hpr : g.type.pauseResume = true) : f < m ∧ ∀ l, milestoneOf g' tid l = m := by
  obtain ⟨sys, sys', hs, ha, hg, _⟩ := Manager.taskAdd_ok h
  refine ⟨(taskAdd_resume g g' tid b m f first sys h hpr hs).1, fun l => ?_⟩
  rcases RungSys.taskAdd_ok ha with ⟨hpr', _⟩ | ⟨_, ms, rf, rfl, _, _, hs'⟩
  · rw [hpr] at hpr'; cases hpr'
  · rw [hg, milestoneOf_taskAdd g tid b (sys' := { sys with running := aset tid (ms, rf) sys.running }) hs rfl,
      hpr, if_pos rfl, alookup_aset_self]
    exact (hs' _ rfl).1

theorem sig_mkSys (ty : HBType) (numThr : Nat) (ls : List Nat) (qs : List Rat) (maxT : Nat)
    (h : qs.length = ls.length) : sig (mkSys ty numThr ls qs maxT) = (maxT, ls.reverse) := by
  obtain ⟨h1, h2, _⟩ := mkSys_fields ty numThr ls qs maxT
  unfold sig
  rw [h1, h2]
  simp only [mkRungSys, List.map_reverse, zipWith_rung_levels ls qs h]

theorem init_MgrWF (ty : HBType) (mode : Mode) (maxT : Nat) (levels : List Nat) (brackets : Nat)
    (perBracket : Bool) (numThr : Nat) (hmax : 1 ≤ maxT) (hinc : levels.Pairwise (· < ·))
    (hlev : ∀ l ∈ levels, 1 ≤ l ∧ l < maxT) :
    MgrWF (Manager.init ty mode maxT levels brackets perBracket numThr) := by
  refine ⟨hmax, fun l hl => (hlev l hl).2, ?_⟩
  intro x hx
  obtain ⟨sys, hs, rfl⟩ := List.mem_map.mp hx
  obtain ⟨k, rfl⟩ := Manager.init_sys hs
  have hlen : ((promoteQuantiles levels maxT).drop k).length = (levels.drop k).length := by
    simp [promoteQuantiles_length]
  rw [sig_mkSys ty numThr _ _ maxT hlen]
  refine ⟨rfl, ?_, ?_⟩
  · simp only
    rw [List.pairwise_reverse]
    exact hinc.sublist (List.drop_sublist k levels)
  · intro l hl
    simp only [List.mem_reverse] at hl
    have hm := List.mem_of_mem_drop hl
    exact ⟨(hlev l hm).1, (hlev l hm).2, hm⟩

theorem init_no_entries (ty : HBType) (mode : Mode) (maxT : Nat) (levels : List Nat) (brackets : Nat)
    (perBracket : Bool) (numThr : Nat) (L : Nat) (e : Entry) :
    ¬ EntIn (Manager.init ty mode maxT levels brackets perBracket numThr).systems L e := by
  rintro ⟨sys, hs, rg, hrg, _, he⟩
  obtain ⟨k, rfl⟩ := Manager.init_sys hs
  rw [(mkSys_fields ty numThr _ _ maxT).1] at hrg
  rw [(mem_mkRungSys hrg).1] at he
  cases he

end SyneTune.C14Comp
