import SyneTune.Lemmas.SimTabRun
/-
The event heap of the simulator: its invariant (`HeapOK`), how handling an event changes it (`processEvent_heap`),
what the event loop leaves alone for a trial without events, and that after `_stop_or_pause_trial` no event of the
trial remains.
-/
namespace SyneTune.SimL
open SyneTune SyneTune.Backend SyneTune.SimTab

variable {J : Type}

/-- the heap is strictly sorted by `(time, cnt)` and all counters are below `events_added` -/
structure HeapOK (s : Sim J) : Prop where
  sorted : s.heap.Pairwise keyLt
  cnt_lt : ∀ e ∈ s.heap, e.cnt < s.added

theorem insertEv_ok {e : Ev} {l : List Ev} (hs : l.Pairwise keyLt) (hc : ∀ x ∈ l, x.cnt < e.cnt) :
    (insertEv e l).Pairwise keyLt ∧ ∀ x ∈ insertEv e l, x.cnt < e.cnt + 1 := by
  refine ⟨insertEv_sorted e l hs fun x hx => Nat.ne_of_lt (hc x hx), fun x hx => ?_⟩
  rcases (mem_insertEv e x l).mp hx with rfl | hx
  · exact Nat.lt_succ_self _
  · exact Nat.lt_succ_of_lt (hc x hx)

theorem resultHeap_ok (A : Arith) (d : Rat) (t : Nat) (te : Rat) (run : Nat) (rs : List Res) :
    ∀ (i c : Nat) (l : List Ev), l.Pairwise keyLt → (∀ x ∈ l, x.cnt < c) →
      (resultHeap A d t te run rs i c l).Pairwise keyLt ∧ ∀ x ∈ resultHeap A d t te run rs i c l, x.cnt < c + rs.length := by
  induction rs with
  | nil => intro i c l hs hc; exact ⟨hs, hc⟩
  | cons r rs ih =>
    intro i c l hs hc
    obtain ⟨h1, h2⟩ := insertEv_ok (e := ⟨A.add (A.add te r.elapsed) d, c, t, .result r ⟨run, i⟩⟩) hs hc
    rw [List.length_cons, Nat.add_left_comm, Nat.add_comm]
    exact ih (i + 1) (c + 1) _ h1 h2

theorem HeapOK.push {s : Sim J} (h : HeapOK s) (tm : Rat) (t : Nat) (k : EvKind) : HeapOK (s.push tm t k) :=
  have := insertEv_ok (e := ⟨tm, s.added, t, k⟩) h.sorted h.cnt_lt
  ⟨this.1, this.2⟩

theorem HeapOK.of_eq {s s' : Sim J} (h : HeapOK s) (hh : s'.heap = s.heap) (ha : s'.added = s.added) : HeapOK s' :=
  ⟨by rw [hh]; exact h.sorted, by rw [hh, ha]; exact h.cnt_lt⟩

theorem HeapOK.sub {s s' : Sim J} (h : HeapOK s) (hh : s'.heap.Sublist s.heap) (ha : s'.added = s.added) : HeapOK s' :=
  ⟨h.sorted.sublist hh, by rw [ha]; exact fun e he => h.cnt_lt e (hh.subset he)⟩

theorem HeapOK.startResult {A : Arith} {s : Sim J} (h : HeapOK s) (t : Nat) (te : Rat) (run : Nat) (js' : J)
    (status : St) (rs : List Res) : HeapOK (startResult A s t te run js' status rs) :=
  have h1 := resultHeap_ok A s.cfg.dResult t te run rs 0 s.added s.heap h.sorted h.cnt_lt
  have h2 := insertEv_ok (e := ⟨A.add (finalTime A te rs te) s.cfg.dCompleteFinal, s.added + rs.length, t,
    .complete status (some run)⟩) h1.1 h1.2
  ⟨h2.1, h2.2⟩

theorem HeapOK.processEvent {A : Arith} {job : JobFn J} {s s' : Sim J} {e : Ev} (h : HeapOK s)
    (hev : s.processEvent A job e = .ok s') : HeapOK s' := by
  rcases processEvent_cases hev with ⟨x, js', st, rs, _, _, _, rfl⟩ | ⟨st, nat, _, _, rfl⟩ | ⟨_, rfl⟩ | ⟨r, tag, _, _, rfl⟩
  · exact h.startResult _ _ _ _ _ _
  · exact h.of_eq rfl rfl
  · exact h.sub List.filter_sublist rfl
  · exact h.of_eq rfl rfl

theorem HeapOK.prim {A : Arith} {job : JobFn J} {H : J → J → Prop} (s s' : Sim J) (hp : Prim A job H s s')
    (h : HeapOK s) : HeapOK s' := by
  cases hp with
  | @event _ e rest hh _ hev =>
    exact (h.sub (s' := { s with heap := rest }) (hh ▸ List.sublist_cons_self e rest) rfl).processEvent hev
  | push tm t => exact h.push tm t _
  | deliver ids => exact deliver_induct HeapOK (fun _ _ _ _ _ h => h.of_eq rfl rfl) s ids h
  | _ => exact h.of_eq rfl rfl

theorem HeapOK.processUntil {A : Arith} {job : JobFn J} {fuel : Nat} {s s' : Sim J} (h : HeapOK s)
    (hp : Sim.processUntil A job fuel s = .ok s') : HeapOK s' :=
  (processUntil_path (H := fun _ _ => True) hp).keeps HeapOK.prim h

theorem HeapOK.schedule {A : Arith} {job : JobFn J} {s s' : Sim J} {t : Nat} (h : HeapOK s)
    (hs : s.schedule A job t = .ok s') : HeapOK s' :=
  (schedule_path (H := fun _ _ => True) hs).keeps HeapOK.prim h

theorem processUntil_nodue {A : Arith} {job : JobFn J} {fuel : Nat} {s s' : Sim J} (h : HeapOK s)
    (hp : Sim.processUntil A job fuel s = .ok s') : ∀ e ∈ s'.heap, s'.now < e.time := by
  have hs := (h.processUntil hp).sorted
  have hhead := processUntil_head A job fuel s s' hp
  intro e he
  cases hh : s'.heap with
  | nil => rw [hh] at he; cases he
  | cons x xs =>
    have hx := hhead x (by rw [hh]; rfl)
    rw [hh] at he hs
    rcases List.mem_cons.mp he with rfl | he
    · exact hx
    · rcases (List.pairwise_cons.mp hs).1 e he with h1 | h1
      · exact lt_trans hx h1
      · rw [← h1.1]; exact hx

theorem HeapOK.run {A : Arith} {job : JobFn TabState} (ops : List SOp) {s s' : TB} (h : HeapOK s)
    (hs : TB.run A job s ops = .ok s') : HeapOK s' :=
  run_induct HeapOK.prim (fun _ _ _ h => h.of_eq rfl rfl) ops h hs

theorem HeapOK.init (cfg : SimCfg) (js : TabState) : HeapOK (TB.init cfg js) :=
  ⟨by simp [TB.init], by simp [TB.init]⟩

def NoEv (t : Nat) (heap : List Ev) : Prop := ∀ e ∈ heap, e.trial ≠ t

theorem processEvent_heap {A : Arith} {job : JobFn J} {s s' : Sim J} {e : Ev}
    (h : s.processEvent A job e = .ok s') (e' : Ev) :
    (e' ∈ s'.heap → e' ∈ s.heap ∨ (e.kind = .start ∧ e'.trial = e.trial)) ∧
    (e' ∈ s.heap → e' ∈ s'.heap ∨ (e.kind = .stop ∧ e'.trial = e.trial)) ∧
    (e.kind = .stop → e' ∈ s'.heap → e'.trial ≠ e.trial) := by
  rcases processEvent_cases h with ⟨x, js', st, rs, hk, _, _, rfl⟩ | ⟨st, nat, hk, _, rfl⟩ | ⟨hk, rfl⟩ | ⟨r, tag, hk, _, rfl⟩
  · refine ⟨fun he' => ?_, fun he' => Or.inl (mem_startResult.mpr (Or.inr (Or.inl he'))), fun hs => by rw [hk] at hs; cases hs⟩
    rcases mem_startResult.mp he' with rfl | h1 | ⟨k, r, _, rfl⟩
    · exact Or.inr ⟨hk, rfl⟩
    · exact Or.inl h1
    · exact Or.inr ⟨hk, rfl⟩
  · exact ⟨Or.inl, Or.inl, fun hs => by rw [hk] at hs; cases hs⟩
  · refine ⟨fun he' => Or.inl (List.mem_filter.mp he').1, fun he' => ?_, fun _ he' => by simpa using (List.mem_filter.mp he').2⟩
    by_cases ht : e'.trial = e.trial
    · exact Or.inr ⟨hk, ht⟩
    · exact Or.inl (List.mem_filter.mpr ⟨he', by simpa using ht⟩)
  · exact ⟨Or.inl, Or.inl, fun hs => by rw [hk] at hs; cases hs⟩

theorem processEvent_noEv {A : Arith} {job : JobFn J} {s s' : Sim J} {e : Ev} {u : Nat}
    (hne : e.trial ≠ u) (hno : NoEv u s.heap) (h : s.processEvent A job e = .ok s') : NoEv u s'.heap := by
  intro e' he'
  rcases (processEvent_heap h e').1 he' with h1 | ⟨_, h1⟩
  · exact hno e' h1
  · rw [h1]; exact hne

theorem processEvent_next {A : Arith} {job : JobFn J} {s s' : Sim J} {e : Ev} {u : Nat}
    (hne : e.trial ≠ u) (h : s.processEvent A job e = .ok s') : alookup u s'.next = alookup u s.next := by
  rcases processEvent_cases h with ⟨x, js', st, rs, _, _, _, rfl⟩ | ⟨st, nat, _, _, rfl⟩ | ⟨_, rfl⟩ | ⟨r, tag, _, _, rfl⟩
  · rfl
  · rfl
  · rfl
  · exact (alookup_aset _ _ _ _).trans (if_neg (Ne.symm hne))

theorem processUntil_next {A : Arith} {job : JobFn J} {fuel : Nat} {s s' : Sim J} {u : Nat}
    (hno : NoEv u s.heap) (h : Sim.processUntil A job fuel s = .ok s') :
    NoEv u s'.heap ∧ alookup u s'.next = alookup u s.next := by
  refine processUntil_induct A job (fun x => NoEv u x.heap ∧ alookup u x.next = alookup u s.next) ?_
    fuel s s' ⟨hno, rfl⟩ h
  intro x e rest x1 hx hheap _ hev
  have hx1 := hx.1
  rw [hheap] at hx1
  have he : e.trial ≠ u := hx1 e List.mem_cons_self
  exact ⟨processEvent_noEv he (fun e' he' => hx1 e' (List.mem_cons_of_mem _ he')) hev,
    (processEvent_next he hev).trans hx.2⟩

theorem processUntil_noEv {A : Arith} {job : JobFn J} {fuel : Nat} {s s' : Sim J} {u : Nat}
    (hno : NoEv u s.heap) (h : Sim.processUntil A job fuel s = .ok s') : NoEv u s'.heap :=
  (processUntil_next hno h).1

/-- first phase of `_stop_or_pause_trial` -/
theorem processUntil_stop_removes {A : Arith} {job : JobFn J} {fuel : Nat} {s s' : Sim J} {t : Nat}
    (hok : HeapOK s) (hstop : ∃ e ∈ s.heap, e.trial = t ∧ e.kind = .stop ∧ e.time ≤ s.now)
    (h : Sim.processUntil A job fuel s = .ok s') : NoEv t s'.heap := by
  have hP : (∃ e ∈ s'.heap, e.trial = t ∧ e.kind = .stop ∧ e.time ≤ s'.now) ∨ NoEv t s'.heap := by
    refine processUntil_induct A job
      (fun x => (∃ e ∈ x.heap, e.trial = t ∧ e.kind = .stop ∧ e.time ≤ x.now) ∨ NoEv t x.heap)
      ?_ fuel s s' (Or.inl hstop) h
    intro x e rest x1 hx hheap _ hev
    have hnow : x1.now = x.now := (processEvent_fields hev).now
    rw [hheap] at hx
    rcases hx with ⟨e0, he0, ht0, hk0, hd0⟩ | hx
    · by_cases hstopT : e.kind = .stop ∧ e.trial = t
      · exact Or.inr fun e' he' => hstopT.2 ▸ (processEvent_heap hev e').2.2 hstopT.1 he'
      · have he0r : e0 ∈ rest := by
          rcases List.mem_cons.mp he0 with rfl | h1
          · exact absurd ⟨hk0, ht0⟩ hstopT
          · exact h1
        rcases (processEvent_heap hev e0).2.1 he0r with h1 | ⟨h1, h2⟩
        · exact Or.inl ⟨e0, h1, ht0, hk0, by rw [hnow]; exact hd0⟩
        · exact absurd ⟨h1, h2 ▸ ht0⟩ hstopT
    · exact Or.inr (processEvent_noEv (hx e List.mem_cons_self) (fun e' he' => hx e' (List.mem_cons_of_mem _ he')) hev)
  rcases hP with ⟨e0, he0, _, _, hd0⟩ | hP
  · exact absurd hd0 (not_le.mpr (processUntil_nodue hok h e0 he0))
  · exact hP

/-- its second phase -/
theorem processUntil_complete_removes {A : Arith} {job : JobFn J} {fuel : Nat} {s s' : Sim J} {t : Nat}
    (hok : HeapOK s)
    (honly : ∀ e ∈ s.heap, e.trial = t → (∃ st nat, e.kind = .complete st nat) ∧ e.time ≤ s.now)
    (h : Sim.processUntil A job fuel s = .ok s') : NoEv t s'.heap := by
  have hP : ∀ e ∈ s'.heap, e.trial = t → (∃ st nat, e.kind = .complete st nat) ∧ e.time ≤ s'.now := by
    refine processUntil_induct A job
      (fun x => ∀ e ∈ x.heap, e.trial = t → (∃ st nat, e.kind = .complete st nat) ∧ e.time ≤ x.now)
      ?_ fuel s s' honly h
    intro x e rest x1 hx hheap _ hev e' he' ht'
    rw [hheap] at hx
    rw [(processEvent_fields hev).now]
    rcases (processEvent_heap hev e').1 he' with h1 | ⟨hk, h1⟩
    · exact hx e' (List.mem_cons_of_mem _ h1) ht'
    · -- the start event would be an event of `t` that is not a completion
      obtain ⟨st, nat, hc⟩ := (hx e List.mem_cons_self (h1 ▸ ht')).1
      rw [hk] at hc; cases hc
  intro e he ht
  exact absurd (hP e he ht).2 (not_le.mpr (processUntil_nodue hok h e he))

/-- the stop event is due when the first loop runs (guard `≥ 0`, `AddGe`) and removes the trial's events;
the completion event pushed next is due when the second loop runs -/
theorem stopOrPause_removes {A : Arith} {job : JobFn J} {s s' : Sim J} {t : Nat} {st : St}
    (hA : AddGe A) (hg : 0 ≤ s.cfg.guard) (hok : HeapOK s) (h : s.stopOrPause A job t st = .ok s') :
    NoEv t s'.heap := by
  obtain ⟨s1, s3, s5, h1, h3, h5, rfl⟩ := stopOrPause_ok h
  obtain ⟨hok1, hg1⟩ : HeapOK s1 ∧ 0 ≤ s1.cfg.guard := by
    obtain ⟨_, rfl⟩ := advance_ok h1; exact ⟨hok.of_eq rfl rfl, hg⟩
  have hok2 : HeapOK ((s1.push (A.add s1.now s1.cfg.dStop) t .stop).advanceTo
      (A.add (A.add s1.now s1.cfg.dStop) s1.cfg.guard)) := (hok1.push _ t .stop).of_eq rfl rfl
  have hno3 : NoEv t s3.heap := by
    refine processUntil_stop_removes hok2 ⟨⟨A.add s1.now s1.cfg.dStop, s1.added, t, .stop⟩, ?_, rfl, rfl, ?_⟩ h3
    · exact (mem_insertEv _ _ _).mpr (Or.inl rfl)
    · exact le_trans (hA _ _ hg1) (le_maxRat_right _ _)
  have hg3 : 0 ≤ s3.cfg.guard := by rw [(processUntil_fields h3).cfg]; exact hg1
  have hok4 : HeapOK ((s3.push (A.add s3.now s3.cfg.dCompleteStop) t (.complete st none)).advanceTo
      (A.add (A.add s3.now s3.cfg.dCompleteStop) s3.cfg.guard)) :=
    ((hok2.processUntil h3).push _ t (.complete st none)).of_eq rfl rfl
  refine processUntil_complete_removes (s' := s5) hok4 ?_ h5
  intro e he ht
  rcases (mem_insertEv _ _ _).mp he with rfl | he
  · exact ⟨⟨st, none, rfl⟩, le_trans (hA _ _ hg3) (le_maxRat_right _ _)⟩
  · exact absurd ht (hno3 e he)

end SyneTune.SimL
