import SyneTune.Lemmas.RandomRestrictRun
/-
`get_state` / `clone_from_state` of the random searcher (`Model/RandomRestrict.lean`), for
C16: the operations read the exclusion set only through membership and length, so states
that differ only in how it is listed (`RState.Equiv`, `XState.Equiv`) are indistinguishable
by any continuation (`xrun_equiv`); the clone of a snapshot is such a state (`xclone_equiv`).
Core Lean only.
-/
namespace SyneTune.Srch

variable {imm : RImm} {dc : Nat → Config} {di : Nat → Nat}

theorem sampleLoop_congr (mk : MK) {excl excl' : List String} (draw : Nat → Config)
    (h : ∀ m, m ∈ excl ↔ m ∈ excl') (fuel i : Nat) :
    sampleLoop mk excl draw fuel i = sampleLoop mk excl' draw fuel i := by
  fun_induction sampleLoop mk excl draw fuel i with
  | case1 => rfl
  | case2 _ _ _ hm => rw [sampleLoop, hm]
  | case3 _ _ _ hm hin ih => rw [sampleLoop, hm]; exact ((if_pos ((h _).1 hin)).trans ih.symm).symm
  | case4 _ _ _ hm hin => rw [sampleLoop, hm]; exact (if_neg (mt (h _).2 hin)).symm

theorem exhausted_congr (size : Option Nat) {excl excl' : List String} (h : excl.Perm excl') :
    exhausted size excl = exhausted size excl' := by
  unfold exhausted; rw [h.length_eq]

theorem RState.randomConfig_congr (imm : RImm) {s t : RState} (he : s.excl.Perm t.excl) (draw : Nat → Config) :
    s.randomConfig imm draw = t.randomConfig imm draw := by
  simp only [RState.randomConfig, exhausted_congr imm.size he, sampleLoop_congr imm.mkf draw fun _ => he.mem_iff]

theorem restrictLoop_congr (mk : MK) {excl excl' : List String} (rc : List Config) (di : Nat → Nat)
    (h : ∀ m, m ∈ excl ↔ m ∈ excl') (fuel i : Nat) :
    restrictLoop mk excl rc di fuel i = restrictLoop mk excl' rc di fuel i := by
  fun_induction restrictLoop mk excl rc di fuel i with
  | case1 => rfl
  | case2 _ _ hx => rw [restrictLoop, hx]
  | case3 _ _ _ hx _ hm => simp only [restrictLoop, hx, hm]
  | case4 _ _ _ hx _ hm hin ih => simp only [restrictLoop, hx, hm, if_pos ((h _).1 hin), ih]
  | case5 _ _ _ hx _ hm hin => simp only [restrictLoop, hx, hm, if_neg (mt (h _).2 hin)]

/-- equal up to the order in which the exclusion set is listed (and up to the trial map where
it is never read: duplicates not allowed) -/
structure RState.Equiv (imm : RImm) (s t : RState) : Prop where
  p2e : s.p2e = t.p2e
  rng : s.rng = t.rng
  excl : s.excl.Perm t.excl
  cfgFor : imm.allowDup = true → s.cfgFor = t.cfgFor

theorem registerPending_equiv {imm : RImm} {s t : RState} (he : RState.Equiv imm s t) (tid : Nat)
    (c : Option Config) : RState.Equiv imm (s.registerPending imm tid c) (t.registerPending imm tid c) := by
  unfold RState.registerPending
  cases hd : imm.allowDup with
  | false => exact he
  | true =>
    simp only [true_and, ← he.cfgFor hd]
    split
    · cases c with
      | none => exact he
      | some cfg => exact ⟨he.p2e, he.rng, he.excl, fun _ => rfl⟩
    · exact he

theorem evaluationFailed_equiv {imm : RImm} {s t : RState} (he : RState.Equiv imm s t) (tid : Nat) :
    ExRel (RState.Equiv imm) (s.evaluationFailed imm tid) (t.evaluationFailed imm tid) := by
  unfold RState.evaluationFailed exclAddConfig
  cases hd : imm.allowDup with
  | false => exact he
  | true =>
    simp only [if_true, ← he.cfgFor hd]
    cases alookup tid s.cfgFor with
    | none => exact he
    | some cfg =>
      dsimp only
      cases imm.mkf cfg with
      | error e => exact .error e
      | ok m => exact .ok ⟨he.p2e, he.rng, exclAdd_perm m he.excl, fun _ => rfl⟩

/-- `clone_from_state(get_state())`: the clone exists and is equivalent to the original, for
every order in which the set of match strings is listed in the snapshot -/
theorem clone_equiv (imm : RImm) (s : RState) (keys : List String) {order : List String}
    (hn : s.excl.Nodup) (hp : order.Perm s.excl) :
    ∃ t, RState.clone imm (s.getState imm keys order) = .ok t ∧ RState.Equiv imm s t := by
  unfold RState.clone RState.getState
  simp only [eraseDups_of_nodup (hp.symm.nodup hn)]
  cases hd : imm.allowDup with
  | true => exact ⟨_, rfl, rfl, rfl, hp.symm, fun _ => rfl⟩
  | false => exact ⟨_, rfl, rfl, rfl, hp.symm, fun h => by simp [hd] at h⟩


/-- equal up to the representation of the exclusion set (and the unused trial map) -/
structure XState.Equiv (imm : RImm) (s t : XState) : Prop where
  base : RState.Equiv imm s.base t.base
  rc : s.rc = t.rc
  pos : s.pos = t.pos

/-- results on equivalent states: equal outputs and equivalent states, or equal errors -/
def RelX {β} (imm : RImm) (a b : Except Err (XState × β)) : Prop :=
  match a, b with
  | .ok (s1, o1), .ok (t1, o2) => o1 = o2 ∧ XState.Equiv imm s1 t1
  | .error e1, .error e2 => e1 = e2
  | _, _ => False

/-- result of a step on equivalent states: equal outputs and equivalent states, or equal errors -/
def RelE {β} (imm : RImm) (a b : Except Err (RState × β)) : Prop :=
  match a, b with
  | .ok (s1, o1), .ok (t1, o2) => o1 = o2 ∧ RState.Equiv imm s1 t1
  | .error e1, .error e2 => e1 = e2
  | _, _ => False

/-- `RelX` in the form the induction over histories produces -/
abbrev EqX (imm : RImm) {β} : Except Err (XState × β) → Except Err (XState × β) → Prop :=
  ExRel (StepRel (XState.Equiv imm))

theorem EqX.relX {β} {a b : Except Err (XState × β)} (h : EqX imm a b) : RelX imm a b := by
  exact h.elim (fun _ => rfl) fun x y h => ⟨h.2, h.1⟩

theorem exRel_of_lift {β} {a b : Except Err (RState × β)} (h : EqX imm (liftBase a) (liftBase b)) :
    ExRel (StepRel (RState.Equiv imm)) a b := by
  rcases a with e | ⟨s1, o1⟩ <;> rcases b with e' | ⟨t1, o2⟩
  · exact h
  · exact h
  · exact h
  · exact ⟨h.1.base, h.2⟩

theorem XState.Equiv.advance {s t : XState} (he : XState.Equiv imm s t) (n : Nat) :
    XState.Equiv imm (s.advance n) (t.advance n) :=
  ⟨⟨he.base.p2e, congrArg (· + n) he.base.rng, he.base.excl, he.base.cfgFor⟩, he.rc, he.pos⟩

theorem XState.Equiv.markReturned {s t : XState} (he : XState.Equiv imm s t) (p : Nat) :
    XState.Equiv imm (s.markReturned imm p) (t.markReturned imm p) := by
  unfold XState.markReturned
  split
  · exact he
  · exact ⟨he.base, he.rc, congrArg (setAdd p) he.pos⟩

theorem drawConfig_equiv {s t : XState} (he : XState.Equiv imm s t) (dc : Nat → Config) (di : Nat → Nat) :
    EqX imm (s.drawConfig imm dc di) (t.drawConfig imm dc di) := by
  have hmem : ∀ m, m ∈ s.base.excl ↔ m ∈ t.base.excl := fun m => he.base.excl.mem_iff
  unfold XState.drawConfig
  rw [← he.rc]
  cases s.rc with
  | none =>
    simp only [XState.drawUnrestricted, ← RState.randomConfig_congr imm he.base.excl dc]
    cases s.base.randomConfig imm dc with
    | error e => exact .error e
    | ok rn => exact .ok ⟨he.advance rn.2, rfl⟩
  | some rc =>
    simp only [XState.drawRestricted, ← restrictLoop_congr imm.mkf rc di hmem]
    split
    · exact .ok ⟨he, rfl⟩
    · cases restrictLoop imm.mkf s.base.excl rc di imm.maxRetries 0 with
      | error e => exact .error e
      | ok rn =>
        obtain ⟨_ | cp, n⟩ := rn
        · exact .ok ⟨he.advance n, rfl⟩
        · exact .ok ⟨(he.advance n).markReturned cp.2, rfl⟩

theorem popReturned_equiv {s t : XState} (he : XState.Equiv imm s t) (c : Config) :
    ExRel (XState.Equiv imm) (s.popReturned imm c) (t.popReturned imm c) := by
  unfold XState.popReturned
  rw [← he.rc, ← he.pos]
  cases s.rc with
  | none => exact .ok he
  | some rc =>
    dsimp only
    split
    · exact .ok he
    · cases imm.mkf c with
      | error e => exact .error e
      | ok m =>
        dsimp only
        cases popLoop imm.mkf m rc s.pos with
        | error e => exact .error e
        | ok rc' => exact .ok ⟨he.base, rfl, rfl⟩

theorem xfinish_equiv {s t : XState} (he : XState.Equiv imm s t) (r : Option Config) :
    EqX imm (XState.finish imm s r) (XState.finish imm t r) := by
  unfold XState.finish exclAddConfig
  cases r with
  | none => exact .ok ⟨he, rfl⟩
  | some c =>
    dsimp only
    split
    · exact .ok ⟨he, rfl⟩
    · cases imm.mkf c with
      | error e => exact .error e
      | ok m =>
        have he' : XState.Equiv imm { s with base := { s.base with excl := exclAdd m s.base.excl } }
            { t with base := { t.base with excl := exclAdd m t.base.excl } } :=
          ⟨⟨he.base.p2e, he.base.rng, exclAdd_perm m he.base.excl, he.base.cfgFor⟩, he.rc, he.pos⟩
        dsimp only
        exact (popReturned_equiv he' c).elim (fun e => .error e) fun x y hxy => .ok ⟨hxy, rfl⟩

theorem xgetConfig_equiv {s t : XState} (he : XState.Equiv imm s t) (dc : Nat → Config) (di : Nat → Nat) :
    EqX imm (s.getConfig imm dc di) (t.getConfig imm dc di) := by
  unfold XState.getConfig
  rw [← he.base.p2e]
  cases s.base.p2e with
  | cons c rest =>
    exact xfinish_equiv (s := { s with base := { s.base with p2e := rest } })
      (t := { t with base := { t.base with p2e := rest } })
      ⟨⟨rfl, he.base.rng, he.base.excl, he.base.cfgFor⟩, he.rc, he.pos⟩ (some c)
  | nil =>
    refine (drawConfig_equiv he dc di).elim (fun e => .error e) fun x y h => ?_
    dsimp only
    exact h.2 ▸ xfinish_equiv h.1 x.2

theorem xstep_equiv {s t : XState} (he : XState.Equiv imm s t) (op : ROp) :
    EqX imm (XState.step imm dc di s op) (XState.step imm dc di t op) := by
  cases op with
  | get =>
    simp only [XState.step, ← he.base.rng]
    exact (xgetConfig_equiv he _ _).elim (fun e => .error e) fun x y h => .ok ⟨h.1, congrArg some h.2⟩
  | pending tid c => exact .ok ⟨⟨registerPending_equiv he.base tid c, he.rc, he.pos⟩, rfl⟩
  | failed tid =>
    simp only [XState.step, XState.evaluationFailed]
    exact (evaluationFailed_equiv he.base tid).elim (fun e => .error e) fun x y h => .ok ⟨⟨h, he.rc, he.pos⟩, rfl⟩
  | result tid => exact .ok ⟨he, rfl⟩

/-- equivalent states produce equal outputs (and equal errors) for EVERY continuation -/
theorem xrun_equiv {s t : XState} (he : XState.Equiv imm s t) (ops : List ROp) :
    EqX imm (XState.run imm dc di s ops) (XState.run imm dc di t ops) := by
  rw [XState.run_eq, XState.run_eq]
  exact foldRun_rel (R := XState.Equiv imm) (fun s t op h => xstep_equiv h op) ops s t he

theorem RState.run_equiv {s t : RState} (he : RState.Equiv imm s t) (ops : List ROp) :
    ExRel (StepRel (RState.Equiv imm)) (RState.run imm dc s ops) (RState.run imm dc t ops) := by
  have := xrun_equiv (dc := dc) (di := id) (s := .ofBase s) (t := .ofBase t) ⟨he, rfl, rfl⟩ ops
  rw [xrun_unrestricted, xrun_unrestricted] at this
  exact exRel_of_lift this

theorem XState.clone_rc {snap : XSnap} {t : XState} (h : XState.clone imm snap = .ok t) :
    t.rc = snap.rc ∧ t.pos = [] := by
  unfold XState.clone at h
  split at h
  · cases h
  · cases h; exact ⟨rfl, rfl⟩

/-- `clone_from_state(get_state())` of a state whose `_rc_returned_pos` is empty (as it is
between any two calls): the clone exists, holds the same list — `None`, `[]` or longer —
and is equivalent to the original, for every order in which the set of match strings is
listed in the snapshot -/
theorem xclone_equiv (imm : RImm) (s : XState) (keys : List String) {order : List String}
    (hn : s.base.excl.Nodup) (hp : order.Perm s.base.excl) (hpos : s.pos = []) :
    ∃ t, XState.clone imm (s.getState imm keys order) = .ok t ∧ XState.Equiv imm s t := by
  obtain ⟨b, hb, he⟩ := clone_equiv imm s.base keys hn hp
  exact ⟨⟨b, s.rc, []⟩, by simp only [XState.clone, XState.getState, hb], ⟨he, rfl, hpos⟩⟩

end SyneTune.Srch
