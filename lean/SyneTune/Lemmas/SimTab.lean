import SyneTune.Model.TabularBackend
import SyneTune.Lemmas.BackendBasic
import SyneTune.Lemmas.AssocList
/-
Lemmas about the tabular job `tabJob` (`_run_job_and_collect_results` of
`_BlackboxSimulatorBackend`): table lookup, level filter, elapsed-time rebasing, repair; the run in closed form:
`TabRun`, `tabJob_run`.
-/
namespace SyneTune.SimTab
open SyneTune SyneTune.Backend

/-- in range, and (for a checkpointed resume) above the paused level -/
def keepLevel (lo hi : Nat) (p : Option Nat) (f : Nat) : Bool :=
  decide (lo ≤ f) && decide (f ≤ hi) && (match p with | some q => decide (q < f) | none => true)

/-- what the resume filter and the repair leave alone -/
def lr (r : Res) : Nat × List Rat := (r.level, r.row)

theorem rowsInRange_eq (tcol lo hi : Nat) (fids : List Nat) (rows : List (List Rat)) :
    rowsInRange tcol lo hi fids rows =
      ((fids.zip rows).filter fun q => decide (lo ≤ q.1) && decide (q.1 ≤ hi)).map fun q => mkRes tcol q.1 q.2 := by
  induction fids generalizing rows with
  | nil => simp [rowsInRange]
  | cons f fs ih =>
    cases rows with
    | nil => simp [rowsInRange]
    | cons row rows =>
      simp only [rowsInRange, List.zip_cons_cons, List.filter_cons]
      by_cases hc : lo ≤ f ∧ f ≤ hi
      · simp [hc, ih rows]
      · have hc' : (decide (lo ≤ f) && decide (f ≤ hi)) = false := by simpa using hc
        simp only [hc, if_false, hc']
        exact ih rows

theorem rowsInRange_lr (tcol lo hi : Nat) (fids : List Nat) (rows : List (List Rat)) :
    (rowsInRange tcol lo hi fids rows).map lr =
      (fids.zip rows).filter fun q => decide (lo ≤ q.1) && decide (q.1 ≤ hi) := by
  rw [rowsInRange_eq, List.map_map]
  exact List.map_id _

theorem repairFrom_lr (A : Arith) (step prev : Rat) (rs : List Res) : (repairFrom A step prev rs).map lr = rs.map lr := by
  induction rs generalizing prev with
  | nil => rfl
  | cons r rs ih => simp [repairFrom, ih, lr]

theorem repair_lr (A : Arith) (step : Rat) (rs rs' : List Res) (h : repair A step rs = .ok rs') :
    rs'.map lr = rs.map lr := by
  cases rs with
  | nil => simp [repair] at h
  | cons r rs =>
    simp only [repair, Except.ok.injEq] at h
    subst h
    simp [repairFrom_lr, lr]

theorem repairFrom_chain (A : Arith) (step : Rat) (rs : List Res) :
    ∀ (x : Res) (i : Nat) (r p' r' : Res), rs[i]? = some r →
      (x :: repairFrom A step x.elapsed rs)[i]? = some p' →
      (x :: repairFrom A step x.elapsed rs)[i+1]? = some r' →
      r'.elapsed = maxRat r.elapsed (A.add p'.elapsed step) := by
  induction rs with
  | nil => intro x i r p' r' h; simp at h
  | cons r1 rs ih =>
    intro x i r p' r' h1 h2 h3
    cases i with
    | zero =>
      simp only [repairFrom, List.getElem?_cons_zero, List.getElem?_cons_succ, Option.some.injEq] at h1 h2 h3
      subst h1 h2 h3
      rfl
    | succ j =>
      simp only [repairFrom, List.getElem?_cons_succ] at h1 h2 h3
      exact ih _ j r p' r' h1 h2 h3

/-- the repaired elapsed times: `e'_0 = max(e_0, step)`, `e'_{i+1} = max(e_{i+1}, e'_i ⊕ step)` -/
theorem repair_elapsed (A : Arith) (step : Rat) (rs rs' : List Res) (h : repair A step rs = .ok rs') :
    (∀ r0 r0', rs[0]? = some r0 → rs'[0]? = some r0' → r0'.elapsed = maxRat r0.elapsed step) ∧
    (∀ i r p' r', rs[i+1]? = some r → rs'[i]? = some p' → rs'[i+1]? = some r' →
        r'.elapsed = maxRat r.elapsed (A.add p'.elapsed step)) := by
  cases rs with
  | nil => simp [repair] at h
  | cons r rs =>
    simp only [repair, Except.ok.injEq] at h
    subst h
    constructor
    · intro r0 r0' h1 h2
      simp only [List.getElem?_cons_zero, Option.some.injEq] at h1 h2
      subst h1 h2
      rfl
    · intro i r1 p' r' h1 h2 h3
      simp only [List.getElem?_cons_succ] at h1
      exact repairFrom_chain A step rs { r with elapsed := maxRat r.elapsed step } i r1 p' r' h1 h2 h3

theorem repairFrom_ge (A : Arith) (step : Rat) (hadd : ∀ a, a ≤ A.add a step) (rs : List Res) :
    ∀ (prev : Rat), ∀ r ∈ repairFrom A step prev rs, prev ≤ r.elapsed := by
  induction rs with
  | nil => intro prev r h; simp [repairFrom] at h
  | cons r1 rs ih =>
    intro prev r h
    simp only [repairFrom] at h
    have h0 : prev ≤ maxRat r1.elapsed (A.add prev step) :=
      Rat.le_trans (hadd prev) (le_maxRat_right _ _)
    rcases List.mem_cons.mp h with h | h
    · subst h; exact h0
    · exact Rat.le_trans h0 (ih _ r h)

theorem repairFrom_pairwise (A : Arith) (step : Rat) (hadd : ∀ a, a ≤ A.add a step) (rs : List Res) :
    ∀ (prev : Rat), (repairFrom A step prev rs).Pairwise (fun a b => a.elapsed ≤ b.elapsed) := by
  induction rs with
  | nil => intro prev; simp [repairFrom]
  | cons r1 rs ih =>
    intro prev
    simp only [repairFrom]
    exact List.Pairwise.cons (fun b hb => repairFrom_ge A step hadd rs _ b hb) (ih _)

/-- `hadd`: for `step ≥ 0` an instance of `SimL.AddGe`, the simulator files' assumption on `⊕` -/
theorem repair_sorted (A : Arith) (step : Rat) (hadd : ∀ a, a ≤ A.add a step)
    (rs rs' : List Res) (h : repair A step rs = .ok rs') :
    rs'.Pairwise (fun a b => a.elapsed ≤ b.elapsed) ∧ (∀ r ∈ rs', step ≤ r.elapsed) := by
  cases rs with
  | nil => simp [repair] at h
  | cons r rs =>
    simp only [repair, Except.ok.injEq] at h
    subst h
    constructor
    · exact List.Pairwise.cons (fun b hb => repairFrom_ge A step hadd rs _ b hb)
        (repairFrom_pairwise A step hadd rs _)
    · intro x hx
      rcases List.mem_cons.mp hx with hx | hx
      · subst hx; exact le_maxRat_right _ _
      · exact Rat.le_trans (le_maxRat_right r.elapsed step) (repairFrom_ge A step hadd rs _ x hx)

theorem resumeFilter_lr (A : Arith) (p : Nat) (all : List Res) :
    (resumeFilter A p all).map lr = (all.map lr).filter (fun q => decide (p < q.1)) := by
  simp only [resumeFilter, List.map_map, List.filter_map]
  rfl

theorem offsetAt_gen (p : Nat) (all : List Res) :
    ∀ off : Rat, (∃ r ∈ all, r.level = p ∧ offsetAt p all off = r.elapsed) ∨
      ((∀ r ∈ all, r.level ≠ p) ∧ offsetAt p all off = off) := by
  induction all with
  | nil => intro off; right; simp [offsetAt]
  | cons r rs ih =>
    intro off
    simp only [offsetAt]
    rcases ih (if r.level = p then r.elapsed else off) with ⟨x, hx, hp, he⟩ | ⟨hn, he⟩
    · exact Or.inl ⟨x, List.mem_cons_of_mem _ hx, hp, he⟩
    · by_cases hr : r.level = p
      · left
        refine ⟨r, List.mem_cons_self, hr, ?_⟩
        rw [he]; simp [hr]
      · right
        constructor
        · intro y hy
          rcases List.mem_cons.mp hy with hy | hy
          · subst hy; exact hr
          · exact hn y hy
        · rw [he]; simp [hr]

/-- the offset is the elapsed time of a result at the paused level (0 if there is none) -/
theorem offsetAt_spec (p : Nat) (all : List Res) :
    (∃ r ∈ all, r.level = p ∧ offsetAt p all 0 = r.elapsed) ∨
    ((∀ r ∈ all, r.level ≠ p) ∧ offsetAt p all 0 = 0) :=
  offsetAt_gen p all 0

/-- how the seed of a query is determined; the per-trial seed map only grows -/
theorem seedOf_spec (js js' : TabState) (t sd : Nat) (h : js.seedOf t = .ok (js', sd)) :
    ((js.seedFix = some sd ∧ js' = js) ∨
     (js.seedFix = none ∧ alookup t js.seedFor = some sd ∧ js' = js) ∨
     (js.seedFix = none ∧ alookup t js.seedFor = none ∧ alookup t js.seedTape = some sd ∧
        js' = { js with seedFor := aset t sd js.seedFor })) := by
  unfold TabState.seedOf at h
  cases hf : js.seedFix with
  | some s =>
    simp only [hf, Except.ok.injEq, Prod.mk.injEq] at h
    left; exact ⟨by rw [h.2], h.1.symm⟩
  | none =>
    simp only [hf] at h
    cases hl : alookup t js.seedFor with
    | some s =>
      simp only [hl, Except.ok.injEq, Prod.mk.injEq] at h
      right; left; exact ⟨rfl, by rw [h.2], h.1.symm⟩
    | none =>
      simp only [hl] at h
      cases hp : alookup t js.seedTape with
      | none => simp [hp] at h
      | some s =>
        simp only [hp, Except.ok.injEq, Prod.mk.injEq] at h
        right; right
        obtain ⟨h1, h2⟩ := h
        subst h2
        exact ⟨rfl, rfl, rfl, h1.symm⟩

theorem seedOf_stable (js js' : TabState) (t sd : Nat) (h : js.seedOf t = .ok (js', sd)) :
    ∃ sf, js' = { js with seedFor := sf } ∧
      (∀ u s0, alookup u js.seedFor = some s0 → alookup u sf = some s0) ∧
      (js.seedFix = none → alookup t sf = some sd) := by
  rcases seedOf_spec js js' t sd h with ⟨h1, rfl⟩ | ⟨_, h2, rfl⟩ | ⟨_, h2, _, rfl⟩
  · exact ⟨_, rfl, fun _ _ h => h, fun hn => by rw [hn] at h1; cases h1⟩
  · exact ⟨_, rfl, fun _ _ h => h, fun _ => h2⟩
  · refine ⟨_, rfl, fun u s0 hu => ?_, fun _ => by simp [alookup_aset]⟩
    rw [alookup_aset, if_neg (fun hut => by rw [hut, h2] at hu; cases hu)]
    exact hu

theorem tabJob_spec (A : Arith) (js js' : TabState) (t : Nat) (st : St) (rs : List Res)
    (h : tabJob A js t = .ok (js', st, rs)) :
    st = .completed ∧
    ∃ cfg sd all, alookup t js.cfgs = some cfg ∧ js.seedOf t = .ok (js', sd) ∧
      js'.allResults cfg sd = .ok all ∧
      repair A js.minStep
        (match alookup t js.paused with
         | some p => if js.checkpointing then resumeFilter A p all else all
         | none => all) = .ok rs := by
  unfold tabJob at h
  cases hc : alookup t js.cfgs with
  | none => simp [hc] at h
  | some cfg =>
    simp only [hc] at h
    cases hs : js.seedOf t with
    | error e => simp [hs] at h
    | ok p =>
      obtain ⟨js1, sd⟩ := p
      simp only [hs] at h
      cases ha : js1.allResults cfg sd with
      | error e => simp [ha] at h
      | ok all =>
        simp only [ha] at h
        obtain ⟨sf, rfl, _, _⟩ := seedOf_stable js js1 t sd hs
        dsimp only at h
        split at h
        · simp at h
        · rename_i rs1 hr
          simp only [Except.ok.injEq, Prod.mk.injEq] at h
          obtain ⟨h1, h2, h3⟩ := h
          subst h1 h2 h3
          exact ⟨rfl, cfg, sd, all, rfl, rfl, ha, hr⟩

/-- the seed check and the row lookup that end every branch of `allResults` -/
theorem allResults_tail (n sd : Nat) (ro : Option (List (List Rat)))
    (f : List (List Rat) → List Res) (all : List Res) (e1 e2 : BErr)
    (h : (if ¬ sd < n then (Except.error e1 : Except BErr (List Res)) else
            match ro with
            | none => Except.error e2
            | some rows => Except.ok (f rows)) = Except.ok all) :
    sd < n ∧ ∃ rows, ro = some rows ∧ all = f rows := by
  by_cases hsd : sd < n
  · simp only [hsd, not_true_eq_false, if_false] at h
    cases ro with
    | none => simp at h
    | some rows =>
      simp only [Except.ok.injEq] at h
      exact ⟨hsd, rows, rfl, h.symm⟩
  · simp [hsd] at h

theorem allResults_spec (js : TabState) (cfg : Cfg) (sd : Nat) (all : List Res)
    (h : js.allResults cfg sd = .ok all) :
    ∃ lo hi0 rows, listMin js.table.fids = some lo ∧ listMax js.table.fids = some hi0 ∧
      sd < js.table.numSeeds ∧ js.table.rows cfg.idx sd = some rows ∧
      all = rowsInRange js.table.tcol lo
        (match js.maxResAttr, cfg.maxRes with | true, some m => m | _, _ => hi0) js.table.fids rows := by
  unfold TabState.allResults at h
  cases hlo : listMin js.table.fids with
  | none => simp [hlo] at h
  | some lo =>
    cases hhi : listMax js.table.fids with
    | none => simp [hlo, hhi] at h
    | some hi0 =>
      simp only [hlo, hhi] at h
      refine ⟨lo, hi0, ?_⟩
      cases hm : js.maxResAttr <;> cases hr : cfg.maxRes <;> simp only [hm, hr] at h ⊢
      case true.some m =>
        by_cases hlm : lo ≤ m
        · simp only [hlm, if_true] at h
          obtain ⟨h1, rows, h2, h3⟩ := allResults_tail _ _ _ _ _ _ _ h
          exact ⟨rows, trivial, trivial, h1, h2, h3⟩
        · simp [hlm] at h
      all_goals
        obtain ⟨h1, rows, h2, h3⟩ := allResults_tail _ _ _ _ _ _ _ h
        exact ⟨rows, trivial, trivial, h1, h2, h3⟩

theorem keepLevel_none (lo hi : Nat) :
    keepLevel lo hi none = (fun f => decide (lo ≤ f) && decide (f ≤ hi)) := by
  funext f; simp [keepLevel]

theorem keepLevel_some (lo hi p : Nat) :
    keepLevel lo hi (some p) = (fun f => decide (p < f) && (decide (lo ≤ f) && decide (f ≤ hi))) := by
  funext f; simp only [keepLevel]; rw [Bool.and_comm]

/-- a successful call of the tabular job for trial `t`: what it looked up, and (`lr_eq`) the levels and rows of its
results in closed form: the table's fidelity values with their rows, inside `[min fidelity, config[max_resource_attr]]`
(all if the attribute is not used), above the paused level for a checkpointed resume, in table order -/
structure TabRun (js js' : TabState) (t : Nat) (rs : List Res) (cfg : Cfg) (sd : Nat) (rows : List (List Rat))
    (lo hi0 : Nat) : Prop where
  cfg_eq : alookup t js.cfgs = some cfg
  seed_eq : js.seedOf t = .ok (js', sd)
  seed_lt : sd < js.table.numSeeds
  rows_eq : js.table.rows cfg.idx sd = some rows
  lo_eq : listMin js.table.fids = some lo
  hi_eq : listMax js.table.fids = some hi0
  lr_eq : rs.map lr = (js.table.fids.zip rows).filter fun q =>
        keepLevel lo (match js.maxResAttr, cfg.maxRes with | true, some m => m | _, _ => hi0)
          (if js.checkpointing then alookup t js.paused else none) q.1

theorem tabJob_run (A : Arith) (js js' : TabState) (t : Nat) (st : St) (rs : List Res)
    (h : tabJob A js t = .ok (js', st, rs)) : ∃ cfg sd rows lo hi0, TabRun js js' t rs cfg sd rows lo hi0 := by
  obtain ⟨_, cfg, sd, all, hc, hs, ha, hr⟩ := tabJob_spec A js js' t st rs h
  obtain ⟨sf, rfl, _, _⟩ := seedOf_stable js js' t sd hs
  obtain ⟨lo, hi0, rows, hlo, hhi, hsd, hrows, hall⟩ := allResults_spec _ cfg sd all ha
  dsimp only at hall
  refine ⟨cfg, sd, rows, lo, hi0, hc, hs, hsd, hrows, hlo, hhi, ?_⟩
  generalize hhi' : (match js.maxResAttr, cfg.maxRes with | true, some m => m | _, _ => hi0) = hi at hall ⊢
  have hlv : all.map lr = (js.table.fids.zip rows).filter fun q => decide (lo ≤ q.1) && decide (q.1 ≤ hi) := by
    rw [hall]; exact rowsInRange_lr _ _ _ _ _
  rw [repair_lr A js.minStep _ rs hr]
  cases hp : alookup t js.paused with
  | none =>
    simp only [ite_self, keepLevel_none]
    exact hlv
  | some p =>
    by_cases hck : js.checkpointing = true
    · simp only [hck, if_true, keepLevel_some]
      rw [resumeFilter_lr A p all, hlv, List.filter_filter]
    · have hck' : js.checkpointing = false := by simpa using hck
      simp only [hck', Bool.false_eq_true, if_false, keepLevel_none]
      exact hlv

section
variable {js js' : TabState} {t : Nat} {rs : List Res} {cfg : Cfg} {sd : Nat} {rows : List (List Rat)} {lo hi0 : Nat}

theorem TabRun.values (h : TabRun js js' t rs cfg sd rows lo hi0) :
    ∀ r ∈ rs, ∃ i : Nat, js.table.fids[i]? = some r.level ∧ rows[i]? = some r.row := by
  intro r hr
  have hm : lr r ∈ js.table.fids.zip rows := (List.mem_filter.mp (h.lr_eq ▸ List.mem_map_of_mem hr)).1
  obtain ⟨i, hi⟩ := List.mem_iff_getElem?.mp hm
  exact ⟨i, List.getElem?_zip_eq_some.mp hi⟩

theorem TabRun.levels (h : TabRun js js' t rs cfg sd rows lo hi0) (hlen : js.table.fids.length ≤ rows.length) :
    rs.map (·.level) = js.table.fids.filter
      (keepLevel lo (match js.maxResAttr, cfg.maxRes with | true, some m => m | _, _ => hi0)
                 (if js.checkpointing then alookup t js.paused else none)) := by
  have h1 : rs.map (·.level) = (rs.map lr).map Prod.fst := by rw [List.map_map]; rfl
  rw [h1, h.lr_eq]
  conv => rhs; rw [← List.map_fst_zip hlen]
  rw [List.filter_map]
  rfl

theorem TabRun.seed_spec (h : TabRun js js' t rs cfg sd rows lo hi0) :
    js.seedFix = some sd ∨ (js.seedFix = none ∧ alookup t js'.seedFor = some sd) := by
  obtain ⟨sf, rfl, _, hsf⟩ := seedOf_stable _ _ _ _ h.seed_eq
  rcases seedOf_spec _ _ _ _ h.seed_eq with h1 | h1 | h1
  · exact Or.inl h1.1
  · exact Or.inr ⟨h1.1, hsf h1.1⟩
  · exact Or.inr ⟨h1.1, hsf h1.1⟩

end

theorem tabJob_sorted (A : Arith) (js js' : TabState) (t : Nat) (st : St) (rs : List Res)
    (hadd : ∀ a, a ≤ A.add a js.minStep) (h : tabJob A js t = .ok (js', st, rs)) :
    rs.Pairwise (fun a b => a.elapsed ≤ b.elapsed) :=
  have ⟨_, _, _, _, _, _, _, hr⟩ := tabJob_spec A js js' t st rs h
  (repair_sorted A js.minStep hadd _ rs hr).1

theorem tabJob_ge (A : Arith) (js js' : TabState) (t : Nat) (st : St) (rs : List Res)
    (hadd : ∀ a, a ≤ A.add a js.minStep) (h : tabJob A js t = .ok (js', st, rs)) :
    ∀ r ∈ rs, js.minStep ≤ r.elapsed :=
  have ⟨_, _, _, _, _, _, _, hr⟩ := tabJob_spec A js js' t st rs h
  (repair_sorted A js.minStep hadd _ rs hr).2

end SyneTune.SimTab
