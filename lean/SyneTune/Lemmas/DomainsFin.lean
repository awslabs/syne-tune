import SyneTune.Lemmas.DomainsCont
/- The finite-range domain `FinDom` (`config_space.FiniteRange`) and its encoder `FinRange`
(`HyperparameterRangeFiniteRange`).  The source has `_map_from_int` / `_map_to_int` twice, clipping at different
places: in `config_space.py` (`FinDom.valueAt` / `FinDom.mapToInt`: the `fin_cast_*` lemmas speak of these) and in
`hp_ranges_impl.py` (`FinRange.mapFromInt` / `FinRange.mapToInt`: `FinIdx`, `fin_roundtrip_of_idx`).  The only
link between the two is `range_mapFromInt`. -/
namespace SyneTune.Dom
open SyneTune

theorem fin_encScale (d : FinDom) :
    (Domain.fin d).encScale = if d.log then ScaleKind.log else ScaleKind.lin := by
  cases h : d.log <;> simp [Domain.encScale, Domain.isLog, Domain.isRLog, h]

/-- what `FiniteRange.__init__` asserts -/
theorem fin_ok {d : FinDom} (hok : d.ok = true) :
    d.lower ≤ d.upper ∧ 1 ≤ d.size ∧ (d.log = true → 0 < d.lower) := by
  unfold FinDom.ok at hok
  simp only [Bool.and_eq_true, Bool.or_eq_true, decide_eq_true_eq, Bool.not_eq_true'] at hok
  obtain ⟨⟨h1, h2⟩, h3⟩ := hok
  refine ⟨h1, h2, fun hl => ?_⟩
  rcases h3 with h3 | h3
  · rw [hl] at h3; cases h3
  · exact h3

theorem fin_values_length (env : Env) (d : FinDom) : (d.values env).length = d.size := by
  simp [FinDom.values]

theorem fin_values_getElem (env : Env) (d : FinDom) (k : ℕ) (h : k < d.size) :
    (d.values env)[k]? = some (d.valueAt env k) := by
  simp [FinDom.values, h]

theorem fin_valueAt_mem (env : Env) (d : FinDom) (k : ℕ) (h : k < d.size) :
    d.valueAt env k ∈ d.values env :=
  List.mem_map.mpr ⟨k, List.mem_range.mpr h, rfl⟩

theorem fin_mem_values {env : Env} {d : FinDom} {v : Val} (h : v ∈ d.values env) :
    ∃ k, k < d.size ∧ v = d.valueAt env k := by
  obtain ⟨k, hk, e⟩ := List.mem_map.mp h
  exact ⟨k, List.mem_range.mp hk, e.symm⟩

theorem fin_sample_member (env : Env) (d : FinDom) (k : ℤ) (h0 : 0 ≤ k) (h1 : k < d.size) :
    ∃ v, d.sample env (.idx k) = .ok v ∧ v ∈ d.values env := by
  have hk : k.toNat < d.size := by omega
  refine ⟨d.valueAt env k.toNat, ?_, fin_valueAt_mem env d _ hk⟩
  simp only [FinDom.sample, fin_values_getElem env d _ hk]

theorem fin_mapToInt_lt (env : Env) (d : FinDom) (hok : d.ok = true) (x : ℚ) :
    d.mapToInt env x < d.size := by
  obtain ⟨_, hs, _⟩ := fin_ok hok
  unfold FinDom.mapToInt
  split
  · omega
  · have := clipI_mem (x := roundHalfEven (d.indexPre env x)) (lo := 0) (hi := (d.size : ℤ) - 1)
      (by omega)
    omega

/-- **`cast` of a number is a listed value** (the index is clipped) -/
theorem fin_cast_member (env : Env) (d : FinDom) (hok : d.ok = true) (x : Val) (r : ℚ)
    (hx : x.num? = some r) : ∃ v, d.cast env x = .ok v ∧ v ∈ d.values env := by
  have hk := fin_mapToInt_lt env d hok r
  refine ⟨d.valueAt env (d.mapToInt env r), ?_, fin_valueAt_mem env d _ hk⟩
  simp only [FinDom.cast, hx, fin_values_getElem env d _ hk]

/-- the encoder `mkFin` builds for `d` (`mkFin_ok`); `ri` is the integer encoder of the grid indices -/
def FinDom.range (env : Env) (d : FinDom) (ri : IntRange) : FinRange :=
  ⟨d.lower, d.upper, d.size, if d.log then .log else .lin, d.castInt, d.lowInt env, d.upInt env,
    d.step env, ri⟩

theorem mkFin_ok {env : Env} {c : Consts} {d : FinDom} {r : FinRange}
    (hmk : mkFin env c d.lower d.upper d.size (if d.log then .log else .lin) d.castInt = .ok r) :
    ∃ ri, mkInt env c 0 ((d.size : ℤ) - 1) .lin none none = .ok ri ∧ r = d.range env ri := by
  unfold mkFin at hmk
  split at hmk
  · split at hmk
    · rename_i a b ri ha hb hri
      obtain ⟨_, rfl⟩ := toInternal_eq_ok ha
      obtain ⟨_, rfl⟩ := toInternal_eq_ok hb
      refine ⟨ri, hri, (Except.ok.inj hmk).symm.trans ?_⟩
      unfold FinDom.range FinDom.step FinDom.lowInt FinDom.upInt
      cases d.log <;> rfl
    · cases hmk
    · cases hmk
    · cases hmk
  · cases hmk

theorem fin_decode_reject {env : Env} {c : Consts} (r : FinRange) {x : ℚ} (hx : ¬ InMargin c x) :
    r.decode env c x = .error .assertion := by
  simp only [FinRange.decode, int_decode_reject _ hx]

theorem fin_encode_cube {env : Env} {c : Consts} {r : FinRange} {y x : ℚ}
    (h : r.encode env c y = .ok x) : 0 ≤ x ∧ x ≤ 1 := by
  unfold FinRange.encode at h
  split at h
  · exact cont_encode_cube h
  · cases h

theorem fin_step_nonneg (env : Env) (d : FinDom) (hmono : d.lowInt env ≤ d.upInt env) : 0 ≤ d.step env := by
  unfold FinDom.step
  split
  · exact div_nonneg (sub_nonneg.mpr hmono) (Nat.cast_nonneg _)
  · exact le_rfl

theorem fin_step_mul (env : Env) (d : FinDom) (h : 1 < d.size) :
    ((d.size - 1 : ℕ) : ℚ) * d.step env = d.upInt env - d.lowInt env := by
  have hn : ((d.size - 1 : ℕ) : ℚ) ≠ 0 := Nat.cast_ne_zero.mpr (Nat.sub_ne_zero_of_lt h)
  unfold FinDom.step
  rw [if_pos h, mul_div_cancel₀ _ hn]

theorem fin_grid_range (env : Env) (d : FinDom) (hmono : d.lowInt env ≤ d.upInt env) {k : ℕ}
    (hk : k < d.size) :
    d.lowInt env ≤ (k : ℚ) * d.step env + d.lowInt env ∧
      (k : ℚ) * d.step env + d.lowInt env ≤ d.upInt env := by
  have hs := fin_step_nonneg env d hmono
  refine ⟨le_add_of_nonneg_left (mul_nonneg (Nat.cast_nonneg k) hs), le_sub_iff_add_le.mp ?_⟩
  by_cases h1 : 1 < d.size
  · rw [← fin_step_mul env d h1]
    exact mul_le_mul_of_nonneg_right (Nat.cast_le.mpr (Nat.le_sub_one_of_lt hk)) hs
  · rw [show d.step env = 0 from if_neg h1, mul_zero]
    exact sub_nonneg.mpr hmono

theorem fin_valueAt_step0 (env : Env) (d : FinDom) (hs : d.step env = 0) (k : ℕ) :
    d.valueAt env k = d.valueAt env 0 := by
  unfold FinDom.valueAt FinDom.valuePre
  simp only [hs, mul_zero]

theorem fin_lowInt_lin (env : Env) (d : FinDom) (hl : d.log = false) : d.lowInt env = d.lower := by
  simp [FinDom.lowInt, hl]

theorem fin_upInt_lin (env : Env) (d : FinDom) (hl : d.log = false) : d.upInt env = d.upper := by
  simp [FinDom.upInt, hl]

/-- linear grid: the clip of `_map_from_int` is the identity on listed indices -/
theorem fin_valuePre_lin (env : Env) (d : FinDom) (hok : d.ok = true) (hl : d.log = false) {k : ℕ}
    (hk : k < d.size) :
    d.valuePre env k = (k : ℚ) * d.step env + d.lower ∧ d.lower ≤ d.valuePre env k ∧
      d.valuePre env k ≤ d.upper := by
  obtain ⟨hle, _, _⟩ := fin_ok hok
  have hL := fin_lowInt_lin env d hl
  have hU := fin_upInt_lin env d hl
  obtain ⟨g1, g2⟩ := fin_grid_range env d (by rw [hL, hU]; exact hle) hk
  rw [hL] at g1 g2
  rw [hU] at g2
  have hv : d.valuePre env k = (k : ℚ) * d.step env + d.lower := by
    unfold FinDom.valuePre
    simp only [hl, hL, Bool.false_eq_true, if_false]
    exact clipR_id g1 g2
  rw [hv]
  exact ⟨rfl, g1, g2⟩

/-- **`cast` is the identity on listed values** (linear grid of floats) -/
theorem fin_cast_idem_lin (env : Env) (d : FinDom) (hok : d.ok = true) (hl : d.log = false)
    (_hc : d.castInt = false) {k : ℕ} (hk : k < d.size) :
    d.cast env (.flt (d.valuePre env k)) = .ok (d.valueAt env k) := by
  obtain ⟨hv, v1, v2⟩ := fin_valuePre_lin env d hok hl hk
  have hL := fin_lowInt_lin env d hl
  have hm : d.valueAt env (d.mapToInt env (d.valuePre env k)) = d.valueAt env k := by
    by_cases hs : d.step env = 0
    · rw [fin_valueAt_step0 env d hs k, fin_valueAt_step0 env d hs (d.mapToInt env _)]
    · have hi : d.indexPre env (d.valuePre env k) = (((k : ℕ) : ℤ) : ℚ) := by
        unfold FinDom.indexPre
        simp only [hl, hL, Bool.false_eq_true, if_false]
        rw [clipR_id v1 v2, hv, add_sub_cancel_right, mul_div_cancel_right₀ _ hs, Int.cast_natCast]
      unfold FinDom.mapToInt
      rw [if_neg hs, hi, rhe_int, clipI_id (by omega) (by omega), Int.toNat_natCast]
  unfold FinDom.cast
  simp only [Val.num?]
  rw [fin_values_getElem env d _ (fin_mapToInt_lt env d hok _), hm]

section
variable {env : Env} {d : FinDom} {ri : IntRange}

theorem range_mapFromInt (k : ℕ) : (d.range env ri).mapFromInt env (k : ℤ) = d.valueAt env k := by
  have hv : (d.range env ri).valuePre env (k : ℤ) = d.valuePre env k := by
    unfold FinRange.valuePre FinDom.valuePre FinDom.range
    cases d.log <;> simp [Env.fromInternal]
  unfold FinRange.mapFromInt FinDom.valueAt
  rw [hv]; rfl

/-- The grid index the encoder's `_map_to_int` finds for `y` lists the same value as index `k`: all a round
trip needs of `y`.  (`_map_to_int` does not read `ri`.) -/
def FinIdx (env : Env) (d : FinDom) (ri : IntRange) (y : ℚ) (k : ℕ) : Prop :=
  ∃ j : ℕ, j < d.size ∧ (d.range env ri).mapToInt env y = .ok (j : ℤ) ∧ d.valueAt env j = d.valueAt env k

/-- `step = 0` (one value, or `lower = upper`): everything has index 0 and all listed values
coincide -/
theorem finIdx_step0 (hok : d.ok = true) (hs : d.step env = 0) (y : ℚ) (k : ℕ) :
    FinIdx env d ri y k :=
  ⟨0, (fin_ok hok).2.1, if_pos hs, (fin_valueAt_step0 env d hs k).symm⟩

theorem finIdx_grid (hok : d.ok = true) (hmono : d.lowInt env ≤ d.upInt env) {y : ℚ} {k : ℕ}
    (hk : k < d.size)
    (hy : env.toInternal (if d.log then .log else .lin) y
      = .ok ((k : ℚ) * d.step env + d.lowInt env)) :
    FinIdx env d ri y k := by
  by_cases hs : d.step env = 0
  · exact finIdx_step0 hok hs y k
  · obtain ⟨g1, g2⟩ := fin_grid_range env d hmono hk
    refine ⟨k, hk, ?_, rfl⟩
    unfold FinRange.mapToInt FinRange.indexPre FinDom.range
    dsimp only
    rw [if_neg hs, hy]
    dsimp only
    rw [clipR_id g1 g2, add_sub_cancel_right, mul_div_cancel_right₀ _ hs, ← Int.cast_natCast, rhe_int]

theorem finIdx_lin (hok : d.ok = true) (hl : d.log = false) {k : ℕ} (hk : k < d.size) :
    FinIdx env d ri (d.valuePre env k) k := by
  have hL := fin_lowInt_lin env d hl
  refine finIdx_grid hok (by rw [hL, fin_upInt_lin env d hl]; exact (fin_ok hok).1) hk ?_
  rw [hl, (fin_valuePre_lin env d hok hl hk).1, hL]
  rfl

/-- The properties of `log` / `exp` the abstract scaling must have on the internal interval of a log-spaced finite
range: `log (exp t) = t`, `log lower ≤ log upper`, and `exp t ∈ [lower, upper]` (so that the clip of `_map_from_int`
is the identity; `0 < exp t` follows from `0 < lower ≤ exp t`). -/
def FinLogOK (env : Env) (d : FinDom) : Prop :=
  (∀ t, d.lowInt env ≤ t → t ≤ d.upInt env → env.log.toInt (env.log.fromInt t) = t) ∧
  d.lowInt env ≤ d.upInt env ∧
  (∀ t, d.lowInt env ≤ t → t ≤ d.upInt env →
    d.lower ≤ env.log.fromInt t ∧ env.log.fromInt t ≤ d.upper)

theorem finIdx_log (hok : d.ok = true) (hl : d.log = true) (h : FinLogOK env d)
    {k : ℕ} (hk : k < d.size) : FinIdx env d ri (d.valuePre env k) k := by
  obtain ⟨hinv1, hmono, hrange⟩ := h
  obtain ⟨g1, g2⟩ := fin_grid_range env d hmono hk
  obtain ⟨r1, r2⟩ := hrange _ g1 g2
  have hv : d.valuePre env k = env.log.fromInt ((k : ℚ) * d.step env + d.lowInt env) := by
    unfold FinDom.valuePre
    simp only [hl, if_true]
    exact clipR_id r1 r2
  refine finIdx_grid hok hmono hk ?_
  rw [hl, hv]
  simp only [Env.toInternal, if_true]
  rw [if_pos (lt_of_lt_of_le ((fin_ok hok).2.2 hl) r1), hinv1 _ g1 g2]

/-- **linear grid cast to integers** (no restriction on the spacing): the index found for the
integer `round(v_k)` may differ from `k`, but its value rounds to the same integer (ties
included: a tie rounded to `w` makes `w` even, and then both `w ± 1/2` round to `w`). -/
theorem finIdx_castint_lin (hok : d.ok = true) (hl : d.log = false) (hc : d.castInt = true) {k : ℕ}
    (hk : k < d.size) :
    FinIdx env d ri ((roundHalfEven (d.valuePre env k) : ℤ) : ℚ) k := by
  by_cases hs : d.step env = 0
  · exact finIdx_step0 hok hs _ k
  obtain ⟨hle, _, _⟩ := fin_ok hok
  obtain ⟨hv, v1, v2⟩ := fin_valuePre_lin env d hok hl hk
  have hL := fin_lowInt_lin env d hl
  have hU := fin_upInt_lin env d hl
  have hs0 := fin_step_nonneg env d (by rw [hL, hU]; exact hle)
  have hspos : 0 < d.step env := lt_of_le_of_ne hs0 (Ne.symm hs)
  have hsize : 1 < d.size := by
    by_contra h
    exact hs (if_neg h)
  have hmul := fin_step_mul env d hsize
  rw [hL, hU] at hmul
  generalize hw : roundHalfEven (d.valuePre env k) = w
  obtain ⟨c1, c2⟩ := clipR_mem (x := (w : ℚ)) hle
  generalize hw' : clipR (w : ℚ) d.lower d.upper = w' at c1 c2
  -- `q` below is the position of the clipped integer `w'` on the grid, `round q` the index the encoder finds
  have hq0 : 0 ≤ (w' - d.lower) / d.step env := div_nonneg (sub_nonneg.mpr c1) hs0
  have hq1 : (w' - d.lower) / d.step env ≤ ((d.size - 1 : ℕ) : ℚ) := by
    rw [div_le_iff₀ hspos, hmul]; exact sub_le_sub_right c2 _
  have hqs : (w' - d.lower) / d.step env * d.step env = w' - d.lower := div_mul_cancel₀ _ hs
  have near := rhe_nearest ((w' - d.lower) / d.step env) (k : ℤ)
  generalize hq : (w' - d.lower) / d.step env = q at hq0 hq1 hqs near
  have hj0 : 0 ≤ roundHalfEven q := rhe_ge_of_le (k := 0) (by simpa using hq0)
  have hj1 : roundHalfEven q ≤ ((d.size - 1 : ℕ) : ℤ) := rhe_le_of_le (by exact_mod_cast hq1)
  have hjlt : (roundHalfEven q).toNat < d.size := by omega
  have hjn : (((roundHalfEven q).toNat : ℕ) : ℤ) = roundHalfEven q := Int.toNat_of_nonneg hj0
  refine ⟨_, hjlt, ?_, ?_⟩
  · unfold FinRange.mapToInt FinRange.indexPre FinDom.range
    dsimp only
    rw [if_neg hs, hl, hL, hU, hjn]
    simp only [Env.toInternal, Bool.false_eq_true, if_false]
    rw [hw', hq]
  obtain ⟨hvj, vj1, vj2⟩ := fin_valuePre_lin env d hok hl hjlt
  have hJ : (((roundHalfEven q).toNat : ℕ) : ℚ) = ((roundHalfEven q : ℤ) : ℚ) := by
    exact_mod_cast hjn
  have key : roundHalfEven (d.valuePre env (roundHalfEven q).toNat) = w := by
    apply rhe_closer hw
    apply clip_closer ⟨vj1, vj2⟩ ⟨v1, v2⟩
    -- `|w' − v_j| ≤ |w' − v_k|`: `j = round q` is a nearest integer to `q`; scale by `step`
    rw [hw']
    have ej : w' - d.valuePre env (roundHalfEven q).toNat
        = (q - ((roundHalfEven q : ℤ) : ℚ)) * d.step env := by
      rw [hvj, hJ, sub_mul, hqs]; ring
    have ek : w' - d.valuePre env k = (q - ((k : ℤ) : ℚ)) * d.step env := by
      rw [hv, sub_mul, hqs]; push_cast; ring
    rw [ej, ek, abs_mul, abs_mul, abs_of_pos hspos]
    exact mul_le_mul_of_nonneg_right near hs0
  unfold FinDom.valueAt
  rw [hc, if_pos rfl, if_pos rfl, key, hw]

end

/-- the encoder `HyperparameterRangesImpl` builds for a `FiniteRange` has the fields of the
domain and the same `_map_from_int` -/
theorem finrange_link {env : Env} {c : Consts} {d : FinDom} {r : FinRange} (_hok : d.ok = true)
    (hmk : mkFin env c d.lower d.upper d.size (if d.log then .log else .lin) d.castInt = .ok r) :
    (r.lowInt = d.lowInt env ∧ r.upInt = d.upInt env ∧ r.step = d.step env ∧ r.lower = d.lower ∧
      r.upper = d.upper ∧ r.size = d.size ∧ r.castInt = d.castInt) ∧
    (∀ k : ℕ, r.mapFromInt env (k : ℤ) = d.valueAt env k) ∧
    mkInt env c 0 ((d.size : ℤ) - 1) .lin none none = .ok r.rint := by
  obtain ⟨ri, hri, rfl⟩ := mkFin_ok hmk
  exact ⟨⟨rfl, rfl, rfl, rfl, rfl, rfl, rfl⟩, range_mapFromInt, hri⟩

theorem fin_decode_member {env : Env} {c : Consts} {d : FinDom} {ri : IntRange}
    (hri : mkInt env c 0 ((d.size : ℤ) - 1) .lin none none = .ok ri) {x : ℚ} (hx : InMargin c x) :
    ∃ v, (d.range env ri).decode env c x = .ok v ∧ v ∈ d.values env := by
  obtain ⟨k, hk, k0, k1⟩ := int_decode_member hri hx
  refine ⟨d.valueAt env k.toNat, ?_, fin_valueAt_mem env d _ (by omega)⟩
  unfold FinRange.decode
  rw [show (d.range env ri).rint = ri from rfl, hk, ← range_mapFromInt (ri := ri),
    Int.toNat_of_nonneg k0]

/-- the one place where the grid index meets the integer encoder of the indices -/
theorem fin_roundtrip_of_idx {env : Env} {c : Consts} {d : FinDom} {ri : IntRange}
    (hri : mkInt env c 0 ((d.size : ℤ) - 1) .lin none none = .ok ri)
    (heps : 0 ≤ c.eps) (heps2 : c.eps ≤ 1 / 2) {y : ℚ} {k : ℕ} (h : FinIdx env d ri y k) :
    ∃ x, (d.range env ri).encode env c y = .ok x ∧
      (d.range env ri).decode env c x = .ok (d.valueAt env k) := by
  obtain ⟨j, hj, hm, hjk⟩ := h
  obtain ⟨x, e1, e2⟩ := int_roundtrip hri heps heps2 (scaleOK_lin env _ _) (k := (j : ℤ))
    (by omega) (by omega)
  refine ⟨x, ?_, ?_⟩
  · unfold FinRange.encode; rw [hm]; exact e1
  · unfold FinRange.decode
    rw [show (d.range env ri).rint = ri from rfl, e2, ← hjk, ← range_mapFromInt (ri := ri)]

theorem fin_valueAt_num (env : Env) (d : FinDom) (k : ℕ) :
    (d.valueAt env k).num? =
      some (if d.castInt = true then ((roundHalfEven (d.valuePre env k) : ℤ) : ℚ) else d.valuePre env k) := by
  unfold FinDom.valueAt
  split <;> rfl

/-- **round trip of a listed value** `v_k`, from its number (`round (valuePre k)` with `cast_int`, else
`valuePre k`); log spacing under the hypotheses of `finIdx_log`, and not together with `cast_int` -/
theorem fin_roundtrip {env : Env} {c : Consts} {d : FinDom} {ri : IntRange} (hok : d.ok = true)
    (hri : mkInt env c 0 ((d.size : ℤ) - 1) .lin none none = .ok ri)
    (heps : 0 ≤ c.eps) (heps2 : c.eps ≤ 1 / 2)
    (hs : d.log = true → FinLogOK env d)
    (hfin : d.castInt = true → d.log = false) {k : ℕ} (hk : k < d.size) :
    ∃ y, (d.valueAt env k).num? = some y ∧
      ∃ x, (d.range env ri).encode env c y = .ok x ∧
        (d.range env ri).decode env c x = .ok (d.valueAt env k) := by
  by_cases hci : d.castInt = true
  · exact ⟨_, (fin_valueAt_num env d k).trans (by rw [if_pos hci]),
      fin_roundtrip_of_idx hri heps heps2 (finIdx_castint_lin hok (hfin hci) hci hk)⟩
  · refine ⟨_, (fin_valueAt_num env d k).trans (by rw [if_neg hci]), fin_roundtrip_of_idx hri heps heps2 ?_⟩
    by_cases hl : d.log = true
    · exact finIdx_log hok hl (hs hl) hk
    · exact finIdx_lin hok (Bool.eq_false_iff.mpr hl) hk

/-- **round trip, linear grid cast to integers**, for spacing `1 < step`, where rounding a grid
point to an integer cannot move it to another grid index: a special case of
`finIdx_castint_lin`, which needs no bound on the spacing (`hstep` is not used). -/
theorem fin_roundtrip_castint_partial {env : Env} {c : Consts} {d : FinDom} {r : FinRange}
    (hok : d.ok = true)
    (hmk : mkFin env c d.lower d.upper d.size (if d.log then .log else .lin) d.castInt = .ok r)
    (hl : d.log = false) (_hc : d.castInt = true) (heps : 0 ≤ c.eps) (heps2 : c.eps ≤ 1 / 2)
    (hstep : 1 < d.step env) {k : ℕ} (hk : k < d.size) :
    ∃ x, r.encode env c ((roundHalfEven (d.valuePre env k) : ℤ) : ℚ) = .ok x ∧
      r.decode env c x = .ok (d.valueAt env k) := by
  obtain ⟨ri, hri, rfl⟩ := mkFin_ok hmk
  exact fin_roundtrip_of_idx hri heps heps2 (finIdx_castint_lin hok hl _hc hk)

/-! ### the hypotheses are satisfiable (identity scaling standing in for `log`/`exp`) -/

private def exEnv : Env := ⟨⟨id, id⟩, ⟨id, id⟩, ⟨id, id⟩⟩
private def exC : Consts := ⟨1 / 100000000, 499 / 1000, 1 / 100⟩
/-- `finrange(0.1, 1.0, 10, cast_int=True)`: spacing `1/10`, listed values `0,0,0,0,0,1,1,1,1,1` -/
private def exD : FinDom := ⟨1 / 10, 1, 10, false, true⟩
private def exL : FinDom := ⟨1, 8, 4, true, false⟩

example : (mkFin exEnv exC exD.lower exD.upper exD.size (if exD.log then .log else .lin)
    exD.castInt).isOk = true := by decide +kernel

example : exD.values exEnv
    = [.int 0, .int 0, .int 0, .int 0, .int 0, .int 1, .int 1, .int 1, .int 1, .int 1] := by
  decide +kernel

example (r : FinRange)
    (hmk : mkFin exEnv exC exD.lower exD.upper exD.size (if exD.log then .log else .lin)
      exD.castInt = .ok r) (k : ℕ) (hk : k < 10) :
    ∃ x, r.encode exEnv exC ((roundHalfEven (exD.valuePre exEnv k) : ℤ) : ℚ) = .ok x ∧
      r.decode exEnv exC x = .ok (exD.valueAt exEnv k) := by
  obtain ⟨ri, hri, rfl⟩ := mkFin_ok hmk
  exact fin_roundtrip_of_idx hri (by norm_num [exC]) (by norm_num [exC])
    (finIdx_castint_lin (by decide +kernel) rfl rfl hk)

example : (mkFin exEnv exC exL.lower exL.upper exL.size (if exL.log then .log else .lin)
    exL.castInt).isOk = true := by decide +kernel

example (r : FinRange)
    (hmk : mkFin exEnv exC exL.lower exL.upper exL.size (if exL.log then .log else .lin)
      exL.castInt = .ok r) (k : ℕ) (hk : k < 4) :
    ∃ x, r.encode exEnv exC (exL.valuePre exEnv k) = .ok x ∧
      r.decode exEnv exC x = .ok (exL.valueAt exEnv k) := by
  obtain ⟨ri, hri, rfl⟩ := mkFin_ok hmk
  exact fin_roundtrip_of_idx hri (by norm_num [exC]) (by norm_num [exC])
    -- `env`, `d` given by hand: left open they are still unassigned when the hypotheses are elaborated (slow)
    (finIdx_log (env := exEnv) (d := exL) (by decide +kernel) rfl ⟨fun _ _ _ => rfl, by decide +kernel,
      fun _ h1 h2 => ⟨h1, h2⟩⟩ hk)

end SyneTune.Dom
