import SyneTune.Lemmas.DomainsMember
/- The encoder of one hyperparameter, uniformly over all kinds: `Built` says which constructor made
it, and each fact is one case analysis of that.  Then the composition over the hyperparameters of a
space (`HyperparameterRangesImpl`): encoding, round trip and decoding of a whole vector from the
per-encoder facts (`encodeAll_spec`, `roundtripAll_spec`, `decodeAll_slices`). -/
namespace SyneTune.Dom
open SyneTune

/-- `fltBounds`, `intBounds` restate the `let ab := match h.active with …` of `mkRangeCore` -/
def fltBounds : Option Domain → Option (ℚ × ℚ)
  | some (.flt a) => some (a.lower, a.upper)
  | _ => none

def intBounds : Option Domain → Option (ℤ × ℤ)
  | some (.int a) => some (a.lower, a.upper)
  | _ => none

/-- `mkRangeCore` case by case: the constructor called and its arguments (for the two position encoders
what `mkOrdEq_ok` / `mkBinary_ok` make of it) -/
inductive Built (env : Env) (c : Consts) (act : Option Domain) : Domain → Range → Prop
  | ordnn {d : NNDom} {o : OrdNN} :
      mkOrdNN env c d.cats d.log (act.bind Domain.catsOf) = .ok o → Built env c act (.nn d) (.ordnn o)
  | ordeq {d : CatDom} {ri : IntRange} : PosEnc env c d.cats (act.bind Domain.catsOf) ri →
      Built env c act (.cat d) (.ordeq ⟨d.cats, ri⟩)
  | binary {d : CatDom} {ri : IntRange} : PosEnc env c d.cats (act.bind Domain.catsOf) ri →
      Built env c act (.cat d) (.binary ⟨d.cats, ri⟩)
  | onehot {d : CatDom} : d.cats ≠ [] →
      Built env c act (.cat d) (.onehot (oneHot d.cats (act.bind Domain.catsOf)))
  | fin {d : FinDom} {ri : IntRange} : act = none →
      mkInt env c 0 ((d.size : ℤ) - 1) .lin none none = .ok ri → Built env c act (.fin d) (.fin (d.range env ri))
  | cont {d : FloatDom} {o : ContRange} :
      mkCont env c d.lower d.upper (Domain.flt d).encScale ((fltBounds act).map (·.1))
        ((fltBounds act).map (·.2)) = .ok o → Built env c act (.flt d) (.cont o)
  | int {d : IntDom} {o : IntRange} :
      mkInt env c d.lower d.upper (Domain.int d).encScale ((intBounds act).map (·.1))
        ((intBounds act).map (·.2)) = .ok o → Built env c act (.int d) (.int o)

theorem mkRangeCore_built {env : Env} {c : Consts} {h : HP} {r : Range}
    (hmk : mkRangeCore env c h = .ok r) : Built env c h.active h.dom r := by
  unfold mkRangeCore at hmk
  split at hmk
  · rename_i d hd
    split at hmk
    · rename_i o ho
      exact Except.ok.inj hmk ▸ hd ▸ .ordnn ho
    · cases hmk
  · rename_i d hd
    split at hmk
    · split at hmk
      · rename_i o ho
        obtain ⟨ri, hp, rfl⟩ := mkOrdEq_ok ho
        exact Except.ok.inj hmk ▸ hd ▸ .ordeq hp
      · cases hmk
    · split at hmk
      · split at hmk
        · rename_i o ho
          obtain ⟨ri, hp, rfl⟩ := mkBinary_ok ho
          exact Except.ok.inj hmk ▸ hd ▸ .binary hp
        · cases hmk
      · split at hmk
        · rename_i o ho
          obtain ⟨hne, rfl⟩ := mkOneHot_ok ho
          exact Except.ok.inj hmk ▸ hd ▸ .onehot hne
        · cases hmk
  · rename_i d hd
    split at hmk
    · cases hmk
    · rename_i hact
      split at hmk
      · rename_i o ho
        rw [hd, fin_encScale] at ho
        obtain ⟨ri, hri, rfl⟩ := mkFin_ok ho
        exact Except.ok.inj hmk ▸ hd ▸ .fin (Option.not_isSome_iff_eq_none.mp hact) hri
      · cases hmk
  · rename_i d hd
    dsimp only at hmk
    split at hmk
    · rename_i o ho
      rw [hd] at ho
      exact Except.ok.inj hmk ▸ hd ▸ .cont ho
    · cases hmk
  · rename_i d hd
    dsimp only at hmk
    split at hmk
    · rename_i o ho
      rw [hd] at ho
      exact Except.ok.inj hmk ▸ hd ▸ .int ho
    · cases hmk

theorem mkRange_built {env : Env} {c : Consts} {h : HP} {r : Range} (hmk : mkRange env c h = .ok r) :
    Built env c h.active h.dom r ∧ ∀ a, h.active = some a → subSpaceOk a h.dom = true := by
  unfold mkRange at hmk
  split at hmk
  · rename_i a ha
    split at hmk
    · rename_i hs
      exact ⟨mkRangeCore_built hmk, fun a' ha' => Option.some.inj (ha.symm.trans ha') ▸ hs⟩
    · cases hmk
  · rename_i ha
    exact ⟨mkRangeCore_built hmk, fun a' ha' => nomatch ha.symm.trans ha'⟩

theorem range_size_pos_single {r : Range} (hne : ∀ o, r ≠ .onehot o) : r.size = 1 := by
  cases r <;> simp_all [Range.size]

/-- **every decoded value is a member of its domain** — any scaling, any constants -/
theorem range_decode_member {env : Env} {c : Consts} {n : String} {dom : Domain} {act : Option Domain}
    {r : Range} (hok : dom.ok = true) (hmk : mkRange env c ⟨n, dom, act⟩ = .ok r) (xs : List ℚ)
    (hlen : xs.length = r.size) (hx : ∀ x ∈ xs, InMargin c x) :
    ∃ v, r.decode env c xs = .ok v ∧ dom.member env v = true := by
  -- all encoders but the one-hot one read a single coordinate
  have one : r.size = 1 → ∃ x, xs = [x] ∧ InMargin c x := fun h1 => by
    obtain ⟨x, rfl⟩ := List.length_eq_one_iff.mp (hlen.trans h1)
    exact ⟨x, rfl, hx x List.mem_cons_self⟩
  have hb : Built env c act dom r := (mkRange_built hmk).1
  cases hb with
  | ordnn ho =>
    obtain ⟨x, rfl, hx1⟩ := one rfl
    obtain ⟨v, hv, hm⟩ := ordnn_decode_member ho hx1
    exact ⟨v, hv, member_nn hok hm⟩
  | ordeq ho | binary ho =>
    obtain ⟨x, rfl, hx1⟩ := one rfl
    obtain ⟨v, hv, hm⟩ := pos_decode_member ho hx1
    exact ⟨v, hv, member_cat hok hm⟩
  | onehot hne =>
    obtain ⟨v, hv, hm⟩ := onehot_decode_member hne hlen
    exact ⟨v, hv, member_cat hok hm⟩
  | fin _ ho =>
    obtain ⟨x, rfl, hx1⟩ := one rfl
    obtain ⟨v, hv, hm⟩ := fin_decode_member ho hx1
    exact ⟨v, hv, member_fin hm⟩
  | cont ho =>
    obtain ⟨x, rfl, hx1⟩ := one rfl
    obtain ⟨v, hv, hm⟩ := cont_decode_member (c := c) (mkCont_ok ho).1 hx1
    exact ⟨.flt v, by simp only [Range.decode, Range.decode1, hv], member_flt hm⟩
  | int ho =>
    obtain ⟨x, rfl, hx1⟩ := one rfl
    obtain ⟨k, hk, hm⟩ := int_decode_member ho hx1
    exact ⟨.int k, by simp only [Range.decode, Range.decode1, hk], member_int hm⟩

theorem range_decode_reject {env : Env} {c : Consts} {r : Range} (hne : ∀ o, r ≠ .onehot o) {x : ℚ}
    (hx : ¬ InMargin c x) : r.decode env c [x] = .error .assertion := by
  cases r with
  | onehot o => exact absurd rfl (hne o)
  | cont o => simp only [Range.decode, Range.decode1, cont_decode_reject _ hx]
  | int o => simp only [Range.decode, Range.decode1, int_decode_reject _ hx]
  | fin o => exact fin_decode_reject o hx
  | binary o | ordeq o => exact pos_decode_reject hx
  | ordnn o => exact ordnn_decode_reject o hx

theorem single_cube {e : Except Err ℚ} {xs : List ℚ} (h : single e = .ok xs)
    (hc : ∀ x, e = .ok x → 0 ≤ x ∧ x ≤ 1) : xs.length = 1 ∧ ∀ x ∈ xs, 0 ≤ x ∧ x ≤ 1 := by
  cases e with
  | error _ => cases h
  | ok x =>
    rw [← Except.ok.inj h]
    exact ⟨rfl, fun y hy => by rw [List.mem_singleton.mp hy]; exact hc x rfl⟩

/-- **every encoding has the advertised length and lies in the unit cube** — any encoder -/
theorem range_encode_cube {env : Env} {c : Consts} {r : Range} {v : Val} {xs : List ℚ}
    (h : r.encode env c v = .ok xs) : xs.length = r.size ∧ ∀ x ∈ xs, 0 ≤ x ∧ x ≤ 1 := by
  cases r with
  | onehot o => exact onehot_encode_cube h
  | binary o | ordeq o => exact single_cube h fun _ => pos_encode_cube
  | ordnn o => exact single_cube h fun _ => ordnn_encode_cube
  | cont o =>
    simp only [Range.encode] at h
    split at h
    · exact single_cube h fun _ => cont_encode_cube
    · cases h
  | int o =>
    simp only [Range.encode] at h
    split at h
    · exact single_cube h fun _ => cont_encode_cube
    · cases h
  | fin o =>
    simp only [Range.encode] at h
    split at h
    · exact single_cube h fun _ => fin_encode_cube
    · cases h

/-- What the theorems about exact round trips and active sub-ranges assume about the abstract
`exp` / `log` of the environment, per hyperparameter (all trivially true for linear kinds, see
`scalingHyp_lin`): the scaling of the encoder inverts and is monotone on the value interval
(`ScaleOK`); for nearest-neighbour ordinals in log scale `log` is strictly increasing; for
log-spaced finite ranges (the body of `FinLogOK`, spelled out) `log ∘ exp = id` on the internal interval, that
interval is not empty and `exp` maps the internal interval into `[lower, upper]`. -/
def ScalingHyp (env : Env) (c : Consts) : Domain → Prop
  | .flt d => ScaleOK env (Domain.flt d).encScale d.lower d.upper
  | .int d => ScaleOK env (Domain.int d).encScale (intLo c d.lower) (intHi c d.upper)
  | .nn d => LogMono env d.log
  | .fin d => d.log = true →
      (∀ t, d.lowInt env ≤ t → t ≤ d.upInt env → env.log.toInt (env.log.fromInt t) = t) ∧
      d.lowInt env ≤ d.upInt env ∧
      (∀ t, d.lowInt env ≤ t → t ≤ d.upInt env →
        d.lower ≤ env.log.fromInt t ∧ env.log.fromInt t ≤ d.upper)
  | .cat _ => True

/-- the values covered by the round-trip theorem: the members — except that for a finite range
with `cast_int` only linear spacing is covered (for log spacing the statement is false, see
`roundtrip_logfin_castint_counterexample`) -/
def RTVal (env : Env) (d : Domain) (v : Val) : Prop :=
  d.member env v = true ∧
  match d with
  | .fin f => f.castInt = true → f.log = false
  | _ => True

theorem single_roundtrip {env : Env} {c : Consts} {r : Range} {v : Val} {e : Except Err ℚ}
    (henc : r.encode env c v = single e) (hsz : r.size = 1)
    (h : ∃ x, e = .ok x ∧ r.decode env c [x] = .ok v) :
    ∃ xs, r.encode env c v = .ok xs ∧ xs.length = r.size ∧ r.decode env c xs = .ok v := by
  obtain ⟨x, e1, e2⟩ := h
  exact ⟨[x], henc.trans (congrArg single e1), hsz.symm, e2⟩

/-- **round trip of one hyperparameter value**: `from_ndarray (to_ndarray v) = v`, exactly -/
theorem range_roundtrip {env : Env} {c : Consts} {n : String} {dom : Domain} {act : Option Domain}
    {r : Range} (hok : dom.ok = true) (hmk : mkRange env c ⟨n, dom, act⟩ = .ok r) (heps : 0 ≤ c.eps)
    (heps2 : c.eps ≤ 1 / 2) (hs : ScalingHyp env c dom) {v : Val} (hv : RTVal env dom v) :
    ∃ xs, r.encode env c v = .ok xs ∧ xs.length = r.size ∧ r.decode env c xs = .ok v := by
  obtain ⟨hmem, hfin⟩ := hv
  have hb : Built env c act dom r := (mkRange_built hmk).1
  cases hb with
  | ordnn ho =>
    exact single_roundtrip rfl rfl
      (ordnn_roundtrip ho heps hs (mem_of_member_cats hmem (nn_catsOk hok)))
  | ordeq ho | binary ho =>
    exact single_roundtrip rfl rfl (pos_roundtrip ho hok heps heps2 (mem_of_member_cats hmem hok))
  | onehot _ =>
    obtain ⟨xs, e1, e2⟩ := onehot_roundtrip hok (mem_of_member_cats hmem hok)
    exact ⟨xs, e1, (onehot_encode_cube e1).1, e2⟩
  | @fin d ri _ ho =>
    obtain ⟨k, hk, rfl⟩ := fin_mem_values (List.contains_iff_mem.mp hmem)
    obtain ⟨y, hy, h⟩ := fin_roundtrip hok ho heps heps2 hs hfin hk
    exact single_roundtrip (by simp only [Range.encode, numOf, hy]) rfl h
  | cont ho =>
    obtain ⟨x, rfl, hx1, hx2⟩ := of_member_flt hmem
    obtain ⟨y, e1, e2⟩ := cont_roundtrip (mkCont_ok ho).1 heps hs hx1 hx2
    exact single_roundtrip (by simp only [Range.encode, numOf, Val.num?]) rfl
      ⟨y, e1, by simp only [Range.decode, Range.decode1, e2]⟩
  | @int _ o ho =>
    obtain ⟨k, rfl, hk1, hk2⟩ := of_member_int hmem
    obtain ⟨y, e1, e2⟩ := int_roundtrip ho heps heps2 hs hk1 hk2
    exact single_roundtrip (e := o.encode env c k) (by simp only [Range.encode, numOf, Val.num?])
      rfl ⟨y, e1, by simp only [Range.decode, Range.decode1, e2]⟩

theorem catsOf_spec {env : Env} {a : Domain} {act : List Val} (h : a.catsOf = some act) :
    a.vtype = vtypeOf act ∧ ∀ v, a.member env v = (v.vtype == vtypeOf act && pyIn v act) := by
  cases a <;> simp_all [Domain.catsOf, Domain.vtype, Domain.member]

theorem member_active_cats {env : Env} {a base : Domain} {act cats : List Val} {v : Val}
    (hact : a.catsOf = some act) (hcats : base.catsOf = some cats) (hsub : subSpaceOk a base = true)
    (hok : catsOk cats = true) (hv : v ∈ cats) (hin : pyIn v act = true) : a.member env v = true := by
  obtain ⟨ta, ma⟩ := catsOf_spec (env := env) hact
  have hty : a.vtype = base.vtype := by
    unfold subSpaceOk at hsub
    simp only [Bool.and_eq_true, beq_iff_eq] at hsub
    exact hsub.1.1.1
  rw [ma, hin, Bool.and_true, beq_iff_eq, vtypeOf_mem hok hv, ← (catsOf_spec (env := env) hcats).1, ← hty, ta]

/-- an active entry for a categorical / ordinal hyperparameter is one itself -/
theorem catsOf_of_clsSub {a base : Domain} {cats : List Val} (hb : base.catsOf = some cats)
    (h : clsSub a base = true) : ∃ act, a.catsOf = some act := by
  cases a <;> cases base <;> simp_all [clsSub, Domain.catsOf]

/-- an active entry for a `Float` / `Integer` hyperparameter is one itself -/
theorem clsSub_flt {a : Domain} {d : FloatDom} (h : clsSub a (.flt d) = true) : ∃ ad, a = .flt ad := by
  cases a <;> simp_all [clsSub]

theorem clsSub_int {a : Domain} {d : IntDom} (h : clsSub a (.int d) = true) : ∃ ad, a = .int ad := by
  cases a <;> simp_all [clsSub]

/-- **active sub-range of one hyperparameter**: every point of the `get_ndarray_bounds` box of the
encoder decodes to a member of the *active* domain.  For the one-hot encoder this needs a positive
coordinate (`hpos`); without it the statement is false (`active_onehot_counterexample`). -/
theorem range_active {env : Env} {c : Consts} {n : String} {dom : Domain} {act : Option Domain}
    {r : Range} {a : Domain} (hok : dom.ok = true) (hmk : mkRange env c ⟨n, dom, act⟩ = .ok r)
    (ha : act = some a) (heps : 0 < c.eps) (h499 : c.c499 < 1 / 2) (hs : ScalingHyp env c dom)
    {xs : List ℚ} (hbox : InBox xs r.bounds)
    (hpos : (∃ o, r = .onehot o) → ∃ x ∈ xs, 0 < x) :
    ∃ v, r.decode env c xs = .ok v ∧ a.member env v = true := by
  subst ha
  obtain ⟨hb, hsub⟩ : Built env c (some a) dom r ∧ _ := mkRange_built hmk
  have hsub : subSpaceOk a dom = true := hsub a rfl
  have hcls : clsSub a dom = true := ((Bool.and_eq_true _ _).mp hsub).2
  -- categorical kinds: the active entry lists choices, and a decoded active choice is a member of it
  have cats : ∀ {cs : List Val}, dom.catsOf = some cs → catsOk cs = true →
      ∃ acts, (some a).bind Domain.catsOf = some acts ∧
        ∀ {v}, v ∈ cs → pyIn v acts = true → a.member env v = true := fun hcs hcok => by
    obtain ⟨acts, hact⟩ := catsOf_of_clsSub hcs hcls
    exact ⟨acts, hact, fun hm hin => member_active_cats hact hcs hsub hcok hm hin⟩
  cases hb with
  | @ordnn d o ho =>
    obtain ⟨acts, hact, hmem⟩ := cats (cs := d.cats) rfl (nn_catsOk hok)
    rw [hact] at ho
    obtain ⟨x, rfl, hx⟩ := inBox_single hbox
    obtain ⟨v, hv, hm, hin⟩ := ordnn_active ho heps.le h499 hs hx
    exact ⟨v, hv, hmem hm hin⟩
  | @ordeq d ri ho | @binary d ri ho =>
    obtain ⟨acts, hact, hmem⟩ := cats (cs := d.cats) rfl hok
    rw [hact] at ho
    obtain ⟨x, rfl, hx⟩ := inBox_single hbox
    obtain ⟨v, hv, hm, hin⟩ := pos_active ho heps hx
    exact ⟨v, hv, hmem hm hin⟩
  | @onehot d _ =>
    obtain ⟨acts, hact, hmem⟩ := cats (cs := d.cats) rfl hok
    rw [hact] at hbox hpos ⊢
    obtain ⟨v, hv, hm, hin⟩ := onehot_active_partial hbox (hpos ⟨_, rfl⟩)
    exact ⟨v, hv, hmem hm hin⟩
  | fin hnone _ => cases hnone
  | cont ho =>
    obtain ⟨ad, rfl⟩ := clsSub_flt hcls
    obtain ⟨x, rfl, hx⟩ := inBox_single hbox
    obtain ⟨-, -, v, hv, hm⟩ := cont_active ho heps.le hs hx
    exact ⟨.flt v, by simp only [Range.decode, Range.decode1, hv], member_flt hm⟩
  | int ho =>
    obtain ⟨ad, rfl⟩ := clsSub_int hcls
    obtain ⟨x, rfl, hx⟩ := inBox_single hbox
    obtain ⟨-, -, k, hk, hm⟩ := int_active ho heps hs hx
    exact ⟨.int k, by simp only [Range.decode, Range.decode1, hk], member_int hm⟩

/-- **`get_ndarray_bounds` of one encoder**: as many entries as coordinates, each inside `[0,1]` -/
theorem range_bounds_cube {env : Env} {c : Consts} {n : String} {dom : Domain} {act : Option Domain}
    {r : Range} (hmk : mkRange env c ⟨n, dom, act⟩ = .ok r) :
    r.bounds.length = r.size ∧ ∀ b ∈ r.bounds, 0 ≤ b.1 ∧ b.2 ≤ 1 := by
  have one : ∀ {lo hi : ℚ}, 0 ≤ lo ∧ hi ≤ 1 → ∀ b ∈ [(lo, hi)], 0 ≤ b.1 ∧ b.2 ≤ 1 :=
    fun hb b hm => by rw [List.mem_singleton.mp hm]; exact hb
  have hb : Built env c act dom r := (mkRange_built hmk).1
  cases hb with
  | ordnn ho => exact ⟨rfl, one (ordnn_bounds_cube ho)⟩
  | ordeq ho | binary ho => exact ⟨rfl, one (pos_bounds_cube ho)⟩
  | onehot hne => exact onehot_bounds_cube hne
  | fin _ ho =>
    exact ⟨rfl, one (int_bounds_cube ho)⟩
  | cont ho => exact ⟨rfl, one (cont_bounds_cube ho)⟩
  | int ho => exact ⟨rfl, one (int_bounds_cube ho)⟩

theorem range_box_member {env : Env} {c : Consts} {n : String} {dom : Domain} {act : Option Domain}
    {r : Range} (hok : dom.ok = true) (hmk : mkRange env c ⟨n, dom, act⟩ = .ok r)
    (heps : 0 < c.eps) (h499 : c.c499 < 1 / 2) (hs : ScalingHyp env c dom)
    {xs : List ℚ} (hbox : InBox xs r.bounds) (hpos : (∃ o, r = .onehot o) → ∃ x ∈ xs, 0 < x) :
    ∃ v, r.decode env c xs = .ok v ∧ (act.getD dom).member env v = true := by
  cases act with
  | some a => exact range_active hok hmk rfl heps h499 hs hbox hpos
  | none =>
    obtain ⟨hbl, hbc⟩ := range_bounds_cube hmk
    exact range_decode_member hok hmk xs (by rw [hbox.1, hbl]) (inBox_margin heps.le hbc hbox)

theorem lookupS_mem {β} {k : String} {l : List (String × β)} {v : β} (h : lookupS k l = some v) :
    (k, v) ∈ l := by
  induction l with
  | nil => simp [lookupS] at h
  | cons a as ih =>
    obtain ⟨k', v'⟩ := a
    unfold lookupS at h
    by_cases hk : k = k'
    · simp only [hk, if_true, Option.some.injEq] at h
      subst h; subst hk; simp
    · simp only [hk, if_false] at h
      exact List.mem_cons_of_mem _ (ih h)

theorem mkEntries_spec {env : Env} {c : Consts} {hps : List HP} {keys : List String}
    {es : List (String × Range)} (h : mkEntries env c hps keys = .ok es) :
    ∀ e ∈ es, ∃ hp ∈ hps, hp.name = e.1 ∧ mkRange env c hp = .ok e.2 := by
  induction keys generalizing es with
  | nil =>
    rw [← Except.ok.inj h]
    exact fun _ he => absurd he List.not_mem_nil
  | cons k ks ih =>
    unfold mkEntries at h
    split at h
    · cases h
    · rename_i hp hlk
      split at h
      · rename_i r rest hr hrest
        rw [← Except.ok.inj h]
        obtain ⟨hp', hm, he⟩ := List.mem_map.mp (lookupS_mem hlk)
        obtain ⟨rfl, rfl⟩ := Prod.mk.inj he
        exact List.forall_mem_cons.mpr ⟨⟨hp', hm, rfl, hr⟩, ih hrest⟩
      · cases h
      · cases h

theorem mkSpace_spec {env : Env} {c : Consts} {hps : List HP} {pk : Option (List String)}
    {nl : Option String} {vl : Option Val} {sp : Space} (h : mkSpace env c hps pk nl vl = .ok sp) :
    (∀ e ∈ sp.entries, ∃ hp ∈ hps, hp.name = e.1 ∧ mkRange env c hp = .ok e.2) ∧ sp.valueLast = vl := by
  unfold mkSpace at h
  split at h
  · cases h
  · split at h
    · rename_i es hes
      rw [← Except.ok.inj h]
      exact ⟨mkEntries_spec hes, rfl⟩
    · cases h

theorem space_decode_of_length {env : Env} {c : Consts} {s : Space} {xs : List ℚ}
    (hlen : xs.length = s.ndarraySize) : s.decode env c xs = decodeAll env c s.entries xs :=
  if_pos hlen

theorem space_bounds_unfixed {env : Env} {c : Consts} {s : Space} (h : s.valueLast = none) :
    s.bounds env c = .ok (s.entries.map (fun e => e.2.bounds)).flatten := by
  unfold Space.bounds
  rw [h]
  cases s.nameLast <;> rfl

theorem encodeAll_spec {env : Env} {c : Consts} (entries : List (String × Range))
    {cfg : Config} {xs : List ℚ} (h : encodeAll env c entries cfg = .ok xs) :
    xs.length = (entries.map (fun e => e.2.size)).sum ∧ ∀ x ∈ xs, 0 ≤ x ∧ x ≤ 1 := by
  induction entries generalizing xs with
  | nil =>
    simp only [encodeAll] at h
    injection h with h; subst h; simp
  | cons e es ih =>
    obtain ⟨k, r⟩ := e
    unfold encodeAll at h
    split at h
    · cases h
    · rename_i v hv
      split at h
      · rename_i ys zs hy hz
        injection h with h; subst h
        obtain ⟨l1, c1⟩ := range_encode_cube hy
        obtain ⟨l2, c2⟩ := ih hz
        refine ⟨by simp [l1, l2], ?_⟩
        intro x hx
        rcases List.mem_append.mp hx with hx | hx
        · exact c1 x hx
        · exact c2 x hx
      · cases h
      · cases h

theorem roundtripAll_spec {env : Env} {c : Consts} (entries : List (String × Range)) (cfg : Config)
    (hcfg : ∀ e ∈ entries, ∃ v, lookupS e.1 cfg = some v ∧
      ∃ xs, e.2.encode env c v = .ok xs ∧ xs.length = e.2.size ∧ e.2.decode env c xs = .ok v) :
    ∃ xs, encodeAll env c entries cfg = .ok xs ∧
      xs.length = (entries.map (fun e => e.2.size)).sum ∧
      ∃ out, decodeAll env c entries xs = .ok out ∧
        List.Forall₂ (fun e kv => kv.1 = e.1 ∧ lookupS e.1 cfg = some kv.2) entries out := by
  induction entries with
  | nil => exact ⟨[], rfl, rfl, [], rfl, List.Forall₂.nil⟩
  | cons e es ih =>
    obtain ⟨k, r⟩ := e
    obtain ⟨v, hv, ys, hy, hyl, hyd⟩ := hcfg (k, r) (by simp)
    obtain ⟨zs, hz, hzl, out, hout, hall⟩ := ih (fun e he => hcfg e (List.mem_cons_of_mem _ he))
    refine ⟨ys ++ zs, ?_, by simp [hyl, hzl], (k, v) :: out, ?_, List.Forall₂.cons ⟨rfl, hv⟩ hall⟩
    · simp only [encodeAll]
      simp only at hv hy
      rw [hv]
      simp only [hy, hz]
    · simp only [decodeAll]
      simp only at hyl hyd
      rw [← hyl, List.take_left, List.drop_left, hyd, hout]

/-- a predicate on every encoder's slice of the encoded vector -/
def Slices (A : String × Range → List ℚ → Prop) : List (String × Range) → List ℚ → Prop
  | [], _ => True
  | e :: es, xs => A e (xs.take e.2.size) ∧ Slices A es (xs.drop e.2.size)

theorem Slices.and {A B : String × Range → List ℚ → Prop} {entries : List (String × Range)} {xs : List ℚ}
    (ha : Slices A entries xs) (hb : Slices B entries xs) : Slices (fun e ys => A e ys ∧ B e ys) entries xs := by
  induction entries generalizing xs with
  | nil => trivial
  | cons e es ih => exact ⟨⟨ha.1, hb.1⟩, ih ha.2 hb.2⟩

/-- decoding a whole vector: if every encoder maps every slice satisfying `A` into a value
satisfying `P`, the decoded configuration lists the hyperparameters in internal order with values
satisfying `P` -/
theorem decodeAll_slices {env : Env} {c : Consts} {A : String × Range → List ℚ → Prop}
    {P : String → Range → Val → Prop} (entries : List (String × Range))
    (hP : ∀ e ∈ entries, ∀ xs : List ℚ, A e xs → ∃ v, e.2.decode env c xs = .ok v ∧ P e.1 e.2 v)
    (xs : List ℚ) (hA : Slices A entries xs) :
    ∃ cfg, decodeAll env c entries xs = .ok cfg ∧
      List.Forall₂ (fun e kv => kv.1 = e.1 ∧ P e.1 e.2 kv.2) entries cfg := by
  induction entries generalizing xs with
  | nil => exact ⟨[], rfl, List.Forall₂.nil⟩
  | cons e es ih =>
    obtain ⟨k, r⟩ := e
    obtain ⟨h1, h2⟩ := hA
    obtain ⟨v, hv, hpv⟩ := hP (k, r) (by simp) _ h1
    obtain ⟨cfg, hcfg, hall⟩ := ih (fun e he => hP e (List.mem_cons_of_mem _ he)) _ h2
    refine ⟨(k, v) :: cfg, ?_, List.Forall₂.cons ⟨rfl, hpv⟩ hall⟩
    simp only [decodeAll]
    simp only at hv hcfg
    rw [hv, hcfg]

theorem slices_of_length {Q : ℚ → Prop} (entries : List (String × Range)) {xs : List ℚ}
    (hlen : xs.length = (entries.map (fun e => e.2.size)).sum) (hx : ∀ x ∈ xs, Q x) :
    Slices (fun e ys => ys.length = e.2.size ∧ ∀ y ∈ ys, Q y) entries xs := by
  induction entries generalizing xs with
  | nil => trivial
  | cons e es ih =>
    rw [List.map_cons, List.sum_cons] at hlen
    exact ⟨⟨by rw [List.length_take]; omega, fun y hy => hx y (List.mem_of_mem_take hy)⟩,
      ih (by rw [List.length_drop]; omega) (fun y hy => hx y (List.mem_of_mem_drop hy))⟩

theorem slices_of_inBox (entries : List (String × Range))
    (hlen : ∀ e ∈ entries, e.2.bounds.length = e.2.size)
    {xs : List ℚ} (h : InBox xs (entries.map (fun e => e.2.bounds)).flatten) :
    Slices (fun e ys => InBox ys e.2.bounds) entries xs := by
  induction entries generalizing xs with
  | nil => trivial
  | cons e es ih =>
    simp only [List.map_cons, List.flatten_cons] at h
    obtain ⟨h1, h2⟩ := inBox_append h
    rw [hlen e List.mem_cons_self] at h1 h2
    exact ⟨h1, ih (fun e he => hlen e (List.mem_cons_of_mem _ he)) h2⟩

theorem bounds_length (entries : List (String × Range))
    (hlen : ∀ e ∈ entries, e.2.bounds.length = e.2.size) :
    (entries.map (fun e => e.2.bounds)).flatten.length = (entries.map (fun e => e.2.size)).sum :=
  (List.length_flatten.trans (congrArg List.sum List.map_map)).trans
    (congrArg List.sum (List.map_congr_left hlen))

theorem space_box_slices {env : Env} {c : Consts} {hps : List HP} {pk : Option (List String)}
    {nl : Option String} {sp : Space} (hsp : mkSpace env c hps pk nl none = .ok sp)
    {bs : List (ℚ × ℚ)} {xs : List ℚ} (hbs : sp.bounds env c = .ok bs) (hin : InBox xs bs) :
    xs.length = sp.ndarraySize ∧ Slices (fun e ys => InBox ys e.2.bounds) sp.entries xs := by
  rw [space_bounds_unfixed (mkSpace_spec hsp).2] at hbs
  rw [← Except.ok.inj hbs] at hin
  have hbl : ∀ e ∈ sp.entries, e.2.bounds.length = e.2.size := fun e he =>
    let ⟨_, _, _, hr⟩ := (mkSpace_spec hsp).1 e he
    (range_bounds_cube hr).1
  exact ⟨hin.1.trans (bounds_length sp.entries hbl), slices_of_inBox sp.entries hbl hin⟩

theorem space_decode_slices {env : Env} {c : Consts} {hps : List HP} {pk : Option (List String)}
    {nl : Option String} {vl : Option Val} {sp : Space} (hsp : mkSpace env c hps pk nl vl = .ok sp)
    {A : String × Range → List ℚ → Prop} {P : HP → Val → Prop}
    (hP : ∀ h ∈ hps, ∀ e ∈ sp.entries, h.name = e.1 → mkRange env c h = .ok e.2 → ∀ ys, A e ys →
      ∃ v, e.2.decode env c ys = .ok v ∧ P h v)
    {xs : List ℚ} (hlen : xs.length = sp.ndarraySize) (hA : Slices A sp.entries xs) :
    ∃ cfg, sp.decode env c xs = .ok cfg ∧
      List.Forall₂ (fun e kv => kv.1 = e.1 ∧ ∃ h ∈ hps, h.name = e.1 ∧ P h kv.2) sp.entries cfg := by
  obtain ⟨cfg, hcfg, hall⟩ := decodeAll_slices (env := env) (c := c)
    (P := fun k _ v => ∃ h ∈ hps, h.name = k ∧ P h v) sp.entries
    (fun e he ys hys => by
      obtain ⟨h, hm, hn, hr⟩ := (mkSpace_spec hsp).1 e he
      obtain ⟨v, hv, hp⟩ := hP h hm e he hn hr ys hys
      exact ⟨v, hv, h, hm, hn, hp⟩)
    xs hA
  exact ⟨cfg, (space_decode_of_length hlen).trans hcfg, hall⟩

theorem space_roundtrip {env : Env} {c : Consts} {hps : List HP} {pk : Option (List String)}
    {nl : Option String} {vl : Option Val} {sp : Space} (hsp : mkSpace env c hps pk nl vl = .ok sp)
    {M : HP → Val → Prop}
    (hR : ∀ h ∈ hps, ∀ r, mkRange env c h = .ok r → ∀ v, M h v →
      ∃ xs, r.encode env c v = .ok xs ∧ xs.length = r.size ∧ r.decode env c xs = .ok v)
    (cfg : Config) (hcfg : ∀ h ∈ hps, ∃ v, lookupS h.name cfg = some v ∧ M h v) :
    ∃ xs, sp.encode env c cfg = .ok xs ∧ xs.length = sp.ndarraySize ∧
      ∃ out, sp.decode env c xs = .ok out ∧
        List.Forall₂ (fun e kv => kv.1 = e.1 ∧ lookupS e.1 cfg = some kv.2) sp.entries out := by
  obtain ⟨xs, h1, h2, out, h3, h4⟩ := roundtripAll_spec (env := env) (c := c) sp.entries cfg
    (fun e he => by
      obtain ⟨h, hm, hn, hr⟩ := (mkSpace_spec hsp).1 e he
      obtain ⟨v, hv, hrt⟩ := hcfg h hm
      exact ⟨v, hn ▸ hv, hR h hm e.2 hr v hrt⟩)
  exact ⟨xs, h1, h2, out, (space_decode_of_length h2).trans h3, h4⟩

end SyneTune.Dom
