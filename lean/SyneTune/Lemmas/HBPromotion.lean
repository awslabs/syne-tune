import SyneTune.Lemmas.HBStopping
import SyneTune.Lemmas.AssocList
import Mathlib.Data.List.Nodup
/- The promotion rung systems (C04): what `_find_promotable_trial` picks for each type, where the scan of
`on_task_schedule` stops (`promoScan_out`), and the case lemmas of `on_task_add` / `on_task_report`;
`PashaInv`, the invariant behind PASHA's cap; `RungStep`, how any rung-system operation changes a rung, and what
such steps preserve. -/
namespace SyneTune

theorem firstUnpromoted_spec {l : List Entry} {start : Nat} {e : Entry} {pos : Nat}
    (h : firstUnpromoted l start = some (e, pos)) :
    ∃ i, pos = start + i ∧ l[i]? = some e ∧ e.promoted = false ∧ ∀ j, j < i → ∀ x, l[j]? = some x → x.promoted = true := by
  induction l generalizing start with
  | nil => cases h
  | cons x xs ih =>
    unfold firstUnpromoted at h
    split at h
    · rename_i hp
      cases h
      exact ⟨0, rfl, rfl, by simpa using hp, fun _ hj => absurd hj (Nat.not_lt_zero _)⟩
    · rename_i hp
      obtain ⟨i, rfl, h2, h3, h4⟩ := ih h
      refine ⟨i + 1, by omega, h2, h3, fun j hj y hy => ?_⟩
      cases j with
      | zero => cases hy; simpa using hp
      | succ j => exact h4 j (by omega) y hy

theorem firstUnpromoted_none (l : List Entry) (start : Nat) (h : firstUnpromoted l start = none) :
    ∀ x ∈ l, x.promoted = true := by
  induction l generalizing start with
  | nil => exact nofun
  | cons x xs ih =>
    unfold firstUnpromoted at h
    split at h
    · cases h
    · rename_i hp
      exact List.forall_mem_cons.mpr ⟨by simpa using hp, ih (start + 1) h⟩

theorem rushDecide_base {m : Mode} {numThr : Nat} {thr : List (Nat × Rat)} {tc : Bool} {tid : Nat} {v : Rat}
    {resource : Nat} (h : (rushDecide m numThr thr tc tid v resource).1 = true) : tc = true := by
  unfold rushDecide at h
  cases tc with
  | false => cases h
  | true => rfl

theorem rushFirstPromotable_spec {m : Mode} {numThr level : Nat} {l : List Entry} {start : Nat}
    {thr thr' : List (Nat × Rat)} {e : Entry} {pos : Nat}
    (h : rushFirstPromotable m numThr level l start thr = (some (e, pos), thr')) :
    ∃ i, pos = start + i ∧ l[i]? = some e ∧ e.promoted = false := by
  induction l generalizing start thr with
  | nil => cases h
  | cons x xs ih =>
    unfold rushFirstPromotable at h
    dsimp only at h
    split at h
    · rename_i hd
      cases h
      exact ⟨0, rfl, rfl, by simpa using rushDecide_base hd⟩
    · obtain ⟨i, rfl, h2, h3⟩ := ih h
      exact ⟨i + 1, by omega, h2, h3⟩

theorem costFirstPromotable_spec {threshold total : Rat} {level : Nat} {hint : Option Nat} {data : List Entry}
    {pos : Nat} {acc : Rat} {e : Entry} {p : Nat} {fr : Bool}
    (h : costFirstPromotable threshold total level hint data pos acc = (some (e, p), fr)) :
    ∃ pre post, data = pre ++ e :: post ∧ p = pos + pre.length ∧ e.promoted = false ∧
      (∀ x ∈ pre, x.promoted = true) ∧
      (∀ b, cmpLe (acc + (pre.map (·.cost)).foldl (· + ·) 0 + e.cost) threshold (absRat total) = .forced b →
        acc + (pre.map (·.cost)).foldl (· + ·) 0 + e.cost ≤ threshold) := by
  induction data generalizing pos acc fr with
  | nil => cases h
  | cons x xs ih =>
    unfold costFirstPromotable at h
    dsimp only at h
    split at h
    · cases h
    · rename_i hw
      split at h
      · rename_i hp
        cases h
        refine ⟨[], xs, rfl, rfl, by simpa using hp, nofun, fun b hb => ?_⟩
        simp only [List.map_nil, List.foldl_nil, Rat.add_zero] at hb ⊢
        rw [hb] at hw
        exact (cmpLe_forced _ _ _ b hb).mp (by simpa [Cmp.resolve] using hw)
      · rename_i hp
        have h1 : (costFirstPromotable threshold total level hint xs (pos + 1) (acc + x.cost)).1 = some (e, p) :=
          congrArg Prod.fst h
        obtain ⟨pre, post, g1, g2, g3, g4, g5⟩ := ih (pos := pos + 1) (acc := acc + x.cost) (Prod.ext h1 rfl)
        refine ⟨x :: pre, post, by rw [g1]; rfl, by rw [g2, List.length_cons]; omega, g3,
          List.forall_mem_cons.mpr ⟨by simpa using hp, g4⟩, ?_⟩
        have hsum : acc + ((x :: pre).map (·.cost)).foldl (· + ·) 0
            = acc + x.cost + (pre.map (·.cost)).foldl (· + ·) 0 := by
          rw [List.map_cons, List.foldl_cons, Rat.add_comm 0, List.foldl_assoc, Rat.add_assoc]
        rw [hsum]; exact g5

theorem quantileTest_pick {m : Mode} {rg : Rung} {c : Rat} {hint : Option Nat} {cand : Option (Entry × Nat)}
    {thr : List (Nat × Rat)} {tid pos : Nat} (h : (quantileTest m rg c hint cand thr).pick = some (tid, pos)) :
    ∃ e, cand = some (e, pos) ∧ e.tid = tid := by
  unfold quantileTest at h
  split at h
  · cases h
  · split at h
    · cases h; exact ⟨_, rfl, rfl⟩
    · cases h

theorem findPromotable_pick_spec (ty : HBType) (m : Mode) (numThr : Nat) (thr : List (Nat × Rat)) (rg : Rung)
    (hint : Option Nat) (tid pos : Nat) (h : (findPromotable ty m numThr thr rg hint).pick = some (tid, pos)) :
    ∃ e, rg.data[pos]? = some e ∧ e.tid = tid ∧ e.promoted = false := by
  have hQ : ∀ rush, (findPromotableQ rush m numThr thr rg hint).pick = some (tid, pos) →
      ∃ e, rg.data[pos]? = some e ∧ e.tid = tid ∧ e.promoted = false := by
    intro rush h
    unfold findPromotableQ at h
    split at h
    · cases h
    · split at h
      · obtain ⟨e, h1, h2⟩ := quantileTest_pick h
        obtain ⟨i, rfl, g2, g3⟩ := rushFirstPromotable_spec (Prod.ext h1 rfl)
        exact ⟨e, by simpa using g2, h2, g3⟩
      · obtain ⟨e, h1, h2⟩ := quantileTest_pick h
        obtain ⟨i, rfl, g2, g3, _⟩ := firstUnpromoted_spec h1
        exact ⟨e, by simpa using g2, h2, g3⟩
  unfold findPromotable at h
  split at h
  · unfold findPromotableCost at h
    split at h
    · obtain ⟨⟨e, p⟩, hr, h1⟩ := Option.map_eq_some_iff.mp h
      cases h1
      obtain ⟨pre, post, g1, g2, g3, _⟩ := costFirstPromotable_spec (Prod.ext hr rfl)
      exact ⟨e, by rw [g1, g2]; simp, rfl, g3⟩
    · cases h
  · exact hQ _ h
  · exact hQ _ h

/-- the scan found nothing promotable in the rungs of `l` below the cap (`∃ thr`: the RUSH thresholds the scan
threads through are not tracked) -/
def NoPick (ty : HBType) (m : Mode) (numThr cap : Nat) (hint : Option Nat) (l : List Rung) : Prop :=
  ∀ p ∈ l, p.level < cap → ∃ thr, (findPromotable ty m numThr thr p hint).pick = none

section
variable {ty : HBType} {m : Mode} {numThr cap : Nat} {hint : Option Nat} {next : Nat} {thr : List (Nat × Rat)}
  {rg : Rung} {rest : List Rung}

theorem promoScan_cons_pick {tid pos : Nat} (hc : rg.level < cap)
    (hp : (findPromotable ty m numThr thr rg hint).pick = some (tid, pos)) :
    (promoScan ty m numThr cap hint next thr (rg :: rest)).rungs = markPromoted m rg pos :: rest ∧
    (promoScan ty m numThr cap hint next thr (rg :: rest)).out = some ⟨tid, rg.level, next⟩ := by
  simp only [promoScan, hc, if_true, hp, and_self]

theorem promoScan_cons_skip (hp : rg.level < cap → (findPromotable ty m numThr thr rg hint).pick = none) :
    ∃ thr1, (promoScan ty m numThr cap hint next thr (rg :: rest)).rungs
        = rg :: (promoScan ty m numThr cap hint rg.level thr1 rest).rungs ∧
      (promoScan ty m numThr cap hint next thr (rg :: rest)).out
        = (promoScan ty m numThr cap hint rg.level thr1 rest).out := by
  by_cases hc : rg.level < cap
  · simp only [promoScan, hc, if_true, hp hc]; exact ⟨_, rfl, rfl⟩
  · simp only [promoScan, hc, if_false]; exact ⟨_, rfl, rfl⟩

end

/-- Where the scan stops: it passes the rungs `pre` in which nothing is promotable (those at or above
the cap are not looked at) and stops at the first rung `rg` below the cap with a pick: that entry is marked,
the trial resumes from `rg.level` and runs to the level of the rung passed last; or it passes all rungs and
changes nothing. -/
theorem promoScan_out (ty : HBType) (m : Mode) (numThr cap : Nat) (hint : Option Nat) (next : Nat)
    (thr : List (Nat × Rat)) (rs : List Rung) :
    (∃ pre rg post thr' tid pos, rs = pre ++ rg :: post ∧ NoPick ty m numThr cap hint pre ∧ rg.level < cap ∧
        (findPromotable ty m numThr thr' rg hint).pick = some (tid, pos) ∧
        (promoScan ty m numThr cap hint next thr rs).rungs = pre ++ markPromoted m rg pos :: post ∧
        (promoScan ty m numThr cap hint next thr rs).out = some ⟨tid, rg.level, lastLevel next pre⟩) ∨
    (NoPick ty m numThr cap hint rs ∧ (promoScan ty m numThr cap hint next thr rs).rungs = rs ∧
        (promoScan ty m numThr cap hint next thr rs).out = none) := by
  induction rs generalizing next thr with
  | nil => exact .inr ⟨nofun, rfl, rfl⟩
  | cons rg rest ih =>
    by_cases hp : rg.level < cap → (findPromotable ty m numThr thr rg hint).pick = none
    · obtain ⟨thr1, e1, e2⟩ := promoScan_cons_skip (next := next) (rest := rest) hp
      have hrg : ∀ {l}, NoPick ty m numThr cap hint l → NoPick ty m numThr cap hint (rg :: l) :=
        fun hn => List.forall_mem_cons.mpr ⟨fun hlt => ⟨thr, hp hlt⟩, hn⟩
      rw [e1, e2]
      rcases ih rg.level thr1 with ⟨pre, rg', post, thr', tid, pos, rfl, hn, hlt, hpk, hr, ho⟩ | ⟨hn, hr, ho⟩
      · exact .inl ⟨rg :: pre, rg', post, thr', tid, pos, rfl, hrg hn, hlt, hpk, congrArg (rg :: ·) hr, ho⟩
      · exact .inr ⟨hrg hn, congrArg (rg :: ·) hr, ho⟩
    · obtain ⟨hc, hne⟩ := Classical.not_imp.mp hp
      obtain ⟨⟨tid, pos⟩, hpk⟩ := Option.ne_none_iff_exists'.mp hne
      obtain ⟨e1, e2⟩ := promoScan_cons_pick (next := next) (rest := rest) hc hpk
      exact .inl ⟨[], rg, rest, thr, tid, pos, rfl, nofun, hc, hpk, e1, e2⟩

theorem promoScan_some (ty : HBType) (m : Mode) (numThr cap : Nat) (hint : Option Nat) (next : Nat)
    (thr : List (Nat × Rat)) (rs : List Rung) (o : SchedOut)
    (h : (promoScan ty m numThr cap hint next thr rs).out = some o) :
    ∃ pre rg post thr' pos, rs = pre ++ rg :: post ∧ NoPick ty m numThr cap hint pre ∧ rg.level < cap ∧
      (findPromotable ty m numThr thr' rg hint).pick = some (o.trial, pos) ∧
      (promoScan ty m numThr cap hint next thr rs).rungs = pre ++ markPromoted m rg pos :: post ∧
      rg.level = o.resumeFrom ∧ o.milestone = lastLevel next pre := by
  rcases promoScan_out ty m numThr cap hint next thr rs with ⟨pre, rg, post, thr', tid, pos, h1, h2, h3, h4, h5, h6⟩ | ⟨_, _, h6⟩
  · cases h6.symm.trans h
    exact ⟨pre, rg, post, thr', pos, h1, h2, h3, h4, h5, rfl, rfl⟩
  · cases h6.symm.trans h

theorem promoScan_none {ty : HBType} {m : Mode} {numThr cap : Nat} {hint : Option Nat} {next : Nat}
    {thr : List (Nat × Rat)} {rs : List Rung} (h : (promoScan ty m numThr cap hint next thr rs).out = none) :
    NoPick ty m numThr cap hint rs ∧ (promoScan ty m numThr cap hint next thr rs).rungs = rs := by
  rcases promoScan_out ty m numThr cap hint next thr rs with ⟨_, _, _, _, _, _, _, _, _, _, _, h6⟩ | ⟨h1, h2, _⟩
  · cases h6.symm.trans h
  · exact ⟨h1, h2⟩

/-- `_find_promotable_trial` of `PromotionRungSystem` (ASHA, PASHA): the pick does not involve thresholds. -/
def plainPick (m : Mode) (rg : Rung) (hint : Option Nat) : Option (Nat × Nat) :=
  match rg.cutoff m with
  | none => none
  | some c =>
    match firstUnpromoted rg.data 0 with
    | none => none
    | some (e, pos) =>
      if (cmpNoWorse m e.val c rg.scale).resolve (hint == some rg.level) then some (e.tid, pos) else none

/-- the types whose `_find_promotable_trial` is the quantile rule alone (ASHA promotion, PASHA) -/
def HBType.plain (ty : HBType) : Prop := ty = .promotion ∨ ty = .pasha

theorem findPromotable_plain (ty : HBType) (hty : ty.plain) (m : Mode) (numThr : Nat)
    (thr : List (Nat × Rat)) (rg : Rung) (hint : Option Nat) :
    (findPromotable ty m numThr thr rg hint).pick = plainPick m rg hint ∧
    (findPromotable ty m numThr thr rg hint).thr = thr := by
  have key : (findPromotableQ false m numThr thr rg hint).pick = plainPick m rg hint ∧
      (findPromotableQ false m numThr thr rg hint).thr = thr := by
    unfold findPromotableQ plainPick
    cases rg.cutoff m with
    | none => exact ⟨rfl, rfl⟩
    | some c =>
      simp only [Bool.false_eq_true, if_false]
      unfold quantileTest
      cases firstUnpromoted rg.data 0 with
      | none => exact ⟨rfl, rfl⟩
      | some ep => dsimp only; split <;> exact ⟨rfl, rfl⟩
  rcases hty with rfl | rfl <;> exact key

theorem NoPick.plain {ty : HBType} (hty : ty.plain) {m : Mode} {numThr cap : Nat} {hint : Option Nat} {l : List Rung}
    (h : NoPick ty m numThr cap hint l) : ∀ p ∈ l, p.level < cap → plainPick m p hint = none :=
  fun p hp hlt => (h p hp hlt).elim fun thr hn => (findPromotable_plain ty hty m numThr thr p hint).1 ▸ hn

theorem plainPick_some {m : Mode} {rg : Rung} {hint : Option Nat} {tid pos : Nat}
    (h : plainPick m rg hint = some (tid, pos)) :
    ∃ c e, rg.cutoff m = some c ∧ rg.data[pos]? = some e ∧ e.tid = tid ∧ e.promoted = false ∧
      (∀ i, i < pos → ∀ x, rg.data[i]? = some x → x.promoted = true) ∧
      (∀ b, cmpNoWorse m e.val c rg.scale = .forced b → m.noWorse e.val c) := by
  unfold plainPick at h
  split at h
  · cases h
  · rename_i c hc
    split at h
    · cases h
    · rename_i e p hf
      split at h
      · rename_i hres
        cases h
        obtain ⟨i, rfl, g2, g3, g4⟩ := firstUnpromoted_spec hf
        rw [Nat.zero_add]
        exact ⟨c, e, hc, g2, rfl, g3, g4, fun b hb =>
          (cmpNoWorse_forced m e.val c rg.scale b hb).mp (by rw [hb] at hres; exact hres)⟩
      · cases h

theorem plainPick_none {m : Mode} {rg : Rung} {hint : Option Nat} (h : plainPick m rg hint = none) :
    rg.cutoff m = none ∨ (∀ x ∈ rg.data, x.promoted = true) ∨
    ∃ c e pos, rg.cutoff m = some c ∧ firstUnpromoted rg.data 0 = some (e, pos) ∧
      (∀ b, cmpNoWorse m e.val c rg.scale = .forced b → ¬ m.noWorse e.val c) := by
  unfold plainPick at h
  split at h
  · rename_i hc; exact .inl hc
  · rename_i c hc
    split at h
    · rename_i hf; exact .inr (.inl (firstUnpromoted_none _ _ hf))
    · rename_i e p hf
      split at h
      · cases h
      · rename_i hres
        refine .inr (.inr ⟨c, e, p, hc, hf, fun b hb hnw => ?_⟩)
        rw [hb, (cmpNoWorse_forced m e.val c rg.scale b hb).mpr hnw] at hres
        exact hres rfl

theorem firstMilestone_eq (sys : RungSys) (skip : Nat) :
    sys.firstMilestone skip = sys.firstOfList skip sys.maxT := by
  unfold RungSys.firstMilestone RungSys.firstOfList RungSys.milestones milestoneRungs
  by_cases h : skip < sys.rungs.length
  · simp only [h, if_true]
    have hlen : (sys.rungs.take (sys.rungs.length - skip)).length = sys.rungs.length - skip := by
      simp
    have hne : sys.rungs.length - skip ≠ 0 := by omega
    rw [List.getLast?_eq_getElem?, List.length_map, hlen, List.getElem?_map, List.getElem?_take]
    have h1 : sys.rungs.length - (skip + 1) < sys.rungs.length - skip := by omega
    have h2 : sys.rungs.length - skip - 1 = sys.rungs.length - (skip + 1) := by omega
    simp only [h2, h1, if_true]
    cases sys.rungs[sys.rungs.length - (skip + 1)]? <;> rfl
  · simp only [h, if_false]
    have : sys.rungs.length - skip = 0 := by omega
    simp [this]

theorem mem_milestones {sys : RungSys} {skip x : Nat} (h : x ∈ sys.milestones skip) :
    ∃ rg ∈ sys.rungs, rg.level = x := by
  simp only [RungSys.milestones, milestoneRungs, List.mem_map] at h
  obtain ⟨rg, h1, h2⟩ := h
  exact ⟨rg, List.mem_of_mem_take h1, h2⟩

theorem milestones_decr {sys : RungSys} (hd : RungsDecr sys.rungs) (skip : Nat) :
    (sys.milestones skip).Pairwise (fun a b => b < a) := by
  simp only [RungSys.milestones, milestoneRungs, List.pairwise_map]
  exact hd.sublist (List.take_sublist _ _)

theorem RungSys.taskAdd_ok {s s' : RungSys} {pr : Bool} {tid skip : Nat} {resume : Option (Nat × Nat)}
    (h : s.taskAdd pr tid skip resume = .ok s') :
    (pr = false ∧ s' = s) ∨
    (pr = true ∧ ∃ ms rf, s' = { s with running := aset tid (ms, rf) s.running } ∧ (∀ f, rf = some f → f < ms) ∧
      (resume = none → ms = s.firstMilestone skip ∧ rf = none) ∧
      (∀ mr, resume = some mr → ms = mr.1 ∧ rf = some mr.2)) := by
  unfold RungSys.taskAdd at h
  split at h
  · rename_i hpr
    refine .inr ⟨hpr, ?_⟩
    split at h
    · cases h; exact ⟨_, none, rfl, nofun, fun _ => ⟨rfl, rfl⟩, nofun⟩
    · split at h
      · cases h
      · rename_i hlt
        cases h
        exact ⟨_, _, rfl, fun f hf => by cases hf; exact not_not.mp hlt, nofun, fun _ hmr => by cases hmr; exact ⟨rfl, rfl⟩⟩
  · rename_i hpr
    cases h; exact .inl ⟨Bool.not_eq_true _ ▸ hpr, rfl⟩

theorem RungSys.promoReport_ok {s s' : RungSys} {m : Mode} {tid r : Nat} {v cost : Rat} {o : RepOut}
    (h : s.promoReport m tid r v cost = .ok (s', o)) :
    ∃ ms rf, alookup tid s.running = some (ms, rf) ∧
      ((r < ms ∧ s' = s ∧ o = { continues := true, reached := false, next := none, ignoreData := ignoreOf rf r }) ∨
       (r = ms ∧ s.promoReached m tid v cost ms (ignoreOf rf r) = .ok (s', o))) := by
  unfold RungSys.promoReport at h
  split at h
  · cases h
  · rename_i mr hmr
    refine ⟨mr.1, mr.2, hmr, ?_⟩
    split at h
    · split at h
      · cases h
      · rename_i heq
        exact .inr ⟨not_not.mp heq, h⟩
    · rename_i hlt
      cases h; exact .inl ⟨Nat.lt_of_not_le hlt, rfl, rfl⟩

/-- PASHA's report is the promotion report followed by an update of `epsilon` and, when the ranking of the
top rungs is not stable, a step of `current_rung_idx` / `current_max_t` -/
theorem RungSys.pashaReport_cases {s s' : RungSys} {m : Mode} {tid r : Nat} {v eps : Rat} {o : RepOut}
    (h : s.pashaReport m tid r v eps = .ok (s', o)) :
    ∃ s1, s.promoReport m tid r v = .ok (s1, o) ∧
      (s' = { s1 with epsilon := eps } ∨
       (s1.rungs.length ≤ s1.curIdx ∧ s' = { s1 with epsilon := eps, curMaxT := s1.maxT }) ∨
       (∃ l, s1.curIdx < s1.rungs.length ∧ s1.levelsAsc[s1.curIdx]? = some l ∧
          s' = { s1 with epsilon := eps, curIdx := s1.curIdx + 1, curMaxT := l })) := by
  unfold RungSys.pashaReport at h
  split at h
  · cases h
  · rename_i res hres
    refine ⟨res.1, ?_⟩
    dsimp only at h
    split at h
    · cases h
    · split at h
      · split at h
        · rename_i hlt
          split at h
          · cases h
          · rename_i l hl
            cases h; exact ⟨hres, .inr (.inr ⟨l, hlt, hl, rfl⟩)⟩
        · rename_i hlt
          cases h; exact ⟨hres, .inr (.inl ⟨Nat.le_of_not_lt hlt, rfl⟩)⟩
      · cases h; exact ⟨hres, .inl rfl⟩

theorem rungPos_some (rs : List Rung) (l i : Nat) (h : rungPos rs l = some i) :
    ∃ rg, rs[i]? = some rg ∧ rg.level = l ∧ ∀ j rg', j < i → rs[j]? = some rg' → rg'.level ≠ l := by
  unfold rungPos at h
  rw [List.findIdx?_eq_some_iff_getElem] at h
  obtain ⟨hi, h1, h2⟩ := h
  refine ⟨rs[i], by simp [hi], by simpa using h1, ?_⟩
  intro j rg' hj hget
  have hjl : j < rs.length := by omega
  have := h2 j hj
  rw [List.getElem?_eq_getElem hjl] at hget
  injection hget with hget
  subst hget
  simpa using this

theorem rungPos_cons (rg : Rung) (rest : List Rung) (l : Nat) :
    rungPos (rg :: rest) l = if rg.level = l then some 0 else (rungPos rest l).map (· + 1) := by
  unfold rungPos
  rw [List.findIdx?_cons]
  by_cases h : rg.level = l <;> simp [h]

theorem nextAbove_cons_succ (rg : Rung) (rest : List Rung) (j next : Nat) (hj : j < rest.length) :
    nextAbove (rg :: rest) (j + 1) next = nextAbove rest j rg.level := by
  unfold nextAbove
  cases j with
  | zero => simp
  | succ k =>
    have hk : k < rest.length := by omega
    simp [List.getElem?_eq_getElem hk]

theorem nextAbove_mem (rs : List Rung) (i next : Nat) :
    nextAbove rs i next = next ∨ ∃ rg ∈ rs, rg.level = nextAbove rs i next := by
  unfold nextAbove
  split
  · cases h : rs[i - 1]? with
    | none => exact .inl rfl
    | some u => exact .inr ⟨u, List.mem_of_getElem? h, rfl⟩
  · exact .inl rfl

theorem decomp_nextAbove (next : Nat) (pre post : List Rung) (rg : Rung) (hd : RungsDecr (pre ++ rg :: post)) :
    rungPos (pre ++ rg :: post) rg.level = some pre.length ∧
    nextAbove (pre ++ rg :: post) pre.length next = lastLevel next pre := by
  induction pre generalizing next with
  | nil => exact ⟨by rw [List.nil_append, rungPos_cons, if_pos rfl]; rfl, rfl⟩
  | cons p ps ih =>
    obtain ⟨hp, hd'⟩ := List.pairwise_cons.mp hd
    obtain ⟨i1, i2⟩ := ih p.level hd'
    have hne : p.level ≠ rg.level := Nat.ne_of_gt (hp rg (List.mem_append_right _ (List.mem_cons_self ..)))
    refine ⟨by rw [List.cons_append, rungPos_cons, if_neg hne, i1]; rfl, ?_⟩
    rw [List.cons_append, List.length_cons, nextAbove_cons_succ p _ ps.length next (by simp), i2]
    rfl

theorem promoReached_spec {s s' : RungSys} {m : Mode} {tid : Nat} {v cost : Rat} {ms : Nat}
    {ig : Bool} {o : RepOut} (h : s.promoReached m tid v cost ms ig = .ok (s', o)) :
    (o.continues = false ∧ o.reached = true) ∧ o.ignoreData = ig ∧
    (s' = s ∨ ∃ pos rg, s.rungs[pos]? = some rg ∧ rg.level = ms ∧ rg.contains tid = false ∧
        s' = { s with rungs := s.rungs.set pos (rg.add m { tid := tid, val := v, cost := cost }) } ∧
        o.next = some (nextAbove s.rungs pos s.maxT)) := by
  unfold RungSys.promoReached at h
  split at h
  · cases h; exact ⟨⟨rfl, rfl⟩, rfl, .inl rfl⟩
  · rename_i pos hp
    split at h
    · cases h
    · rename_i rg hr
      split at h
      · cases h
      · rename_i hc
        cases h
        refine ⟨⟨rfl, rfl⟩, rfl, .inr ⟨pos, rg, hr, ?_, Bool.not_eq_true _ ▸ hc, rfl, rfl⟩⟩
        obtain ⟨rg0, g1, g2, _⟩ := rungPos_some s.rungs ms pos hp
        cases hr.symm.trans g1
        exact g2

theorem markPromoted_perm (m : Mode) (rg : Rung) (pos : Nat) (e : Entry) (h : rg.data[pos]? = some e) :
    (markPromoted m rg pos).data.Perm ({ e with promoted := true } :: rg.data.eraseIdx pos) := by
  unfold markPromoted
  simp only [h]
  exact insertEntry_perm m _ _

theorem markPromoted_level (m : Mode) (rg : Rung) (pos : Nat) : (markPromoted m rg pos).level = rg.level := by
  unfold markPromoted; split <;> rfl

theorem markPromoted_q (m : Mode) (rg : Rung) (pos : Nat) : (markPromoted m rg pos).q = rg.q := by
  unfold markPromoted; split <;> rfl

/-- trial `t` is recorded as promoted in rung `rg` -/
def PromotedIn (rg : Rung) (t : Nat) : Prop := ∃ e ∈ rg.data, e.tid = t ∧ e.promoted = true

theorem markPromoted_promotedIn (m : Mode) (rg : Rung) (pos : Nat) (e : Entry)
    (h : rg.data[pos]? = some e) : PromotedIn (markPromoted m rg pos) e.tid := by
  have hp := markPromoted_perm m rg pos e h
  exact ⟨{ e with promoted := true }, hp.mem_iff.mpr (by simp), rfl, rfl⟩

theorem markPromoted_keeps (m : Mode) (rg : Rung) (pos : Nat) (t : Nat) (h : PromotedIn rg t) :
    PromotedIn (markPromoted m rg pos) t := by
  cases hp : rg.data[pos]? with
  | none => unfold markPromoted; simp [hp]; exact h
  | some e =>
    have hperm := markPromoted_perm m rg pos e hp
    obtain ⟨x, hx, hx1, hx2⟩ := h
    have hx' : x ∈ e :: rg.data.eraseIdx pos := (perm_cons_eraseIdx hp).mem_iff.mpr hx
    rcases List.mem_cons.mp hx' with rfl | hx'
    · exact ⟨{ x with promoted := true }, hperm.mem_iff.mpr (by simp), hx1, rfl⟩
    · exact ⟨x, hperm.mem_iff.mpr (List.mem_cons_of_mem _ hx'), hx1, hx2⟩

theorem markPromoted_tids (m : Mode) (rg : Rung) (pos : Nat) :
    ((markPromoted m rg pos).data.map (·.tid)).Perm (rg.data.map (·.tid)) := by
  cases hp : rg.data[pos]? with
  | none => unfold markPromoted; simp [hp]
  | some e =>
    have hperm := markPromoted_perm m rg pos e hp
    have h1 := hperm.map (·.tid)
    have h2 := (perm_cons_eraseIdx hp).map (·.tid)
    exact h1.trans (by simpa using h2)

theorem plainPick_not_promoted (m : Mode) (rg : Rung) (hint : Option Nat) (t pos : Nat)
    (hnd : (rg.data.map (·.tid)).Nodup) (hp : PromotedIn rg t) :
    plainPick m rg hint ≠ some (t, pos) := by
  intro h
  obtain ⟨c, e, _, g2, g3, g4, _, _⟩ := plainPick_some h
  obtain ⟨x, hx, hx1, hx2⟩ := hp
  have he : e ∈ rg.data := List.mem_of_getElem? g2
  have : x = e := by
    have hinj := List.inj_on_of_nodup_map hnd
    exact hinj hx he (by rw [hx1, g3])
  subst this
  rw [g4] at hx2; cases hx2

theorem add_keeps_promoted (m : Mode) (rg : Rung) (e : Entry) (t : Nat) (h : PromotedIn rg t) :
    PromotedIn (rg.add m e) t := by
  obtain ⟨x, hx, hx1, hx2⟩ := h
  exact ⟨x, (insertEntry_mem m e x rg.data).mpr (Or.inr hx), hx1, hx2⟩

/-- invariant tying `current_max_t` to `current_rung_idx`: the cap is `max_t` only once the
index has run past all rungs; otherwise it is the rung level `rung_levels[idx - 1]`
(`idx = 0` happens only with a single rung level, Python's `rung_levels[-1]`). -/
def PashaInv (s : RungSys) : Prop :=
  s.levelsAsc.Pairwise (· < ·) ∧ (∀ l ∈ s.levelsAsc, l < s.maxT) ∧
  s.rungs.length = s.levelsAsc.length ∧
  ((s.curMaxT = s.maxT ∧ s.rungs.length ≤ s.curIdx) ∨
   (1 ≤ s.curIdx ∧ s.levelsAsc[s.curIdx - 1]? = some s.curMaxT) ∨
   (s.curIdx = 0 ∧ s.levelsAsc = [s.curMaxT]))

theorem promoReport_pasha_fields (s s' : RungSys) (m : Mode) (tid r : Nat) (v cost : Rat) (o : RepOut)
    (h : s.promoReport m tid r v cost = .ok (s', o)) :
    s'.levelsAsc = s.levelsAsc ∧ s'.maxT = s.maxT ∧ s'.curIdx = s.curIdx ∧ s'.curMaxT = s.curMaxT ∧
    s'.rungs.length = s.rungs.length := by
  obtain ⟨ms, _, _, ⟨_, rfl, _⟩ | ⟨_, hreach⟩⟩ := RungSys.promoReport_ok h
  · exact ⟨rfl, rfl, rfl, rfl, rfl⟩
  · obtain ⟨_, _, rfl | ⟨pos, rg, _, _, _, rfl, _⟩⟩ := promoReached_spec hreach
    · exact ⟨rfl, rfl, rfl, rfl, rfl⟩
    · exact ⟨rfl, rfl, rfl, rfl, List.length_set⟩

/-- one step relation between a rung before and after any rung-system operation: unchanged,
one entry marked as promoted, or one new entry (of a trial not yet in the rung) added. -/
inductive RungStep (m : Mode) : Rung → Rung → Prop
  | same (a : Rung) : RungStep m a a
  | mark (a : Rung) (pos : Nat) : RungStep m a (markPromoted m a pos)
  | add (a : Rung) (e : Entry) (h : a.contains e.tid = false) : RungStep m a (a.add m e)

theorem RungStep.level {m : Mode} {a b : Rung} (h : RungStep m a b) : b.level = a.level := by
  cases h with
  | same => rfl
  | mark pos => exact markPromoted_level m a pos
  | add e _ => rfl

theorem RungStep.q {m : Mode} {a b : Rung} (h : RungStep m a b) : b.q = a.q := by
  cases h with
  | same => rfl
  | mark pos => exact markPromoted_q m a pos
  | add e _ => rfl

theorem RungStep.nodup {m : Mode} {a b : Rung} (h : RungStep m a b)
    (hn : (a.data.map (·.tid)).Nodup) : (b.data.map (·.tid)).Nodup := by
  cases h with
  | same => exact hn
  | mark pos => exact ((markPromoted_tids m a pos).nodup_iff).mpr hn
  | add e hc => exact insertEntry_tids_nodup m e a.data hn (not_mem_of_contains hc)

theorem RungStep.promoted {m : Mode} {a b : Rung} (h : RungStep m a b) (t : Nat)
    (hp : PromotedIn a t) : PromotedIn b t := by
  cases h with
  | same => exact hp
  | mark pos => exact markPromoted_keeps m a pos t hp
  | add e _ => exact add_keeps_promoted m a e t hp

abbrev RungSteps (m : Mode) (rs rs' : List Rung) : Prop := List.Forall₂ (RungStep m) rs rs'

theorem RungSteps.refl (m : Mode) (rs : List Rung) : RungSteps m rs rs :=
  List.forall₂_same.mpr fun x _ => RungStep.same x

theorem RungSteps.const {m : Mode} {rs rs' : List Rung} (h : RungSteps m rs rs') :
    (rs'.map fun rg => (rg.level, rg.q)) = rs.map fun rg => (rg.level, rg.q) := by
  induction h with
  | nil => rfl
  | cons hab _ ih => exact congrArg₂ List.cons (Prod.ext hab.level hab.q) ih

theorem RungSteps.levels {m : Mode} {rs rs' : List Rung} (h : RungSteps m rs rs') :
    rs'.map (·.level) = rs.map (·.level) := by
  simpa [List.map_map, Function.comp_def] using congrArg (List.map Prod.fst) h.const

/-- invariant: every trial occurs at most once per rung -/
def AllNodup (rs : List Rung) : Prop := ∀ rg ∈ rs, (rg.data.map (·.tid)).Nodup

/-- trial `t` is recorded as promoted from the rung of level `level` -/
def PromotedAt (rs : List Rung) (level t : Nat) : Prop := ∃ rg ∈ rs, rg.level = level ∧ PromotedIn rg t

theorem RungSteps.preserve {m : Mode} {rs rs' : List Rung} (h : RungSteps m rs rs') :
    (AllNodup rs → AllNodup rs') ∧ (∀ level t, PromotedAt rs level t → PromotedAt rs' level t) := by
  induction h with
  | nil => exact ⟨fun h => h, fun _ _ h => h⟩
  | @cons a b l1 l2 hab _ ih =>
    obtain ⟨i1, i2⟩ := ih
    refine ⟨?_, ?_⟩
    · intro hn x hx
      rcases List.mem_cons.mp hx with rfl | hx
      · exact hab.nodup (hn a (by simp))
      · exact i1 (fun y hy => hn y (List.mem_cons_of_mem _ hy)) x hx
    · intro level t ⟨rg, hrg, hl, hp⟩
      rcases List.mem_cons.mp hrg with rfl | hrg
      · exact ⟨b, by simp, by rw [hab.level]; exact hl, hab.promoted t hp⟩
      · obtain ⟨rg', h1, h2, h3⟩ := i2 level t ⟨rg, hrg, hl, hp⟩
        exact ⟨rg', List.mem_cons_of_mem _ h1, h2, h3⟩

theorem RungSteps.foldl_preserve {σ Op : Type} {m : Mode} (rungs : σ → List Rung) (step : σ → Op → σ)
    (hstep : ∀ s op, RungSteps m (rungs s) (rungs (step s op))) (s : σ) (ops : List Op) :
    (AllNodup (rungs s) → AllNodup (rungs (ops.foldl step s))) ∧
    (∀ level t, PromotedAt (rungs s) level t → PromotedAt (rungs (ops.foldl step s)) level t) ∧
    (rungs (ops.foldl step s)).map (·.level) = (rungs s).map (·.level) := by
  induction ops generalizing s with
  | nil => exact ⟨fun h => h, fun _ _ h => h, rfl⟩
  | cons op ops ih =>
    obtain ⟨a1, a2⟩ := (hstep s op).preserve
    obtain ⟨b1, b2, b3⟩ := ih (step s op)
    exact ⟨fun h => b1 (a1 h), fun l t h => b2 l t (a2 l t h), b3.trans (hstep s op).levels⟩

theorem RungsDecr.of_levels_eq {rs rs' : List Rung} (h : rs'.map (·.level) = rs.map (·.level)) (hd : RungsDecr rs) :
    RungsDecr rs' :=
  List.pairwise_map.mp (h ▸ List.pairwise_map.mpr hd : (rs'.map (·.level)).Pairwise (fun a b => b < a))

theorem decr_level_inj (l : List Rung) (h : RungsDecr l)
    (x y : Rung) (hx : x ∈ l) (hy : y ∈ l) (he : x.level = y.level) : x = y :=
  List.inj_on_of_nodup_map (f := (·.level)) (List.pairwise_map.mpr (h.imp fun hab => Nat.ne_of_gt hab)) hx hy he

end SyneTune
