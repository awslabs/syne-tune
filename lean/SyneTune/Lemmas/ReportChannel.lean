import SyneTune.Model.ReportChannel
/-
Helper lemmas for C18 (report channel), reader side: one match attempt of the regular
expression looks at the current line only; `scan` therefore treats a text line by line,
skips text in which no occurrence of the marker begins, and takes a report line whole.
Then `readlines` / `"\n".join` and the universal-newline translation of the read path
(`retrieve_readlines`, `univAux_*`), the soundness of the Booleans the driver prints (`markerOK_of_B`,
`payloadOK_of_B`), and the two results `Props/C18.lean` cites: `findall_streamText`,
`findall_univAux_streamText`.
-/
namespace SyneTune.Report

theorem prefix_of_not_mem {p u b : List Char} {ch : Char} (hc : ch ∉ p) (h : p <+: u ++ ch :: b) :
    p <+: u := by
  by_cases hl : p.length ≤ u.length
  · exact List.prefix_of_prefix_length_le h (List.prefix_append _ _) hl
  · have h1 : u ++ [ch] <+: u ++ ch :: b := ⟨b, by simp⟩
    obtain ⟨t, rfl⟩ := List.prefix_of_prefix_length_le h1 h (by rw [List.length_append]; exact Nat.lt_of_not_le hl)
    simp at hc

theorem infix_split_of_not_mem {p : List Char} {ch : Char} (hc : ch ∉ p) (a b : List Char)
    (h : p <:+: a ++ ch :: b) : p <:+: a ∨ p <:+: b := by
  induction a with
  | nil => exact (List.infix_cons_iff.mp h).imp_left fun h => (prefix_of_not_mem (u := []) hc h).isInfix
  | cons x a ih =>
    rcases List.infix_cons_iff.mp h with h | h
    · exact Or.inl (prefix_of_not_mem (u := x :: a) hc h).isInfix
    · exact (ih h).imp_left (List.infix_append_of_infix_right (l₂ := [x]))

theorem uptoLastClose_append_close (mid : List Char) :
    uptoLastClose (mid ++ ['}']) = some (mid ++ ['}']) := by
  induction mid with
  | nil => simp [uptoLastClose]
  | cons c cs ih => simp [uptoLastClose, ih]

theorem uptoLastClose_length {l p : List Char} (h : uptoLastClose l = some p) :
    0 < p.length ∧ p.length ≤ l.length := by
  induction l generalizing p with
  | nil => cases h
  | cons c cs ih =>
    rw [uptoLastClose] at h
    cases hc : uptoLastClose cs with
    | some q => rw [hc] at h; cases h; exact ⟨Nat.succ_pos _, Nat.succ_le_succ (ih hc).2⟩
    | none =>
      rw [hc] at h
      by_cases h1 : c = '}' <;> simp [h1] at h
      subst h; simp

theorem restOfLine_append_nl (y b : List Char) : restOfLine (y ++ '\n' :: b) = restOfLine y := by
  induction y with
  | nil => simp [restOfLine]
  | cons c cs ih => simp only [restOfLine, List.cons_append, List.takeWhile_cons] at ih ⊢; rw [ih]

theorem restOfLine_of_no_nl {y : List Char} (h : '\n' ∉ y) : restOfLine y = y := by
  have := List.takeWhile_append_of_pos (p := fun c => c != '\n') (l₁ := y) (l₂ := [])
    fun c hc => by simp only [bne_iff_ne, ne_eq]; rintro rfl; exact h hc
  simpa [restOfLine] using this

theorem groupOf_length {pre y g : List Char} {len : Nat} (h : groupOf pre y = some (g, len)) :
    1 ≤ len ∧ len ≤ pre.length + y.length := by
  unfold groupOf at h
  cases hu : uptoLastClose (restOfLine y) with
  | none => rw [hu] at h; cases h
  | some q =>
    rw [hu] at h; cases h
    have hq := uptoLastClose_length hu
    exact ⟨Nat.le_trans hq.1 (Nat.le_add_left _ _), Nat.add_le_add_left
      (Nat.le_trans hq.2 (List.takeWhile_sublist (l := y) fun c => c != '\n').length_le) _⟩

theorem matchAt_append (pre y : List Char) : matchAt pre (pre ++ y) = groupOf pre y := by
  simp [matchAt]

theorem matchAt_none_of_not_prefix {pre s : List Char} (h : ¬ pre <+: s) : matchAt pre s = none := by
  simp [matchAt, h]

theorem matchAt_prefix {pre s g : List Char} {len : Nat} (h : matchAt pre s = some (g, len)) :
    pre <+: s := by
  refine Classical.not_not.mp fun hp => ?_
  rw [matchAt_none_of_not_prefix hp] at h; cases h

theorem matchAt_append_nl {pre : List Char} (hnl : '\n' ∉ pre) (x b : List Char) :
    matchAt pre (x ++ '\n' :: b) = matchAt pre x := by
  by_cases hp : pre <+: x
  · obtain ⟨y, rfl⟩ := hp
    rw [List.append_assoc, matchAt_append, matchAt_append, groupOf, groupOf, restOfLine_append_nl]
  · rw [matchAt_none_of_not_prefix hp, matchAt_none_of_not_prefix fun h => hp (prefix_of_not_mem hnl h)]

theorem matchAt_length {pre s g : List Char} {len : Nat} (h : matchAt pre s = some (g, len)) :
    1 ≤ len ∧ len ≤ s.length := by
  obtain ⟨y, rfl⟩ := matchAt_prefix h
  simpa using groupOf_length (matchAt_append pre y ▸ h)

theorem scan_nl {pre : List Char} (hnl : '\n' ∉ pre) (b : List Char) :
    scan pre 0 ('\n' :: b) = scan pre 0 b := by
  have : matchAt pre ('\n' :: b) = none := by
    by_cases hp : pre <+: '\n' :: b
    · -- only the empty pattern is a prefix, and it finds no `'}'` on the empty line
      obtain rfl := List.prefix_nil.mp (prefix_of_not_mem (u := []) hnl hp)
      rfl
    · exact matchAt_none_of_not_prefix hp
  simp only [scan, this]

/-- matches never cross a line break -/
theorem scan_append_nl {pre : List Char} (hnl : '\n' ∉ pre) :
    ∀ (a : List Char) (n : Nat) (b : List Char), n ≤ a.length →
      scan pre n (a ++ '\n' :: b) = scan pre n a ++ scan pre 0 b := by
  intro a
  induction a with
  | nil =>
    intro n b hn
    obtain rfl : n = 0 := by simpa using hn
    simp [scan_nl hnl, scan]
  | cons c a ih =>
    intro n b hn
    cases n with
    | succ n =>
      simp only [List.cons_append, scan]
      exact ih n b (by simpa using hn)
    | zero =>
      simp only [List.cons_append, scan]
      rw [← List.cons_append, matchAt_append_nl hnl (c :: a) b]
      cases h : matchAt pre (c :: a) with
      | none => exact ih 0 b (Nat.zero_le _)
      | some gl =>
        have := (matchAt_length h).2
        simp only [List.length_cons] at this
        simp only [List.cons_append, ih (gl.2 - 1) b (Nat.sub_le_of_le_add this)]

theorem scan_skip (pre : List Char) (a b : List Char) :
    scan pre a.length (a ++ b) = scan pre 0 b := by
  induction a with
  | nil => simp
  | cons c cs ih => simp [scan, ih]

theorem scan_skip_nil (pre : List Char) (n : Nat) (a : List Char) (h : a.length ≤ n) :
    scan pre n a = [] := by
  induction a generalizing n with
  | nil => simp [scan]
  | cons c cs ih =>
    cases n with
    | zero => simp at h
    | succ n => simp only [scan]; exact ih n (by simpa using h)

theorem scan_of_match {pre s g : List Char} {len : Nat} (h : matchAt pre s = some (g, len)) :
    scan pre 0 s = g :: scan pre len s := by
  obtain ⟨h1, h2⟩ := matchAt_length h
  cases s with
  | nil => exact absurd (Nat.le_trans h1 h2) (Nat.not_succ_le_zero 0)
  | cons c cs =>
    obtain ⟨k, rfl⟩ := Nat.exists_eq_add_of_lt h1
    simp only [scan, h, Nat.add_sub_cancel]

/-- text in which no occurrence of the pattern begins is passed over without a match -/
theorem scan_unmatched {p : List Char} (n y : List Char)
    (h : ∀ s, s ≠ [] → s <:+ n → ¬ p <+: s ++ y) : scan p 0 (n ++ y) = scan p 0 y := by
  induction n with
  | nil => rfl
  | cons c cs ih =>
    have hno := matchAt_none_of_not_prefix (h (c :: cs) (by simp) (List.suffix_refl _))
    simp only [List.cons_append] at hno ⊢
    simp only [scan, hno]
    exact ih fun s hs hsuf => h s hs (hsuf.trans (List.suffix_cons c cs))

theorem noBorder_of_B {p : List Char} (h : noBorderB p = true) : NoBorder p := by
  intro m hm0 hm hpre
  have := List.all_eq_true.mp h m (List.mem_range.mpr hm)
  simp [Nat.ne_of_gt hm0, List.isPrefixOf_iff_prefix.mpr hpre] at this

/-- an occurrence of `p` that starts inside a `p`-free text `n2 ≠ []` (a suffix of the
noise) and runs into a following copy of `p` would be a self-overlap of `p`. -/
theorem no_early_match {p : List Char} (hb : NoBorder p) (n2 x : List Char) (hne : n2 ≠ [])
    (hfree : ¬ p <:+: n2) : ¬ p <+: n2 ++ (p ++ x) := by
  intro hpre
  have h1 : n2 <+: n2 ++ (p ++ x) := List.prefix_append _ _
  by_cases hlen : p.length ≤ n2.length
  · exact hfree (List.prefix_of_prefix_length_le hpre h1 hlen).isInfix
  · -- `p = n2 ++ q`, and `q` is a prefix of `p ++ x`, hence of `p`
    obtain ⟨q, rfl⟩ := List.prefix_of_prefix_length_le h1 hpre (Nat.le_of_not_le hlen)
    have hq : q <+: (n2 ++ q) ++ x := (List.prefix_append_right_inj n2).mp hpre
    have hqp : q <+: n2 ++ q :=
      List.prefix_of_prefix_length_le hq (List.prefix_append _ _) (by simp)
    refine hb n2.length (List.length_pos_iff.mpr hne) (Nat.lt_of_not_le hlen) ?_
    rwa [List.drop_left]

theorem scan_noise {p : List Char} (hb : NoBorder p) (n x : List Char) (hfree : ¬ p <:+: n) :
    scan p 0 (n ++ (p ++ x)) = scan p 0 (p ++ x) :=
  scan_unmatched n _ fun s hs hsuf => no_early_match hb s x hs fun h => hfree (h.trans hsuf.isInfix)

theorem scan_free {p : List Char} (t : List Char) (hfree : ¬ p <:+: t) : scan p 0 t = [] := by
  have := scan_unmatched (p := p) t [] fun s _ hsuf h =>
    hfree ((List.append_nil s ▸ h).isInfix.trans hsuf.isInfix)
  simpa [scan] using this

/-- a report line: the greedy match ends at the line's last `'}'`, which is the
payload's own last character; scanning continues behind the line break. -/
theorem scan_line {p : List Char} (hnl : '\n' ∉ p) (mid rest : List Char)
    (hmid : '\n' ∉ mid) :
    scan p 0 (p ++ (mid ++ '}' :: '\n' :: rest)) = ('{' :: (mid ++ ['}'])) :: scan p 0 rest := by
  have hbody : '\n' ∉ mid ++ ['}'] := by simp [hmid]
  have e : p ++ (mid ++ '}' :: '\n' :: rest) = (p ++ (mid ++ ['}'])) ++ '\n' :: rest := by simp
  have hm : matchAt p (p ++ (mid ++ '}' :: '\n' :: rest)) =
      some ('{' :: (mid ++ ['}']), (p ++ (mid ++ ['}'])).length) := by
    rw [e, matchAt_append_nl hnl, matchAt_append, groupOf, restOfLine_of_no_nl hbody,
      uptoLastClose_append_close, List.length_append]
  rw [scan_of_match hm, e, scan_skip, scan_nl hnl]

theorem joinNl_readlines_cons {c : Char} (hc : c ≠ '\n') (cs : List Char) :
    joinNl (readlines (c :: cs)) = c :: joinNl (readlines cs) := by
  simp only [readlines, hc, if_false]
  rcases readlines cs with _ | ⟨l, _ | ⟨l2, ls⟩⟩ <;> simp [joinNl]

theorem readlines_eq_nil {s : List Char} (h : readlines s = []) : s = [] := by
  cases s with
  | nil => rfl
  | cons c cs =>
    rw [readlines] at h
    split at h
    · cases h
    · split at h <;> cases h

theorem scan_join_readlines {pre : List Char} (hnl : '\n' ∉ pre)
    (s : List Char) : ∀ a : List Char,
    scan pre 0 (a ++ joinNl (readlines s)) = scan pre 0 (a ++ s) := by
  induction s with
  | nil => intro a; simp [readlines, joinNl]
  | cons c cs ih =>
    intro a
    by_cases hc : c = '\n'
    · subst hc
      have hr : readlines ('\n' :: cs) = ['\n'] :: readlines cs := by simp [readlines]
      rw [hr]
      cases h : readlines cs with
      | nil => simp [readlines_eq_nil h, joinNl]
      | cons l ls =>
        -- the doubled line break only adds an empty line
        rw [show joinNl (['\n'] :: l :: ls) = '\n' :: '\n' :: joinNl (l :: ls) from rfl, ← h,
          scan_append_nl hnl a 0 _ (Nat.zero_le _), scan_append_nl hnl a 0 _ (Nat.zero_le _),
          scan_nl hnl]
        simpa using congrArg (scan pre 0 a ++ ·) (ih [])
    · rw [joinNl_readlines_cons hc]
      simpa using ih (a ++ [c])

/-- the regex sees the same reports in `"\n".join(readlines(s))` as in `s` -/
theorem retrieve_readlines {tag : List Char} (hnl : '\n' ∉ marker tag) (s : List Char) :
    retrieve tag (readlines s) = findall tag s := by
  simpa [retrieve, findall] using scan_join_readlines hnl s []

theorem univAux_cr (b : Bool) (cs : List Char) : univAux b ('\r' :: cs) = '\n' :: univAux true cs := by
  simp [univAux]

theorem univAux_nl (cs : List Char) : univAux false ('\n' :: cs) = '\n' :: univAux false cs := by
  simp [univAux]

theorem univAux_cr_nl (cs : List Char) : univAux true ('\n' :: cs) = univAux false cs := by
  simp [univAux]

theorem univAux_head (b : Bool) (c : Char) (cs : List Char) (h1 : c ≠ '\n') (h2 : c ≠ '\r') :
    univAux b (c :: cs) = c :: univAux false cs := by
  simp [univAux, h1, h2]

theorem prefix_univAux {p : List Char} (hnl : '\n' ∉ p) :
    ∀ s : List Char, p <+: univAux false s → p <+: s := by
  induction p with
  | nil => intro s _; exact List.nil_prefix
  | cons q qs ih =>
    intro s h
    have hq : q ≠ '\n' := fun e => hnl (by simp [e])
    cases s with
    | nil => simp [univAux] at h
    | cons c cs =>
      by_cases hc : c = '\r'
      · rw [hc, univAux_cr] at h
        exact absurd (List.cons_prefix_cons.mp h).1 hq
      · by_cases hc2 : c = '\n'
        · rw [hc2, univAux_nl] at h
          exact absurd (List.cons_prefix_cons.mp h).1 hq
        · rw [univAux_head _ c cs hc2 hc] at h
          have h' := List.cons_prefix_cons.mp h
          exact List.cons_prefix_cons.mpr ⟨h'.1, ih (fun e => hnl (by simp [e])) cs h'.2⟩

theorem infix_nl_cons {p x : List Char} (hnl : '\n' ∉ p) (h : p <:+: '\n' :: x) : p <:+: x :=
  (infix_split_of_not_mem hnl [] x h).elim (fun h => (List.infix_nil.mp h) ▸ List.nil_infix) id

/-- universal-newline translation cannot create an occurrence of a text without line
terminators -/
theorem infix_univAux {p : List Char} (hnl : '\n' ∉ p) :
    ∀ (s : List Char) (b : Bool), p <:+: univAux b s → p <:+: s := by
  intro s
  induction s with
  | nil => intro b h; simpa [univAux] using h
  | cons c cs ih =>
    intro b h
    have ih' := fun b h => List.infix_append_of_infix_right (l₂ := [c]) (ih b h)
    by_cases hc : c = '\r'
    · rw [hc, univAux_cr] at h
      exact ih' true (infix_nl_cons hnl h)
    · by_cases hc2 : c = '\n'
      · cases b
        · rw [hc2, univAux_nl] at h; exact ih' false (infix_nl_cons hnl h)
        · rw [hc2, univAux_cr_nl] at h; exact ih' false h
      · rw [univAux_head b c cs hc2 hc] at h
        rcases List.infix_cons_iff.mp h with h | h
        · exact (prefix_univAux hnl _ (univAux_head false c cs hc2 hc ▸ h)).isInfix
        · exact ih' false h

theorem univAux_clean (x : List Char) (hr : '\r' ∉ x) (rest : List Char) :
    univAux false (x ++ rest) = x ++ univAux false rest := by
  induction x with
  | nil => rfl
  | cons c cs ih =>
    have hc : c ≠ '\r' := fun e => hr (by simp [e])
    have ih := ih fun e => hr (by simp [e])
    by_cases hc2 : c = '\n' <;> simp [univAux, hc, hc2, ih]

theorem univAux_append (n rest : List Char) (b : Bool) :
    ∃ b', univAux b (n ++ rest) = univAux b n ++ univAux b' rest := by
  induction n generalizing b with
  | nil => exact ⟨b, rfl⟩
  | cons c cs ih =>
    simp only [List.cons_append, univAux]
    by_cases hc : c = '\r'
    · obtain ⟨b', h⟩ := ih true
      exact ⟨b', by simp [hc, h]⟩
    · obtain ⟨b', h⟩ := ih false
      refine ⟨b', ?_⟩
      by_cases hc2 : c = '\n'
      · cases b <;> simp [hc2, h]
      · simp [hc, hc2, h]

theorem marker_nl {tag : List Char} (h : '\n' ∉ tag) : '\n' ∉ marker tag := by
  simp [marker, h]

theorem markerOK_of_B {tag : List Char} (h : markerOKB tag = true) : MarkerOK tag := by
  unfold markerOKB at h
  simp only [Bool.and_eq_true, Bool.not_eq_true', List.contains_eq_mem, decide_eq_false_iff_not] at h
  exact ⟨h.1.1, h.1.2, noBorder_of_B h.2⟩

theorem payloadOK_of_B {p : List Char} (h : payloadOKB p = true) : PayloadOK p := by
  simp only [payloadOKB, Bool.and_eq_true, Bool.not_eq_true', List.contains_eq_mem,
    decide_eq_false_iff_not, decide_eq_true_eq, beq_iff_eq] at h
  obtain ⟨⟨⟨⟨hnl, hcr⟩, hlen⟩, hhd⟩, hlast⟩ := h
  refine ⟨hnl, hcr, ?_⟩
  cases p with
  | nil => simp at hlen
  | cons c t =>
    cases hhd
    have ht : t ≠ [] := by rintro rfl; simp at hlen
    rw [List.getLast?_cons_of_ne_nil ht, List.getLast?_eq_some_iff] at hlast
    obtain ⟨mid, rfl⟩ := hlast
    exact ⟨mid, rfl⟩

theorem streamText_cons (tag n mid : List Char) (segs : List (List Char × List Char))
    (tail : List Char) :
    streamText tag ((n, '{' :: (mid ++ ['}'])) :: segs) tail =
      n ++ (marker tag ++ (mid ++ '}' :: '\n' :: streamText tag segs tail)) := by
  simp only [streamText, render, linePrefix, marker, List.flatMap_cons, List.cons_append,
    List.append_assoc, List.nil_append]

/-- the translation leaves a report line as it is: it begins with `'['` and holds no `'\r'` -/
theorem univAux_line {tag mid : List Char} (htag : '\r' ∉ tag) (hmid : '\r' ∉ mid) (b : Bool)
    (r : List Char) :
    univAux b (marker tag ++ (mid ++ '}' :: '\n' :: r)) =
      marker tag ++ (mid ++ '}' :: '\n' :: univAux false r) := by
  have e (r : List Char) : marker tag ++ (mid ++ '}' :: '\n' :: r) =
      '[' :: ((tag ++ [']', ':', ' ', '{'] ++ mid ++ ['}', '\n']) ++ r) := by
    simp only [marker, List.cons_append, List.append_assoc, List.nil_append]
  rw [e, e, univAux_head b '[' _ (by decide) (by decide), univAux_clean _ (by simp [htag, hmid])]

theorem scan_report {tag : List Char} (hm : MarkerOK tag) (n mid rest : List Char)
    (hn : ¬ marker tag <:+: n) (hmid : '\n' ∉ mid) :
    scan (marker tag) 0 (n ++ (marker tag ++ (mid ++ '}' :: '\n' :: rest))) =
      ('{' :: (mid ++ ['}'])) :: scan (marker tag) 0 rest := by
  rw [scan_noise hm.border n _ hn, scan_line (marker_nl hm.nl) mid _ hmid]

theorem findall_streamText {tag : List Char} (hm : MarkerOK tag)
    (segs : List (List Char × List Char)) (tail : List Char)
    (hp : ∀ s ∈ segs, PayloadOK s.2)
    (hn : ∀ s ∈ segs, ¬ marker tag <:+: s.1) (ht : ¬ marker tag <:+: tail) :
    findall tag (streamText tag segs tail) = segs.map (·.2) := by
  unfold findall
  induction segs with
  | nil => simpa [streamText] using scan_free tail ht
  | cons s segs ih =>
    rw [List.forall_mem_cons] at hp hn
    obtain ⟨n, p⟩ := s
    obtain ⟨mid, rfl⟩ : ∃ mid, p = '{' :: (mid ++ ['}']) := hp.1.shape
    have hmid : '\n' ∉ mid := fun e => hp.1.nl (by simp [e])
    rw [streamText_cons, scan_report hm n mid _ hn.1 hmid, ih hp.2 hn.2, List.map_cons]

theorem findall_univAux_streamText {tag : List Char} (hm : MarkerOK tag)
    (segs : List (List Char × List Char)) (tail : List Char)
    (hp : ∀ s ∈ segs, PayloadOK s.2)
    (hn : ∀ s ∈ segs, ¬ marker tag <:+: s.1) (ht : ¬ marker tag <:+: tail) (b : Bool) :
    findall tag (univAux b (streamText tag segs tail)) = segs.map (·.2) := by
  unfold findall
  have hnl := marker_nl hm.nl
  induction segs generalizing b with
  | nil =>
    simp only [streamText, List.flatMap_nil, List.nil_append, List.map_nil]
    exact scan_free _ fun h => ht (infix_univAux hnl _ _ h)
  | cons s segs ih =>
    rw [List.forall_mem_cons] at hp hn
    obtain ⟨n, p⟩ := s
    obtain ⟨mid, rfl⟩ : ∃ mid, p = '{' :: (mid ++ ['}']) := hp.1.shape
    have hmid : '\n' ∉ mid := fun e => hp.1.nl (by simp [e])
    have hmidcr : '\r' ∉ mid := fun e => hp.1.cr (by simp [e])
    obtain ⟨b', hb'⟩ := univAux_append n (marker tag ++ (mid ++ '}' :: '\n' :: streamText tag segs tail)) b
    rw [streamText_cons, hb', univAux_line hm.cr hmidcr,
      scan_report hm _ mid _ (fun h => hn.1 (infix_univAux hnl _ _ h)) hmid, ih hp.2 hn.2 false,
      List.map_cons]

end SyneTune.Report
