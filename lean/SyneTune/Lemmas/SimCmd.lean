import SyneTune.Lemmas.SimHeap
/-
`CmdInv`: from a pause / stop command until the next resume the heap holds no event of the
trial; once a poll that does not cover the trial has happened nothing is queued for it either.
Hence a poll returns nothing for such a trial (`fetch_nothing`).  Assumption on the job: it never ends as
`Paused` (`JobStatusOK`; `tabJob_statusOK`).
-/
namespace SyneTune.SimL
open SyneTune SyneTune.Backend

variable {J : Type}

def cmdFlags (x : STrial) : Bool × Bool := (x.commanded, x.flushed)

def statusFlags (x : STrial) : Bool × St × Bool := (x.isResult, x.status, x.commanded)

theorem cmdFlags_eq {x y : STrial} (h : cmdFlags x = cmdFlags y) : x.commanded = y.commanded ∧ x.flushed = y.flushed :=
  Prod.mk.inj h

theorem statusFlags_eq {x y : STrial} (h : statusFlags x = statusFlags y) :
    x.isResult = y.isResult ∧ x.status = y.status ∧ x.commanded = y.commanded :=
  ⟨congrArg (·.1) h, congrArg (·.2.1) h, congrArg (·.2.2) h⟩

theorem commanded_modifyAt {f : STrial → STrial} (hf : ∀ y, y.commanded = true → (f y).commanded = true) {l : List STrial}
    (n : Nat) {u : Nat} {x : STrial} (hx : l[u]? = some x) (hc : x.commanded = true) :
    ∃ x1, (modifyAt f n l)[u]? = some x1 ∧ x1.commanded = true := by
  refine ⟨_, getElem?_modifyAt_of hx, ?_⟩
  split
  · exact hf x hc
  · exact hc

theorem processEvent_cmdFlags {A : Arith} {job : JobFn J} {s s' : Sim J} {e : Ev}
    (h : s.processEvent A job e = .ok s') : s'.trials.map cmdFlags = s.trials.map cmdFlags := by
  rcases processEvent_cases h with ⟨x, js', st, rs, _, _, _, rfl⟩ | ⟨st, nat, _, _, rfl⟩ | ⟨_, rfl⟩ | ⟨r, tag, _, _, rfl⟩
  · exact map_modifyAt (fun _ => by rfl) _ _
  · exact map_modifyAt (fun _ => by rfl) _ _
  · rfl
  · exact map_modifyAt (fun y => by split <;> rfl) _ _

theorem processUntil_cmdFlags {A : Arith} {job : JobFn J} {fuel : Nat} {s s' : Sim J}
    (h : Sim.processUntil A job fuel s = .ok s') : s'.trials.map cmdFlags = s.trials.map cmdFlags :=
  processUntil_induct A job (fun x => x.trials.map cmdFlags = s.trials.map cmdFlags)
    (fun _ _ _ _ hx _ _ hev => (processEvent_cmdFlags hev).trans hx) fuel s s' rfl h

def JobStatusOK (job : JobFn J) : Prop := ∀ js t js' st rs, job js t = .ok (js', st, rs) → st ≠ .paused

theorem tabJob_statusOK (A : Arith) : JobStatusOK (tabJob A) := by
  intro js t js' st rs h
  rw [(SimTab.tabJob_spec A js js' t st rs h).1]
  exact St.noConfusion

/-- status `Paused` only ever comes from a pause command: a trial that shows it, or has a `Paused`
completion event under way, is `commanded` (so the precondition of `resume_trial` implies `commanded`) -/
structure PausedInv (s : Sim J) : Prop where
  st : ∀ (t : Nat) (x : STrial), s.trials[t]? = some x → x.isResult = true → x.status = .paused → x.commanded = true
  ev : ∀ e ∈ s.heap, ∀ nat, e.kind = .complete .paused nat →
        ∃ x, s.trials[e.trial]? = some x ∧ x.commanded = true

theorem PausedInv.of_eq {s s' : Sim J} (h : PausedInv s) (hh : s'.heap = s.heap) (ht : s'.trials = s.trials) :
    PausedInv s' :=
  ⟨by rw [ht]; exact h.st, by rw [hh, ht]; exact h.ev⟩

theorem PausedInv.mono {s s' : Sim J} (h : PausedInv s)
    (hst : ∀ (t : Nat) (x' : STrial), s'.trials[t]? = some x' → x'.isResult = true → x'.status = .paused →
      x'.commanded = true ∨
      ∃ x : STrial, s.trials[t]? = some x ∧ x.isResult = true ∧ x.status = .paused ∧ x'.commanded = x.commanded)
    (hheap : ∀ e ∈ s'.heap, e ∈ s.heap ∨ ∀ nat, e.kind ≠ .complete .paused nat)
    (hcmd : ∀ e ∈ s.heap, ∀ nat, e.kind = .complete .paused nat → ∀ x : STrial, s.trials[e.trial]? = some x →
      x.commanded = true → ∃ x' : STrial, s'.trials[e.trial]? = some x' ∧ x'.commanded = true) :
    PausedInv s' := by
  constructor
  · intro t x' hx' hr hp
    rcases hst t x' hx' hr hp with hc | ⟨x, hx, h1, h2, h3⟩
    · exact hc
    · rw [h3]; exact h.st t x hx h1 h2
  · intro e he nat hk
    rcases hheap e he with he0 | hn
    · obtain ⟨x, hx, hc⟩ := h.ev e he0 nat hk
      exact hcmd e he0 nat hk x hx hc
    · exact absurd hk (hn nat)

/-- `f` is applied to trial `t`; it keeps `commanded`, and yields a `Paused` result record only
from one, or for a commanded trial -/
theorem PausedInv.modify {s s' : Sim J} (h : PausedInv s) {t : Nat} {f : STrial → STrial}
    (ht : s'.trials = modifyAt f t s.trials) (hc : ∀ y, (f y).commanded = y.commanded)
    (hp : ∀ y, s.trials[t]? = some y → (f y).isResult = true → (f y).status = .paused →
      y.commanded = true ∨ (y.isResult = true ∧ y.status = .paused))
    (hheap : ∀ e ∈ s'.heap, e ∈ s.heap ∨ ∀ nat, e.kind ≠ .complete .paused nat) : PausedInv s' := by
  refine h.mono ?_ hheap (fun e _ _ _ x hx hx' => ht ▸ commanded_modifyAt (fun y h => (hc y).trans h) t hx hx')
  intro u x' hx' hr hp'
  rw [ht] at hx'
  obtain ⟨x, hx, ⟨_, rfl⟩ | ⟨rfl, rfl⟩⟩ := getElem?_modifyAt_some hx'
  · exact Or.inr ⟨x, hx, hr, hp', rfl⟩
  · exact (hp x hx hr hp').imp (fun h' => (hc x).trans h') fun h' => ⟨x, hx, h'.1, h'.2, hc x⟩

theorem PausedInv.processEvent {A : Arith} {job : JobFn J} (hjob : JobStatusOK job) {s s' : Sim J} {e : Ev}
    (hs : PausedInv ({ s with heap := e :: s.heap } : Sim J))
    (h : s.processEvent A job e = .ok s') : PausedInv s' := by
  have h0 : PausedInv s := ⟨hs.st, fun e' he' => hs.ev e' (List.mem_cons_of_mem _ he')⟩
  rcases processEvent_cases h with ⟨x, js', st, rs, _, _, hj, rfl⟩ | ⟨st, nat, hk, _, rfl⟩ | ⟨_, rfl⟩ | ⟨r, tag, _, _, rfl⟩
  · refine h0.modify rfl (fun _ => rfl) (fun y _ h1 h2 => Or.inr ⟨h1, h2⟩) fun e' he' => ?_
    rcases mem_startResult.mp he' with rfl | h1 | ⟨k, r, _, rfl⟩
    · exact Or.inr fun nat hk => hjob _ _ _ _ _ hj (EvKind.complete.inj hk).1
    · exact Or.inl h1
    · exact Or.inr fun nat hk => by cases hk
  · -- a `Paused` completion event belongs to a commanded trial
    refine h0.modify rfl (fun _ => rfl) (fun y hy _ hp => Or.inl ?_) (fun e' he' => Or.inl he')
    have hp' : st = .paused := hp
    obtain ⟨x1, hx1, hc⟩ := hs.ev e List.mem_cons_self nat (by rw [hk, hp'])
    cases hx1.symm.trans hy
    exact hc
  · exact h0.mono (fun u x' hx' hr hp => Or.inr ⟨x', hx', hr, hp, rfl⟩)
      (fun e' he' => Or.inl (List.mem_filter.mp he').1) (fun _ _ _ _ x hx hc => ⟨x, hx, hc⟩)
  · refine h0.modify rfl (fun y => by split <;> rfl) (fun y _ => ?_) (fun e' he' => Or.inl he')
    by_cases hir : y.isResult = true
    · rw [if_pos hir]; exact fun h1 h2 => Or.inr ⟨h1, h2⟩
    · rw [if_neg hir]; exact fun _ h2 => by cases h2

theorem PausedInv.processUntil {A : Arith} {job : JobFn J} (hjob : JobStatusOK job) {fuel : Nat} {s s' : Sim J}
    (hs : PausedInv s) (h : Sim.processUntil A job fuel s = .ok s') : PausedInv s' := by
  refine processUntil_induct A job PausedInv ?_ fuel s s' hs h
  intro x e rest x1 hx hheap _ hev
  exact PausedInv.processEvent (s := { x with heap := rest }) hjob ⟨hx.st, fun e' he' => hx.ev e' (hheap ▸ he')⟩ hev

/-- pushing an event that is not a `Paused` completion, or one for a commanded trial -/
theorem PausedInv.push {s : Sim J} (h : PausedInv s) (tm : Rat) (t : Nat) (k : EvKind)
    (hk : ∀ nat, k = .complete .paused nat → ∃ x, s.trials[t]? = some x ∧ x.commanded = true) :
    PausedInv (s.push tm t k) := by
  refine ⟨h.st, fun e he nat hke => ?_⟩
  rcases (mem_insertEv _ _ _).mp he with rfl | he
  · exact hk nat hke
  · exact h.ev e he nat hke

/-- between operations: a commanded (paused / stopped, not resumed) trial has no event in the heap, and
nothing queued once a poll has passed it over; `paused` and `guard` are what `resume_trial` and
`_stop_or_pause_trial` need to re-establish this -/
structure CmdInv (s : Sim J) : Prop where
  heapOK : HeapOK s
  guard : 0 ≤ s.cfg.guard
  paused : PausedInv s
  quiet : ∀ (t : Nat) (x : STrial), s.trials[t]? = some x → x.commanded = true → NoEv t s.heap
  flushed : ∀ (t : Nat) (x : STrial), s.trials[t]? = some x → x.commanded = true → x.flushed = true →
      alookup t s.next = none

/-- the invariant does not look at clocks, job state and the remaining ghost fields -/
theorem CmdInv.of_same {s s' : Sim J} (h : CmdInv s) (hh : s'.heap = s.heap) (ha : s'.added = s.added)
    (hc : s'.cfg = s.cfg) (ht : s'.trials = s.trials) (hn : s'.next = s.next) : CmdInv s' := by
  refine ⟨h.heapOK.of_eq hh ha, by rw [hc]; exact h.guard, ⟨?_, ?_⟩, ?_, ?_⟩
  · rw [ht]; exact h.paused.st
  · rw [hh, ht]; exact h.paused.ev
  · rw [hh, ht]; exact h.quiet
  · rw [ht, hn]; exact h.flushed

theorem CmdInv.advanceOutside {A : Arith} {s s' : Sim J} (h : CmdInv s) (ha : s.advanceOutside A = .ok s') : CmdInv s' := by
  obtain ⟨_, rfl⟩ := advance_ok ha
  exact h.of_same rfl rfl rfl rfl rfl

/-- what holds while the trials outside `E` are in the middle of `_stop_or_pause_trial` -/
structure CmdInvOn (E : Nat → Prop) (s : Sim J) : Prop where
  heapOK : HeapOK s
  guard : 0 ≤ s.cfg.guard
  paused : PausedInv s
  quiet : ∀ (t : Nat) (x : STrial), E t → s.trials[t]? = some x → x.commanded = true → NoEv t s.heap
  flushed : ∀ (t : Nat) (x : STrial), E t → s.trials[t]? = some x → x.commanded = true → x.flushed = true →
      alookup t s.next = none

theorem CmdInv.on {s : Sim J} (h : CmdInv s) (E : Nat → Prop) : CmdInvOn E s :=
  ⟨h.heapOK, h.guard, h.paused, fun t x _ => h.quiet t x, fun t x _ => h.flushed t x⟩

theorem CmdInvOn.processUntil {A : Arith} {job : JobFn J} (hjob : JobStatusOK job) {s s' : Sim J} {fuel : Nat}
    {E : Nat → Prop} (hs : CmdInvOn E s) (h : Sim.processUntil A job fuel s = .ok s') : CmdInvOn E s' := by
  have hcf := processUntil_cmdFlags h
  refine ⟨hs.heapOK.processUntil h, by rw [(processUntil_fields h).cfg]; exact hs.guard, hs.paused.processUntil hjob h, ?_, ?_⟩
  · intro u x' hu hx' hc
    obtain ⟨x, hx, hcfx⟩ := map_get hcf hx'
    exact (processUntil_next (hs.quiet u x hu hx ((cmdFlags_eq hcfx).1.trans hc)) h).1
  · intro u x' hu hx' hc hfl
    obtain ⟨x, hx, hcfx⟩ := map_get hcf hx'
    have h1 := (cmdFlags_eq hcfx).1.trans hc
    rw [(processUntil_next (hs.quiet u x hu hx h1) h).2]
    exact hs.flushed u x hu hx h1 ((cmdFlags_eq hcfx).2.trans hfl)

theorem CmdInvOn.all {s : Sim J} (h : CmdInvOn (fun _ => True) s) : CmdInv s :=
  ⟨h.heapOK, h.guard, h.paused, fun u x => h.quiet u x trivial, fun u x => h.flushed u x trivial⟩

theorem CmdInv.processUntil {A : Arith} {job : JobFn J} (hjob : JobStatusOK job) {s s' : Sim J} {fuel : Nat}
    (hs : CmdInv s) (h : Sim.processUntil A job fuel s = .ok s') : CmdInv s' :=
  ((hs.on fun _ => True).processUntil hjob h).all

theorem noEv_insert {u t : Nat} {tm : Rat} {c : Nat} {k : EvKind} {l : List Ev} (h : NoEv u l) (hne : t ≠ u) :
    NoEv u (insertEv ⟨tm, c, t, k⟩ l) := by
  intro e he
  rcases (mem_insertEv _ _ _).mp he with rfl | he
  · exact hne
  · exact h e he

theorem CmdInv.schedule_pre {A : Arith} {job : JobFn J} {H : J → J → Prop} (hjob : JobStatusOK job) {s s' : Sim J} {t : Nat}
    (hs : CmdInv s) (h : s.schedule A job t = .ok s') :
    ∃ s2, Path A job H s s2 ∧ CmdInv s2 ∧ s' = (s2.push (A.add s2.now s2.cfg.dStart) t .start).markExit ∧
      s2.trials.map cmdFlags = s.trials.map cmdFlags := by
  obtain ⟨s1, s2, h1, h2, rfl⟩ := schedule_ok h
  refine ⟨s2, (advance_path h1).trans (processUntil_path h2), (hs.advanceOutside h1).processUntil hjob h2, rfl, ?_⟩
  rw [processUntil_cmdFlags h2]; obtain ⟨_, rfl⟩ := advance_ok h1; rfl

theorem CmdInv.startTrial {A : Arith} {job : JobFn J} (hjob : JobStatusOK job) {s s' : Sim J} {tid : Nat}
    {setCfg : Nat → J → J} (hs : CmdInv s) (h : s.startTrial A job setCfg = .ok (s', tid)) : CmdInv s' := by
  obtain ⟨s1, h1, rfl⟩ := startTrial_ok h
  obtain ⟨s2, _, h2, rfl, hcf⟩ := hs.schedule_pre (H := fun _ _ => True) hjob h1
  have hlen : s2.trials.length = s.trials.length := by simpa using congrArg List.length hcf
  have hold : ∀ {u : Nat} {x : STrial}, s2.trials[u]? = some x → (s2.trials ++ [({} : STrial)])[u]? = some x :=
    fun hx => by rw [List.getElem?_append_left (List.getElem?_eq_some_iff.mp hx).1]; exact hx
  refine ⟨(h2.heapOK.push _ _ _).of_eq rfl rfl, h2.guard, ?_, ?_, ?_⟩
  · refine (h2.paused.push _ _ .start (fun _ hk => by cases hk)).mono ?_ (fun e he => Or.inl he)
        (fun _ _ _ _ x hx hc => ⟨x, hold hx, hc⟩)
    intro u x hx hr hp
    rcases newTrial_get hx with hx | ⟨_, rfl⟩
    · exact Or.inr ⟨x, hx, hr, hp, rfl⟩
    · cases hr
  · intro u x hx hc
    rcases newTrial_get hx with hx | ⟨_, rfl⟩
    · refine noEv_insert (h2.quiet u x hx hc) ?_
      have : u < s2.trials.length := (List.getElem?_eq_some_iff.mp hx).1
      omega
    · cases hc
  · intro u x hx hc hf
    rcases newTrial_get hx with hx | ⟨_, rfl⟩
    · exact h2.flushed u x hx hc hf
    · cases hc

/-- `resume_trial` up to the push of the start event: the trial was paused, hence commanded, so the
state reached there holds no event of it -/
theorem CmdInv.resume_pre {A : Arith} {job : JobFn J} {H : J → J → Prop} (hjob : JobStatusOK job) {s s' : Sim J} {t : Nat}
    {setCfg : J → J} (hs : CmdInv s) (h : s.resumeTrial A job t setCfg = .ok s') :
    ∃ s2 x2, Path A job H ({ s with js := setCfg s.js } : Sim J) s2 ∧ CmdInv s2 ∧ s2.trials[t]? = some x2 ∧
      NoEv t s2.heap ∧
      s' = (s2.push (A.add s2.now s2.cfg.dStart) t .start).markExit.updT t (STrial.resumed (alookup t s2.next).isSome) := by
  obtain ⟨x, s1, hx, hres, hpa, h1, rfl⟩ := resumeTrial_ok h
  obtain ⟨s2, hp, hc2, rfl, hcf2⟩ :=
    (hs.of_same (s' := { s with js := setCfg s.js }) rfl rfl rfl rfl rfl).schedule_pre hjob h1
  obtain ⟨x2, hx2, hcfx⟩ := map_get hcf2.symm hx
  exact ⟨s2, x2, hp, hc2, hx2, hc2.quiet t x2 hx2 ((cmdFlags_eq hcfx).1.trans (hs.paused.st t x hx hres hpa)), rfl⟩

theorem CmdInv.resumeTrial {A : Arith} {job : JobFn J} (hjob : JobStatusOK job) {s s' : Sim J} {t : Nat}
    {setCfg : J → J} (hs : CmdInv s) (h : s.resumeTrial A job t setCfg = .ok s') : CmdInv s' := by
  obtain ⟨s2, _, _, h2, _, hno, rfl⟩ := hs.resume_pre (H := fun _ _ => True) hjob h
  have hget : ∀ {u : Nat} {y : STrial}, (modifyAt (STrial.resumed (alookup t s2.next).isSome) t s2.trials)[u]? = some y →
      (u ≠ t ∧ s2.trials[u]? = some y) ∨ (y.commanded = false ∧ y.status = .inProgress) := by
    intro u y hy
    obtain ⟨y0, hy0, ⟨hu, rfl⟩ | ⟨_, rfl⟩⟩ := getElem?_modifyAt_some hy
    · exact Or.inl ⟨hu, hy0⟩
    · exact Or.inr ⟨rfl, rfl⟩
  refine ⟨(h2.heapOK.push _ _ _).of_eq rfl rfl, h2.guard, ?_, ?_, ?_⟩
  · refine (h2.paused.push _ t .start (fun _ hk => by cases hk)).mono ?_ (fun e he => Or.inl he) ?_
    · intro u y hy hr hp
      rcases hget hy with ⟨_, hy⟩ | ⟨_, h'⟩
      · exact Or.inr ⟨y, hy, hr, hp, rfl⟩
      · rw [h'] at hp; cases hp
    · intro e he nat hk y hy hc
      rcases (mem_insertEv _ _ _).mp he with rfl | he
      · cases hk
      · exact ⟨y, (updT_get _ t _ _).trans ((if_neg (hno e he)).trans hy), hc⟩
  · intro u y hy hc
    rcases hget hy with ⟨hu, hy⟩ | ⟨h', _⟩
    · exact noEv_insert (h2.quiet u y hy hc) (Ne.symm hu)
    · rw [h'] at hc; cases hc
  · intro u y hy hc hf
    rcases hget hy with ⟨_, hy⟩ | ⟨h', _⟩
    · exact h2.flushed u y hy hc hf
    · rw [h'] at hc; cases hc

/-- one phase of `_stop_or_pause_trial`: an event of trial `t` is pushed, the clock is moved and
the event loop runs; what the invariant says of the other trials is kept -/
theorem CmdInvOn.phase {A : Arith} {job : JobFn J} (hjob : JobStatusOK job) {s s' : Sim J} {t : Nat} {k : EvKind}
    {tm tm' : Rat} (hs : CmdInvOn (· ≠ t) s)
    (hk : ∀ nat, k = .complete .paused nat → ∃ x, s.trials[t]? = some x ∧ x.commanded = true)
    (h : Sim.processUntil A job simFuel ((s.push tm t k).advanceTo tm') = .ok s') :
    CmdInvOn (· ≠ t) s' ∧ s'.trials.map cmdFlags = s.trials.map cmdFlags :=
  ⟨CmdInvOn.processUntil (s := (s.push tm t k).advanceTo tm') hjob
    ⟨(hs.heapOK.push tm t k).of_eq rfl rfl, hs.guard, (hs.paused.push tm t k hk).of_eq rfl rfl,
      fun u x hu hx hc => noEv_insert (hs.quiet u x hu hx hc) (Ne.symm hu), hs.flushed⟩ h,
    processUntil_cmdFlags (s := (s.push tm t k).advanceTo tm') h⟩

/-- `_stop_or_pause_trial` on a state where trial `t` has just been marked as commanded (and
not flushed): the invariant holds again afterwards -/
theorem CmdInvOn.stopOrPause {A : Arith} {job : JobFn J} (hA : AddGe A) (hjob : JobStatusOK job) {s s' : Sim J}
    {t : Nat} {st : St} (hs : CmdInvOn (· ≠ t) s)
    (hcmdT : ∀ x, s.trials[t]? = some x → x.commanded = true ∧ x.flushed = false)
    (hstT : st = .paused → ∃ x, s.trials[t]? = some x)
    (h : s.stopOrPause A job t st = .ok s') : CmdInv s' := by
  have hrem := stopOrPause_removes hA hs.guard hs.heapOK h
  obtain ⟨s1, s3, s5, h1, h3, h5, rfl⟩ := stopOrPause_ok h
  obtain ⟨_, rfl⟩ := advance_ok h1
  obtain ⟨hs3, hcf3⟩ := CmdInvOn.phase hjob
    (s := { s with now := A.add s.now (A.sub s.realNow s.lastExit) }) (k := .stop)
    ⟨hs.heapOK.of_eq rfl rfl, hs.guard, hs.paused.of_eq rfl rfl, hs.quiet, hs.flushed⟩ (fun _ hk => by cases hk) h3
  have hk5 : ∀ nat, EvKind.complete st none = .complete .paused nat → ∃ x, s3.trials[t]? = some x ∧ x.commanded = true := by
    intro nat hk
    obtain ⟨x, hx⟩ := hstT (EvKind.complete.inj hk).1
    obtain ⟨x3, hx3, hcfx⟩ := map_get hcf3.symm hx
    exact ⟨x3, hx3, (cmdFlags_eq hcfx).1.trans (hcmdT x hx).1⟩
  obtain ⟨hs5, hcf5⟩ := hs3.phase hjob hk5 h5
  refine ⟨hs5.heapOK.of_eq rfl rfl, hs5.guard, hs5.paused.of_eq rfl rfl, ?_, ?_⟩
  · intro u x hx hc
    by_cases hu : u = t
    · subst hu; exact hrem
    · exact hs5.quiet u x hu hx hc
  · intro u x hx hc hfl
    by_cases hu : u = t
    · subst hu
      obtain ⟨x0, hx0, hcfx⟩ := map_get (hcf5.trans hcf3) hx
      rw [← (cmdFlags_eq hcfx).2, (hcmdT x0 hx0).2] at hfl
      cases hfl
    · exact hs5.flushed u x hu hx hc hfl

/-- `stop_trial` and `pause_trial`: mark the record as commanded, then `_stop_or_pause_trial` -/
theorem CmdInv.cmd {A : Arith} {job : JobFn J} (hA : AddGe A) (hjob : JobStatusOK job) {s s' : Sim J}
    {t : Nat} {st : St} (f : STrial → STrial)
    (hfc : ∀ y, (f y).commanded = true ∧ (f y).flushed = false)
    (hs : CmdInv s) (hstT : st = .paused → t < s.trials.length)
    (h : (s.updT t f).stopOrPause A job t st = .ok s') : CmdInv s' := by
  have hold : ∀ {u : Nat} {x : STrial}, u ≠ t → (s.updT t f).trials[u]? = some x → s.trials[u]? = some x :=
    fun hu hx => by rwa [updT_get, if_neg hu] at hx
  refine CmdInvOn.stopOrPause (s := s.updT t f) hA hjob ⟨hs.heapOK.of_eq rfl rfl, hs.guard, ?_,
    fun u x hu hx hc => hs.quiet u x (hold hu hx) hc, fun u x hu hx hc hfl => hs.flushed u x (hold hu hx) hc hfl⟩ ?_ ?_ h
  · refine hs.paused.mono ?_ (fun e he => Or.inl he) ?_
    · intro u x' hx' hr hp
      obtain ⟨x, hx, ⟨_, rfl⟩ | ⟨_, rfl⟩⟩ := getElem?_modifyAt_some hx'
      · exact Or.inr ⟨x, hx, hr, hp, rfl⟩
      · exact Or.inl (hfc x).1
    · exact fun e _ _ _ x hx hc => commanded_modifyAt (fun y _ => (hfc y).1) t hx hc
  · intro x hx
    obtain ⟨x0, _, ⟨hu, _⟩ | ⟨_, rfl⟩⟩ := getElem?_modifyAt_some hx
    · exact absurd rfl hu
    · exact hfc x0
  · intro hst
    rw [updT_get, if_pos rfl, List.getElem?_eq_getElem (hstT hst)]
    exact ⟨_, rfl⟩

theorem CmdInv.stopTrial {A : Arith} {job : JobFn J} (hA : AddGe A) (hjob : JobStatusOK job) {s s' : Sim J} {t : Nat}
    (hs : CmdInv s) (h : s.stopTrial A job t = .ok s') : CmdInv s' :=
  CmdInv.cmd hA hjob (fun y => { y with commanded := true, flushed := false })
    (fun _ => ⟨rfl, rfl⟩) hs (fun hh => by cases hh) h

theorem CmdInv.pauseTrial {A : Arith} {job : JobFn J} (hA : AddGe A) (hjob : JobStatusOK job) {s s' : Sim J} {t : Nat}
    {after : J → J} (hs : CmdInv s) (h : s.pauseTrial A job t after = .ok s') : CmdInv s' := by
  obtain ⟨hl, s1, h1, rfl⟩ := pauseTrial_ok h
  exact (CmdInv.cmd hA hjob _ (fun _ => ⟨rfl, rfl⟩) hs (fun _ => hl) h1).of_same rfl rfl rfl rfl rfl

theorem CmdInv.fetch {A : Arith} {job : JobFn J} (hjob : JobStatusOK job) {s s' : Sim J} {ids : List Nat}
    {sts : List (Nat × St)} {res : List (Nat × Arrived)} (hs : CmdInv s)
    (h : s.fetch A job ids = .ok (s', sts, res)) : CmdInv s' := by
  obtain ⟨s1, s2, h1, h2, _, rfl⟩ := fetch_ok h
  have h2' := (hs.advanceOutside h1).processUntil hjob h2
  have hnext := dropRest_next (fetchCovered s2 ids).1.next (fetchCovered s2 ids).1
  -- the poll changes `since`, `droppedSince`, `flushed` only
  obtain ⟨hheap, hadd, _, hcfg, _, _⟩ := deliver_frame s2 ids
  have hcore := deliver_map (g := statusFlags) (fun _ d _ => by cases d <;> rfl) s2 ids
  generalize dropRest (fetchCovered s2 ids).1 (fetchCovered s2 ids).1.next = d at hnext hheap hadd hcfg hcore ⊢
  replace hcore : (markFlushed ids d.trials).map statusFlags = s2.trials.map statusFlags :=
    (map_markFlushed (fun _ => rfl) ids _).trans hcore
  refine ⟨h2'.heapOK.of_eq hheap hadd, by show 0 ≤ d.cfg.guard; rw [hcfg]; exact h2'.guard, ?_, ?_, ?_⟩
  · refine h2'.paused.mono ?_ (fun e he => Or.inl (hheap ▸ he)) ?_
    · intro u x hx hr hp
      obtain ⟨x2, hx2, hc⟩ := map_get hcore hx
      obtain ⟨e1, e2, e3⟩ := statusFlags_eq hc
      exact Or.inr ⟨x2, hx2, e1.trans hr, e2.trans hp, e3.symm⟩
    · intro e _ _ _ x2 hx2 hc2
      obtain ⟨y, hy, hcy⟩ := map_get hcore.symm hx2
      exact ⟨y, hy, (statusFlags_eq hcy).2.2.trans hc2⟩
  · intro u x hx hcm
    obtain ⟨x2, hx2, hc⟩ := map_get hcore hx
    exact hheap ▸ h2'.quiet u x2 hx2 ((statusFlags_eq hc).2.2.trans hcm)
  · intro u x hx hcm hfl
    show alookup u d.next = none
    rw [hnext]
    rfl

theorem CmdInv.stopAllGo {A : Arith} {job : JobFn J} (hA : AddGe A) (hjob : JobStatusOK job) (l : List Nat) :
    ∀ {s s' : Sim J}, CmdInv s → simStopAllGo A job s l = .ok s' → CmdInv s' := by
  induction l with
  | nil => intro s s' h hs; cases hs; exact h
  | cons t rest ih =>
    intro s s' h hs
    unfold simStopAllGo at hs
    split at hs
    · exact ih h hs
    · split at hs
      · cases h1 : s.stopTrial A job t with
        | error e => rw [h1] at hs; cases hs
        | ok s1 => rw [h1] at hs; exact ih (h.stopTrial hA hjob h1) hs
      · exact ih h hs

/-- checked per operation, not per `Prim`: the invariant fails between the command mark and the end of
`_stop_or_pause_trial`, and `Prim.push` does not record that the loops that follow drain the trial -/
theorem CmdInv.step {A : Arith} {job : JobFn TabState} (hA : AddGe A) (hjob : JobStatusOK job) {s s' : TB} {op : SOp}
    (h : CmdInv s) (hs : TB.step A job s op = .ok s') : CmdInv s' := by
  cases op with
  | start cfg => obtain ⟨tid, h1⟩ := step_start_ok.mp hs; exact h.startTrial hjob h1
  | resume t nc => simp only [TB.step] at hs; exact h.resumeTrial hjob hs
  | pause t lv => simp only [TB.step] at hs; exact h.pauseTrial hA hjob hs
  | stop t => exact h.stopTrial hA hjob hs
  | fetch ids => obtain ⟨sts, res, h1⟩ := step_fetch_ok.mp hs; exact h.fetch hjob h1
  | busy => exact h.processUntil hjob (step_busy_ok.mp hs)
  | sleep => obtain ⟨_, rfl⟩ := advance_ok hs; exact h.of_same rfl rfl rfl rfl rfl
  | advance dt => obtain ⟨_, rfl⟩ := advance_ok hs; exact h.of_same rfl rfl rfl rfl rfl
  | tick dt => cases hs; exact h.of_same rfl rfl rfl rfl rfl
  | tape d => cases hs; exact h.of_same rfl rfl rfl rfl rfl
  | stopAll => exact CmdInv.stopAllGo hA hjob _ h hs

theorem CmdInv.run {A : Arith} {job : JobFn TabState} (hA : AddGe A) (hjob : JobStatusOK job) (ops : List SOp) :
    ∀ {s s' : TB}, CmdInv s → TB.run A job s ops = .ok s' → CmdInv s' :=
  run_steps (fun _ _ _ h h1 => h.step hA hjob h1) ops

theorem CmdInv.init (cfg : SimCfg) (js : TabState) (hg : 0 ≤ cfg.guard) : CmdInv (TB.init cfg js) := by
  have h0 : ∀ (t : Nat) (x : STrial), (TB.init cfg js).trials[t]? = some x → False := fun t x hx => by cases hx
  exact ⟨HeapOK.init cfg js, hg, ⟨fun t x hx => (h0 t x hx).elim, fun e he => by cases he⟩,
    fun t x hx => (h0 t x hx).elim, fun t x hx => (h0 t x hx).elim⟩

theorem fetch_nothing {A : Arith} {job : JobFn J} {s s' : Sim J} {ids : List Nat} {sts : List (Nat × St)}
    {res : List (Nat × Arrived)} {t : Nat} (hno : NoEv t s.heap) (hn : alookup t s.next = none)
    (h : s.fetch A job ids = .ok (s', sts, res)) : ∀ p ∈ res, p.1 ≠ t := by
  obtain ⟨s1, s2, h1, h2, rfl, _⟩ := fetch_ok h
  have h2n : alookup t s2.next = none := by
    have hs1 : s1.heap = s.heap ∧ s1.next = s.next := by obtain ⟨_, rfl⟩ := advance_ok h1; exact ⟨rfl, rfl⟩
    exact (processUntil_next (hs1.1 ▸ hno) h2).2.trans (hs1.2 ▸ hn)
  intro p hp
  obtain ⟨l, hl, _⟩ := mem_fetchCovered ids s2 p hp
  rintro rfl
  exact alookup_eq_none_iff.mp h2n (List.mem_map_of_mem hl)

end SyneTune.SimL
