import SyneTune.Lemmas.GP
/-
Helper lemmas for C09: the hand-written backward pass of the Cholesky factorisation
(`custom_op.py: cholesky_factorization_backward`) is the adjoint of the tangent map of
`A = L Lᵀ`.
-/
set_option linter.unusedSectionVars false
namespace SyneTune.GP
open Matrix

variable {𝕜 : Type} [Field 𝕜] {n : ℕ}

/-- `copyltu` on Mathlib matrices -/
def copyltuM (X : Matrix (Fin n) (Fin n) 𝕜) : Matrix (Fin n) (Fin n) 𝕜 :=
  Matrix.of fun i j => if j ≤ i then X i j else X j i

theorem toM_copyltu (X : Mat 𝕜 n n) : toM (copyltu X) = copyltuM (toM X) := by
  ext i j
  simp only [copyltu, toM_apply, Mat.of_get, copyltuM, Matrix.of_apply, Fin.le_def]

theorem copyltuM_transpose (X : Matrix (Fin n) (Fin n) 𝕜) : (copyltuM X)ᵀ = copyltuM X := by
  ext i j
  simp only [copyltuM, Matrix.transpose_apply, Matrix.of_apply]
  rcases lt_trichotomy i j with h | h | h
  · simp [h.le, not_le.mpr h]
  · subst h; simp
  · simp [h.le, not_le.mpr h]

/-- in `tr(A S)` with `S` lower triangular only the entries `Aᵢⱼ`, `i ≤ j`, of `A` count -/
theorem trace_mul_congr_lower {A B S : Matrix (Fin n) (Fin n) 𝕜} (hS : S.IsLowerTriangular)
    (h : ∀ i j, i ≤ j → A i j = B i j) : trace (A * S) = trace (B * S) := by
  simp only [Matrix.trace, Matrix.diag_apply, Matrix.mul_apply]
  refine Finset.sum_congr rfl fun i _ => Finset.sum_congr rfl fun j _ => ?_
  rcases le_or_gt i j with hij | hij
  · rw [h i j hij]
  · rw [isLowerTriangular_iff.mp hS j i hij, mul_zero, mul_zero]

/-- against a lower-triangular matrix, `copyltu X` acts like `Xᵀ`:
`tr(copyltu(X) S) = tr(Xᵀ S) = Σᵢⱼ Xᵢⱼ Sᵢⱼ`. -/
theorem trace_copyltuM_mul (X S : Matrix (Fin n) (Fin n) 𝕜) (hS : S.IsLowerTriangular) :
    trace (copyltuM X * S) = trace (Xᵀ * S) :=
  trace_mul_congr_lower hS fun i j hij => by
    rcases hij.eq_or_lt with rfl | h
    · simp [copyltuM]
    · simp [copyltuM, not_le.mpr h]

theorem trace_tril_mul (G : Mat 𝕜 n n) {D : Matrix (Fin n) (Fin n) 𝕜} (hD : D.IsLowerTriangular) :
    trace ((toM (tril G))ᵀ * D) = trace ((toM G)ᵀ * D) :=
  trace_mul_congr_lower hD fun i j hij => by
    simp only [Matrix.transpose_apply, tril, toM_apply, Mat.of_get, if_pos (Fin.le_def.mp hij)]

theorem trace_mul_add_transpose {W : Matrix (Fin n) (Fin n) 𝕜} (hW : Wᵀ = W) (X : Matrix (Fin n) (Fin n) 𝕜) :
    trace (W * (X + Xᵀ)) = 2 * trace (W * X) := by
  rw [Matrix.mul_add, Matrix.trace_add, ← Matrix.trace_transpose (W * Xᵀ), Matrix.transpose_mul,
    Matrix.transpose_transpose, hW, Matrix.trace_mul_comm X W, two_mul]

/-- the two triangular solves of the backward pass, `Tᵀ Z = M`, `Tᵀ W = Zᵀ` with `M` symmetric,
compute `W = T⁻ᵀ M T⁻¹`. -/
theorem chol_solves {T M Z W : Matrix (Fin n) (Fin n) 𝕜} (hT : IsUnit T.det) (hM : Mᵀ = M)
    (hZ : Tᵀ * Z = M) (hW : Tᵀ * W = Zᵀ) : W = Tᵀ⁻¹ * (M * T⁻¹) := by
  have hTt := Matrix.isUnit_det_transpose T hT
  have hZ' : Z = Tᵀ⁻¹ * M := by
    rw [← hZ, ← Matrix.mul_assoc, Matrix.nonsing_inv_mul _ hTt, Matrix.one_mul]
  rw [← Matrix.one_mul W, ← Matrix.nonsing_inv_mul _ hTt, Matrix.mul_assoc, hW, hZ', Matrix.transpose_mul, hM,
    Matrix.transpose_nonsing_inv, Matrix.transpose_transpose]

/-- the `W` of the backward pass in closed form (`chol_solves`) -/
noncomputable def cholW (T G : Matrix (Fin n) (Fin n) 𝕜) : Matrix (Fin n) (Fin n) 𝕜 := Tᵀ⁻¹ * (copyltuM (Tᵀ * G) * T⁻¹)

theorem chol_vjp_symm (T G : Matrix (Fin n) (Fin n) 𝕜) : (cholW T G)ᵀ = cholW T G := by
  rw [cholW, Matrix.transpose_mul, Matrix.transpose_mul, copyltuM_transpose, Matrix.transpose_nonsing_inv,
    Matrix.transpose_nonsing_inv, Matrix.transpose_transpose, Matrix.mul_assoc]

/-- **the matrix identity behind `cholesky_factorization_backward`.**  `T` invertible lower
triangular, `W = cholW T Ḡ` what the two triangular solves of the code compute; then for every
lower-triangular tangent `dL`, with `dA = dL Tᵀ + T dLᵀ`: `tr((½W)ᵀ dA) = tr(Ḡᵀ dL)`. -/
theorem chol_vjp_matrix (h2 : (2 : 𝕜) ≠ 0) {T G dL : Matrix (Fin n) (Fin n) 𝕜}
    (hT : IsUnit T.det) (hTl : T.IsLowerTriangular) (hdL : dL.IsLowerTriangular) :
    trace (((1 / 2 : 𝕜) • cholW T G)ᵀ * (dL * Tᵀ + T * dLᵀ)) = trace (Gᵀ * dL) := by
  have hTt := Matrix.isUnit_det_transpose T hT
  have hWt := chol_vjp_symm T G
  have hTW : Tᵀ * cholW T G = copyltuM (Tᵀ * G) * T⁻¹ := by
    rw [cholW, ← Matrix.mul_assoc, Matrix.mul_nonsing_inv _ hTt, Matrix.one_mul]
  generalize cholW T G = W at hWt hTW ⊢
  -- the tangent in the coordinates `S = T⁻¹ dL`, again lower triangular
  have : Invertible T := Matrix.invertibleOfIsUnitDet T hT
  have hS : (T⁻¹ * dL).IsLowerTriangular := (blockTriangular_inv_of_blockTriangular hTl).mul hdL
  calc trace (((1 / 2 : 𝕜) • W)ᵀ * (dL * Tᵀ + T * dLᵀ))
      = 1 / 2 * trace (W * (dL * Tᵀ + (dL * Tᵀ)ᵀ)) := by
        rw [Matrix.transpose_smul, hWt, Matrix.smul_mul, Matrix.trace_smul, smul_eq_mul, Matrix.transpose_mul,
          Matrix.transpose_transpose]
    _ = trace (Tᵀ * W * dL) := by
        rw [trace_mul_add_transpose hWt, ← mul_assoc, one_div, inv_mul_cancel₀ h2, one_mul, ← Matrix.mul_assoc,
          Matrix.trace_mul_comm, ← Matrix.mul_assoc]
    _ = trace (copyltuM (Tᵀ * G) * (T⁻¹ * dL)) := by rw [hTW, Matrix.mul_assoc]
    _ = trace (Gᵀ * dL) := by
        rw [trace_copyltuM_mul _ _ hS, Matrix.transpose_mul, Matrix.transpose_transpose, Matrix.mul_assoc,
          ← Matrix.mul_assoc T, Matrix.mul_nonsing_inv _ hT, Matrix.one_mul]

/-- every symmetric perturbation `dA` of `A = T Tᵀ` is `dL Tᵀ + T dLᵀ` for a lower-triangular
`dL` (so quantifying over lower-triangular `dL` in `chol_vjp_matrix` covers every symmetric `dA`). -/
theorem chol_tangent_surjective (h2 : (2 : 𝕜) ≠ 0) {T dA : Matrix (Fin n) (Fin n) 𝕜}
    (hT : IsUnit T.det) (hTl : T.IsLowerTriangular) (hA : dAᵀ = dA) :
    ∃ dL : Matrix (Fin n) (Fin n) 𝕜, dL.IsLowerTriangular ∧ dL * Tᵀ + T * dLᵀ = dA := by
  have hTt := Matrix.isUnit_det_transpose T hT
  set S := T⁻¹ * dA * Tᵀ⁻¹ with hSdef
  have hSt : Sᵀ = S := by
    rw [hSdef, Matrix.transpose_mul, Matrix.transpose_mul, hA, Matrix.transpose_nonsing_inv,
      Matrix.transpose_nonsing_inv, Matrix.transpose_transpose, Matrix.mul_assoc]
  let Φ : Matrix (Fin n) (Fin n) 𝕜 := Matrix.of fun i j => if j < i then S i j else if j = i then S i i / 2 else 0
  have hΦl : Φ.IsLowerTriangular := isLowerTriangular_iff.mpr fun i j hij => by
    simp [Φ, not_lt.mpr hij.le, hij.ne']
  have hΦ : Φ + Φᵀ = S := by
    ext i j
    have hs : S j i = S i j := congrFun (congrFun hSt i) j
    simp only [Φ, Matrix.add_apply, Matrix.transpose_apply, Matrix.of_apply]
    rcases lt_trichotomy i j with h | rfl | h
    · rw [if_neg (lt_asymm h), if_neg h.ne', if_pos h, zero_add, hs]
    · have : NeZero (2 : 𝕜) := ⟨h2⟩
      rw [if_neg (lt_irrefl i), if_pos rfl, add_halves]
    · rw [if_pos h, if_neg (lt_asymm h), if_neg h.ne', add_zero]
  refine ⟨T * Φ, BlockTriangular.mul hTl hΦl, ?_⟩
  have e : T * Φ * Tᵀ + T * (T * Φ)ᵀ = T * (Φ + Φᵀ) * Tᵀ := by
    rw [Matrix.transpose_mul, Matrix.mul_add, Matrix.add_mul, Matrix.mul_assoc T Φᵀ]
  rw [e, hΦ, hSdef]
  simp only [← Matrix.mul_assoc]
  rw [Matrix.mul_nonsing_inv _ hT, Matrix.one_mul, Matrix.mul_assoc, Matrix.nonsing_inv_mul _ hTt,
    Matrix.mul_one]

/-- `cholBackward L L̄ = ½ W`: the two solves `Lᵀ Z = copyltu(Lᵀ L̄)`, `Lᵀ W = Zᵀ` of the code give `W = cholW L L̄` -/
theorem cholBackward_spec (L Lbar : Mat 𝕜 n n) (hL : LowerTri L) (hd : DiagNZ L) :
    toM (cholBackward L Lbar) = (1 / 2 : 𝕜) • cholW (toM L) (toM Lbar) := by
  have hZ : (toM L)ᵀ * toM (solveLowerTM L (copyltu (matMul (transpose L) Lbar))) =
      copyltuM ((toM L)ᵀ * toM Lbar) := by
    rw [solveLowerTM_spec _ _ hL hd, toM_copyltu, toM_matMul, toM_transpose]
  have hW : (toM L)ᵀ * toM (solveLowerTM L (transpose (solveLowerTM L (copyltu (matMul (transpose L) Lbar))))) =
      (toM (solveLowerTM L (copyltu (matMul (transpose L) Lbar))))ᵀ := by
    rw [solveLowerTM_spec _ _ hL hd, toM_transpose]
  rw [cholW, ← chol_solves (isUnit_det_toM hL hd) (copyltuM_transpose _) hZ hW]
  ext i j
  simp only [cholBackward, toM_apply, Mat.of_get, Matrix.smul_apply, smul_eq_mul]
  ring

end SyneTune.GP
