import SyneTune.Base.Basic
/-
The association lists of `Base/Basic.lean` as Python dicts: what `d[k] = v` (`aset`) and `del d[k]`
(`adel`) do to `d.get` (`alookup`), to the entries, to the list of keys and to a count over the values.
A list "is a dict" when its keys are distinct; only the lemmas that say so need it.
-/
namespace SyneTune

theorem mem_of_alookup {β} {k : Nat} {v : β} {l : List (Nat × β)} (h : alookup k l = some v) : (k, v) ∈ l := by
  induction l with
  | nil => cases h
  | cons hd tl ih =>
    obtain ⟨k', v'⟩ := hd
    by_cases hk : k = k'
    · rw [alookup, if_pos hk] at h
      cases h; subst hk; exact List.mem_cons_self
    · rw [alookup, if_neg hk] at h
      exact List.mem_cons_of_mem _ (ih h)

theorem mem_keys_of_alookup {β} {k : Nat} {v : β} {l : List (Nat × β)} (h : alookup k l = some v) : k ∈ l.map (·.1) :=
  List.mem_map.2 ⟨(k, v), mem_of_alookup h, rfl⟩

theorem alookup_eq_none_iff {β} {k : Nat} {l : List (Nat × β)} : alookup k l = none ↔ k ∉ l.map (·.1) := by
  induction l with
  | nil => exact ⟨fun _ => List.not_mem_nil, fun _ => rfl⟩
  | cons hd tl ih =>
    obtain ⟨k', v'⟩ := hd
    rw [alookup, List.map_cons, List.mem_cons, not_or]
    split
    · next h => exact ⟨nofun, fun hn => absurd h hn.1⟩
    · next h => exact ih.trans ⟨fun hn => ⟨h, hn⟩, And.right⟩

/-- in a dict (every key once) an entry is what `get` returns -/
theorem alookup_of_mem {β} {k : Nat} {v : β} {l : List (Nat × β)} (hn : (l.map (·.1)).Nodup) (h : (k, v) ∈ l) :
    alookup k l = some v := by
  induction l with
  | nil => cases h
  | cons hd tl ih =>
    obtain ⟨k', v'⟩ := hd
    rw [List.map_cons, List.nodup_cons] at hn
    rcases List.mem_cons.1 h with h1 | h2
    · cases h1; exact if_pos rfl
    · have hne : k ≠ k' := fun he => hn.1 (he ▸ List.mem_map.2 ⟨(k, v), h2, rfl⟩)
      rw [alookup, if_neg hne]
      exact ih hn.2 h2

theorem alookup_append {β} (t : Nat) (p q : List (Nat × β)) :
    alookup t (p ++ q) = (alookup t p).or (alookup t q) := by
  induction p with
  | nil => simp [alookup]
  | cons x xs ih =>
    obtain ⟨k, v⟩ := x
    by_cases h : t = k <;> simp [alookup, h, ih]

theorem mem_getD_alookup {β : Type} {t : Nat} {l : List (Nat × List β)} {a : β} (h : a ∈ (alookup t l).getD []) :
    ∃ q, alookup t l = some q ∧ a ∈ q := by
  cases hq : alookup t l with
  | none => rw [hq] at h; cases h
  | some q => rw [hq] at h; exact ⟨q, rfl, h⟩

theorem alookup_map_key {β} (f : Nat → β) (ids : List Nat) (t : Nat) :
    alookup t (ids.map fun u => (u, f u)) = if t ∈ ids then some (f t) else none := by
  induction ids with
  | nil => rfl
  | cons u us ih => by_cases h : t = u <;> simp [alookup, ih, h]

theorem alookup_mapv {β γ} (f : β → γ) (k : Nat) (l : List (Nat × β)) :
    alookup k (l.map (fun p => (p.1, f p.2))) = (alookup k l).map f := by
  induction l with
  | nil => rfl
  | cons x xs ih =>
    simp only [List.map_cons, alookup]
    split
    · rfl
    · exact ih

theorem alookup_aset {β} (k u : Nat) (v : β) (l : List (Nat × β)) :
    alookup u (aset k v l) = if u = k then some v else alookup u l := by
  induction l with
  | nil => rfl
  | cons hd tl ih =>
    obtain ⟨k', v'⟩ := hd
    by_cases hk : k = k'
    · subst hk
      by_cases hu : u = k <;> simp [aset, alookup, hu]
    · by_cases hu : u = k'
      · subst hu
        simp [aset, alookup, hk, Ne.symm hk]
      · simp [aset, alookup, hk, hu, ih]

theorem alookup_aset_self {β} (k : Nat) (v : β) (l : List (Nat × β)) : alookup k (aset k v l) = some v := by
  rw [alookup_aset, if_pos rfl]

theorem alookup_aset_ne {β} {k u : Nat} (h : u ≠ k) (v : β) (l : List (Nat × β)) :
    alookup u (aset k v l) = alookup u l := by
  rw [alookup_aset, if_neg h]

theorem alookup_aset_eq_some {β} {k u : Nat} {v w : β} {l : List (Nat × β)} :
    alookup u (aset k v l) = some w ↔ (u = k ∧ w = v) ∨ (u ≠ k ∧ alookup u l = some w) := by
  rw [alookup_aset]
  split
  · next h => simp [h, eq_comm]
  · next h => simp [h]

theorem aset_eq_self {β} {k : Nat} {v : β} {l : List (Nat × β)} (h : alookup k l = some v) : aset k v l = l := by
  induction l with
  | nil => cases h
  | cons x xs ih =>
    obtain ⟨a, b⟩ := x
    by_cases hk : k = a
    · rw [alookup, if_pos hk] at h
      cases h; rw [aset, if_pos hk, hk]
    · rw [alookup, if_neg hk] at h
      rw [aset, if_neg hk, ih h]

theorem aset_mapv {β γ} (f : β → γ) (k : Nat) (v : β) (l : List (Nat × β)) :
    aset k (f v) (l.map (fun p => (p.1, f p.2))) = (aset k v l).map (fun p => (p.1, f p.2)) := by
  induction l with
  | nil => rfl
  | cons x xs ih =>
    simp only [List.map_cons, aset]
    split
    · rfl
    · rw [ih]; rfl

theorem mem_aset {β} {kv : Nat × β} {k : Nat} {v : β} {l : List (Nat × β)} (h : kv ∈ aset k v l) :
    kv = (k, v) ∨ kv ∈ l := by
  induction l with
  | nil => exact Or.inl (List.mem_singleton.1 h)
  | cons hd tl ih =>
    obtain ⟨k', v'⟩ := hd
    rw [aset] at h
    split at h
    · exact (List.mem_cons.1 h).imp_right (List.mem_cons_of_mem _)
    · rcases List.mem_cons.1 h with h | h
      · exact Or.inr (h ▸ List.mem_cons_self)
      · exact (ih h).imp_right (List.mem_cons_of_mem _)

theorem keys_aset {β} (k : Nat) (v : β) (l : List (Nat × β)) :
    (aset k v l).map (·.1) = if k ∈ l.map (·.1) then l.map (·.1) else l.map (·.1) ++ [k] := by
  induction l with
  | nil => rfl
  | cons hd tl ih =>
    obtain ⟨k', v'⟩ := hd
    rw [aset, List.map_cons]
    split
    · next hk => rw [if_pos (List.mem_cons.2 (.inl hk)), List.map_cons, hk]
    · next hk =>
      rw [List.map_cons, ih]
      by_cases hm : k ∈ tl.map (·.1)
      · rw [if_pos hm, if_pos (List.mem_cons_of_mem _ hm)]
      · rw [if_neg hm, if_neg fun hc => (List.mem_cons.1 hc).elim hk hm]; rfl

theorem nodup_snoc {α} {x : α} {l : List α} (h : l.Nodup) (hx : x ∉ l) : (l ++ [x]).Nodup :=
  List.nodup_append.2 ⟨h, List.pairwise_singleton _ x, fun a ha b hb => by
    rw [List.mem_singleton.1 hb]; exact fun he => hx (he ▸ ha)⟩

theorem perm_cons_eraseIdx {α} : ∀ {l : List α} {p : Nat} {c : α}, l[p]? = some c → (c :: l.eraseIdx p).Perm l
  | a :: as, 0, c, h => by
    obtain rfl : a = c := by simpa using h
    exact .refl _
  | a :: as, p + 1, c, h => (List.Perm.swap a c _).trans ((perm_cons_eraseIdx (l := as) (by simpa using h)).cons a)

theorem nodup_keys_aset {β} (k : Nat) (v : β) {l : List (Nat × β)} (h : (l.map (·.1)).Nodup) :
    ((aset k v l).map (·.1)).Nodup := by
  rw [keys_aset]
  split
  · exact h
  · exact nodup_snoc h ‹_›

theorem countP_aset {β} (f : β → Bool) (k : Nat) (v' : β) (l : List (Nat × β)) :
    (aset k v' l).countP (fun e => f e.2) + ((alookup k l).elim 0 fun v => (f v).toNat) =
      l.countP (fun e => f e.2) + (f v').toNat := by
  induction l with
  | nil => cases h : f v' <;> simp [aset, alookup, h]
  | cons hd tl ih =>
    obtain ⟨k', w⟩ := hd
    by_cases hk : k = k'
    · rw [alookup, if_pos hk, aset, if_pos hk, List.countP_cons, List.countP_cons]
      cases h1 : f w <;> cases h2 : f v' <;> simp [h1]
    · rw [alookup, if_neg hk, aset, if_neg hk, List.countP_cons, List.countP_cons]
      omega

theorem countP_aset_of_alookup {β} (f : β → Bool) {k : Nat} {v : β} (v' : β) {l : List (Nat × β)}
    (h : alookup k l = some v) :
    (aset k v' l).countP (fun e => f e.2) + (f v).toNat = l.countP (fun e => f e.2) + (f v').toNat := by
  simpa [h] using countP_aset f k v' l

theorem adel_sublist {β} (k : Nat) (l : List (Nat × β)) : (adel k l).Sublist l := by
  induction l with
  | nil => exact .slnil
  | cons hd tl ih =>
    obtain ⟨k', v'⟩ := hd
    rw [adel]
    split
    · exact List.sublist_cons_self _ _
    · exact ih.cons_cons _

theorem mem_adel {β} {k : Nat} {l : List (Nat × β)} {kv : Nat × β} (h : kv ∈ adel k l) : kv ∈ l :=
  (adel_sublist k l).subset h

theorem nodup_keys_adel {β} (k : Nat) {l : List (Nat × β)} (h : (l.map (·.1)).Nodup) :
    ((adel k l).map (·.1)).Nodup :=
  h.sublist ((adel_sublist k l).map _)

theorem alookup_adel_ne {β} {k u : Nat} (h : u ≠ k) (l : List (Nat × β)) :
    alookup u (adel k l) = alookup u l := by
  induction l with
  | nil => rfl
  | cons hd tl ih =>
    obtain ⟨k', v'⟩ := hd
    rw [adel]
    split
    · rename_i hk
      exact (if_neg (hk ▸ h)).symm
    · rw [alookup, alookup, ih]

/-- `adel` removes the first entry with the key only, so the key is gone only in a dict -/
theorem alookup_adel_self {β} {k : Nat} {l : List (Nat × β)} (hn : (l.map (·.1)).Nodup) :
    alookup k (adel k l) = none := by
  induction l with
  | nil => rfl
  | cons hd tl ih =>
    obtain ⟨k', v'⟩ := hd
    rw [List.map_cons, List.nodup_cons] at hn
    rw [adel]
    split
    · rename_i hk
      exact alookup_eq_none_iff.2 (hk ▸ hn.1)
    · rename_i hk
      rw [alookup, if_neg hk]
      exact ih hn.2

theorem alookup_adel {β} {l : List (Nat × β)} (hn : (l.map (·.1)).Nodup) (k u : Nat) :
    alookup u (adel k l) = if u = k then none else alookup u l := by
  split
  · rename_i hu
    rw [hu]; exact alookup_adel_self hn
  · exact alookup_adel_ne ‹_› l

theorem alookup_adel_eq_some {β} {k u : Nat} {w : β} {l : List (Nat × β)} (hn : (l.map (·.1)).Nodup) :
    alookup u (adel k l) = some w ↔ u ≠ k ∧ alookup u l = some w := by
  rw [alookup_adel hn]
  split
  · next h => simp [h]
  · next h => simp [h]

/-- without distinct keys a later entry with the key may surface, never a key that was not there -/
theorem isSome_alookup_adel {β} {k u : Nat} {l : List (Nat × β)} (h : (alookup u (adel k l)).isSome = true) :
    (alookup u l).isSome = true := by
  cases hl : alookup u l with
  | some _ => rfl
  | none =>
    have hu := alookup_eq_none_iff.1 hl
    rw [alookup_eq_none_iff.2 fun hm => hu (((adel_sublist k l).map _).subset hm)] at h
    exact h

end SyneTune
