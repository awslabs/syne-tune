import SyneTune.Lemmas.TunerBudgetIds
import SyneTune.Lemmas.TunerKInv
/-
Behind C01b: the counters of the tuning status against the loop's own bookkeeping.
* `NInv`: under the contracts B and K the keys of `last_trial_status_seen` are `0, 1, …, num_trials_started − 1`
  in this order, and `num_trials_started` is the backend's `new_trial_id()` except between the return of
  `start_trial` and the `tuning_status.update` that records the new trial (one less there; if
  `on_trial_add` / `on_start_trial` raises, one less for good).
* `running_count`: `num_trials_running` against the size of the running set.
* `FIds`: a run that ends without an exception has issued exactly `new_trial_id()` `start_trial` commands.
-/
namespace SyneTune.Tuner.Cnt
open SyneTune SyneTune.Tuner AL

/-- `start_trial` has returned, the new trial is not yet in the tuning status -/
def addPend (p : Pc) : Nat := if p = .addS ∨ p = .startCb then 1 else 0

structure NInv (s : LState) : Prop where
  rng : keys s.status.last = List.range s.status.numStarted
  cntL : finPc s.pc = false → s.status.numStarted + addPend s.pc = s.nStarted
  cntF : finPc s.pc = true → s.status.numStarted ≤ s.nStarted ∧ s.nStarted ≤ s.status.numStarted + 1 ∧
    (s.err = none → s.nStarted = s.status.numStarted)

theorem addPend_le (p : Pc) : addPend p ≤ 1 := by unfold addPend; split <;> omega

variable {s s' : LState} {a : Ans}

/-- the window is entered when `start_trial` returns and left from `on_start_trial` -/
theorem addPend_flow {p q : Pc} (hf : flow p q = true) (hq : finPc q = false) (h1 : p ≠ .startCb)
    (h2 : q ≠ .addS) : addPend q = addPend p :=
  flow_rel (R := fun p q => finPc q = false → p ≠ .startCb → q ≠ .addS → addPend q = addPend p) (by decide +kernel) hf hq h1 h2

theorem NInv.frame (h : NInv s) (t : Trans s a s') (hst : s'.status = s.status)
    (hne : finPc s'.pc = false → s.pc ≠ .startCb) : NInv s' := by
  have hfl := t.flow
  refine ⟨hst ▸ h.rng, fun hq => ?_, fun hq => ?_⟩
  · have hc := h.cntL (fin_back hfl hq)
    rw [hst]
    -- `addPend` is 0 at `suggest`, `startCmd`, `copyCmd` and 1 at `addS`; `nStarted` grows exactly when `addS` is entered
    cases t.ids with
    | sugg tgt src _ n => rw [n, tgt, ← hc, src]; rfl
    | copy tgt src _ n => rw [n, tgt, ← hc, src]; rfl
    | started tgt src n =>
      rw [n, tgt, ← hc]
      rcases src with src | src <;> rw [src] <;> rfl
    | other nst ncp n toFin =>
      rw [n, ← hc, addPend_flow hfl hq (hne hq) fun hc' => ?_]
      have : s.pc = .startCmd ∨ s.pc = .copyCmd :=
        flow_rel (R := fun p q => q = .addS → p = .startCmd ∨ p = .copyCmd) (by decide +kernel) hfl hc'
      exact nomatch hq.symm.trans (toFin this)
  · rw [hst]
    rw [(t.ids.fin hq).1]
    cases hp : finPc s.pc
    · have hc := h.cntL hp
      have hle := addPend_le s.pc
      refine ⟨by omega, by omega, fun he => ?_⟩
      rcases t.into_fin_ok hp hq he with h1 | h1 <;> (rw [h1] at hc; exact hc.symm)
    · obtain ⟨c1, c2, c3⟩ := h.cntF hp
      exact ⟨c1, c2, fun he => c3 (t.err_mono he)⟩

/-- the end of `_process_new_results`: keys and their order are kept -/
theorem NInv.afterUpdate (h : NInv s) (hS : SInv s) (hp : s.pc = .afterUpd) : NInv (Tuner.afterUpdate s) := by
  have hn := afterUpdate_numStarted hS hp
  have hk := hS.keysAfterUpdate hp
  have hc := h.cntL (by rw [hp]; rfl)
  rw [hp] at hc
  have hc' : s.status.numStarted = s.nStarted := hc
  refine ⟨by rw [hk, hn]; exact h.rng, fun hq => ?_, fun hq => ?_⟩
  · rw [hn]
    show _ = s.nStarted
    rcases afterUpdate_pc s with hh | hh | hh
    · rw [hh]; exact hc'
    · rw [hh] at hq; cases hq
    · rw [hh]; exact hc'
  · rw [hn]
    show _ ≤ s.nStarted ∧ s.nStarted ≤ _ ∧ (_ → s.nStarted = _)
    exact ⟨by omega, by omega, fun _ => hc'.symm⟩

/-- the new trial is recorded: its id is the next natural number -/
theorem NInv.started {s : LState} (h : NInv s) (hK : KBody s) (hp : s.pc = .startCb) : NInv (scheduled s s.sId) := by
  obtain ⟨h1, h2⟩ := hK.rg.regAdd (Or.inr hp)
  have hc := h.cntL (by rw [hp]; rfl)
  rw [hp] at hc
  have hc' : s.status.numStarted + 1 = s.nStarted := hc
  have hsid : s.sId = s.status.numStarted := by omega
  have hlen := (scheduled_numStarted s s.sId).trans (if_neg h2)
  refine ⟨?_, fun _ => ?_, (fun hq => nomatch hq)⟩
  · rw [hlen, scheduled_last, keys_aset_of_not_mem h2, h.rng, hsid, List.range_succ]
  · rw [hlen, scheduled_nStarted]; exact hc'

/-- a paused trial is resumed: it is recorded already -/
theorem NInv.resumed {s : LState} (h : NInv s) (hK : KBody s) (hp : s.pc = .resumeCb) : NInv (scheduled s s.sId) := by
  have h1 := (hK.rg.regResumeCb hp).1
  have hmem : s.sId ∈ keys s.status.last := mem_keys_of_alookup h1
  have hc := h.cntL (by rw [hp]; rfl)
  rw [hp] at hc
  have hc' : s.status.numStarted = s.nStarted := hc
  have hlen := (scheduled_numStarted s s.sId).trans (if_pos hmem)
  refine ⟨?_, fun _ => ?_, (fun hq => nomatch hq)⟩
  · rw [hlen, scheduled_last, keys_aset_of_mem hmem]; exact h.rng
  · rw [hlen, scheduled_nStarted]; exact hc'

theorem NInv_trans (h : NInv s) (t : Trans s a s') (hS : SInv s) (hK : KInv s) : NInv s' := by
  have hfr := h.frame t
  cases t.cnt with
  | same f _ _ hsrc => exact hfr f.status fun _ hc => by rw [hc] at hsrc; cases hsrc
  -- also if `on_trial_add` or `on_start_trial` raises: then one trial of the backend is not recorded, for good
  | toFin f _ hq => exact hfr f.status fun hq' => nomatch hq.symm.trans hq'
  | updated hp => exact h.afterUpdate hS hp
  | scheduled hp => exact hp.elim (fun hp => h.started (hK (hp ▸ rfl)) hp) (fun hp => h.resumed (hK (hp ▸ rfl)) hp)
  | marked hp hst _ _ hn he hq =>
    obtain ⟨c1, c2, c3⟩ := h.cntF (hp ▸ rfl)
    refine ⟨?_, fun hh => (nomatch (hq.elim (· ▸ rfl) (· ▸ rfl) : finPc s'.pc = true).symm.trans hh), fun _ => ?_⟩
    · rw [hst, numStarted_markStopped, markStopped_keys]; exact h.rng
    · rw [hst, numStarted_markStopped, hn, he]; exact ⟨c1, c2, c3⟩
  | polled hp f _ => exact hfr f.status fun _ => hp ▸ nofun
  | enterLoop hp _ | askClock hp | askBusy hp => exact hfr rfl fun _ => hp ▸ nofun
  | evaluated hp _ | toSleep hp | enterFor hp _ _ _ => exact hfr rfl fun _ => hp.elim (· ▸ nofun) (· ▸ nofun)

theorem NInv.reach {c : Cfg} {s : LState} (h : Reach c (fun s a => BOk s a ∧ KOk s a) s) : NInv s :=
  h.inv
    ⟨by simp [init, keys, TStatus.numStarted], fun _ => by simp [init, TStatus.numStarted, addPend], (fun hq => nomatch hq)⟩
    (fun _ _ h => ⟨h.rng, h.cntL, h.cntF⟩)
    fun h _ ih t => NInv_trans ih t (.reach (h.mono fun _ _ => And.left)) (.reach h)

/-- `num_trials_running` plus the running trials recorded as `stopping` is the size of the running set, when the
running trials are recorded as in progress / stopping and every trial recorded as in progress is running -/
theorem running_count (l : List (Nat × St)) (R : List Nat) (hl : (keys l).Nodup) (hR : R.Nodup)
    (hact : ∀ t ∈ R, Active (alookup t l)) (hip : ∀ t, alookup t l = some .inProgress → t ∈ R) :
    (l.filter (fun kv => kv.2 == .inProgress)).length + (R.filter (fun t => alookup t l == some .stopping)).length
      = R.length := by
  have h1 : (l.filter (fun kv => kv.2 == .inProgress)).length = (R.filter (fun t => alookup t l == some .inProgress)).length := by
    have e : ((l.filter (fun kv => kv.2 == St.inProgress)).map (·.1)).length = (l.filter (fun kv => kv.2 == .inProgress)).length := by
      simp
    rw [← e]
    apply List.Perm.length_eq
    rw [List.perm_ext_iff_of_nodup (List.Nodup.sublist (List.Sublist.map _ List.filter_sublist) hl)
      (List.Nodup.sublist List.filter_sublist hR)]
    intro t
    constructor
    · intro ht
      obtain ⟨kv, hkv, rfl⟩ := List.mem_map.mp ht
      obtain ⟨hm, hv⟩ := List.mem_filter.mp hkv
      have hv' : kv.2 = .inProgress := by simpa using hv
      have hlk : alookup kv.1 l = some .inProgress := by rw [← hv']; exact alookup_of_mem hl hm
      exact List.mem_filter.mpr ⟨hip _ hlk, by rw [hlk]; rfl⟩
    · intro ht
      obtain ⟨_, hv⟩ := List.mem_filter.mp ht
      have hlk : alookup t l = some .inProgress := by simpa using hv
      exact List.mem_map.mpr ⟨(t, .inProgress), List.mem_filter.mpr ⟨mem_of_alookup hlk, rfl⟩, rfl⟩
  rw [h1]
  have h2 := List.length_eq_countP_add_countP (fun t => alookup t l == some St.inProgress) (l := R)
  rw [List.countP_eq_length_filter, List.countP_eq_length_filter] at h2
  have h3 : R.filter (fun a => decide ¬(alookup a l == some St.inProgress) = true) =
      R.filter (fun t => alookup t l == some .stopping) := by
    apply List.filter_congr
    intro t ht
    rcases hact t ht with h | h <;> rw [h] <;> rfl
  rw [h3] at h2
  exact h2.symm

theorem filter_stopping_nil (ts : TStatus) (R : List Nat) (hs : ts.numIn (· == .stopping) = 0) :
    (R.filter (fun t => alookup t ts.last == some .stopping)).length = 0 := by
  rw [List.length_eq_zero_iff, List.filter_eq_nil_iff]
  intro t _ ht
  have hlk : alookup t ts.last = some .stopping := by simpa using ht
  unfold TStatus.numIn at hs
  rw [List.length_eq_zero_iff, List.filter_eq_nil_iff] at hs
  exact hs _ (mem_of_alookup hlk) (by simp)

def FIds (s : LState) : Prop := finPc s.pc = true → s.err = none → (startIds s.log).length = s.nStarted

theorem FIds_step (s : LState) (a : Ans) (h : FIds s) (hI : IdsInv s) : FIds (step s a) := by
  intro hq he
  rw [step_startIds, step_eq_log] at *
  have t := next_trans s a
  have hn := t.ids.fin hq
  rw [if_neg hn.2, List.append_nil]
  show _ = (next s a).nStarted
  rw [hn.1]
  cases hp : finPc s.pc
  · have hc := hI.cnt hp
    rcases t.into_fin_ok hp hq he with h1 | h1 <;> (rw [hc, h1]; rfl)
  · exact h hp (t.err_mono he)

theorem FIds.reach {c : Cfg} {P : LState → Ans → Prop} {s : LState} (h : Reach c P s) : FIds s := by
  induction h with
  | init => exact fun hq => nomatch hq
  | step h _ ih => exact FIds_step _ _ ih (.reach h)

end SyneTune.Tuner.Cnt
