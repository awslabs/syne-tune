import SyneTune.Model.SyncScheduler
import SyneTune.Lemmas.AssocList
import SyneTune.Lemmas.SyncManager
/- Invariant of `SynchronousHyperbandScheduler` (bracket manager, `_trial_to_pending_slot`, keys of
`_trial_to_config`) and the four steps of which every operation is composed: `next_job`,
registration of the job, removal of a pending entry, report of a result to the manager.
Between the steps the invariant holds up to one handed-out slot which is not registered
(`InvExc … (some (id, p))`).  The slots of the manager by position (`SlotAt`), and what `next_job` and
`on_result` do to them (`C14S.Frame`). -/
namespace SyneTune.Sync
open SyneTune

theorem mem_keys_of_alookup {β} (k : Nat) (v : β) (l : List (Nat × β)) (h : alookup k l = some v) :
    k ∈ l.map (·.1) :=
  SyneTune.mem_keys_of_alookup h

def Manager.HasId (g : Manager) (t : Nat) : Prop := ∃ br ∈ g.brackets, br.HasId t

/-- trial `t` owes the result for the slot `sl` of bracket `br`; `rg`, `x` are the current
rung and the slot's content. -/
structure PendSlot (g : Manager) (br : Bracket) (t : Nat) (sl : SlotInRung) (rg : Rung) (x : Slot) : Prop where
  hrg : br.rungs[br.current]? = some rg
  ri : sl.rungIndex = br.current
  lt : sl.slotIndex < br.firstFree
  lvl : sl.level = rg.level
  hsl : rg.slots[sl.slotIndex]? = some x
  tid : sl.tid = some t
  stid : x.tid = none ∨ x.tid = some t
  empty : x.metric = none
  fresh : x.tid = none → ¬ g.HasId t

/-- Invariant over the manager `g`, `_trial_to_pending_slot = P` and the keys `C` of
`_trial_to_config`.  With `exc = some (id, p)` the slot `p` of bracket `id` has been handed
out by `next_job` but is not (or no longer) registered in `P`. -/
structure InvExc (g : Manager) (P : List (Nat × (Nat × SlotInRung))) (C : List Nat)
    (exc : Option (Nat × Nat)) : Prop where
  mwf : MWF g
  pend : ∀ t id sl, alookup t P = some (id, sl) →
    ∃ br rg x, g.brackets[id]? = some br ∧ PendSlot g br t sl rg x ∧ exc ≠ some (id, sl.slotIndex)
  keys : (P.map (·.1)).Nodup
  distinct : ∀ t1 t2 id sl1 sl2, alookup t1 P = some (id, sl1) → alookup t2 P = some (id, sl2) →
    sl1.slotIndex = sl2.slotIndex → t1 = t2
  owed : ∀ id br rg p x, g.brackets[id]? = some br → br.rungs[br.current]? = some rg →
    rg.slots[p]? = some x → p < br.firstFree → x.metric = none → exc ≠ some (id, p) →
    ∃ t sl, alookup t P = some (id, sl) ∧ sl.slotIndex = p
  ids : ∀ t, g.HasId t → t ∈ C
  pkeys : ∀ t v, alookup t P = some v → t ∈ C
  disjoint : ∀ (i j : Nat) (bi bj : Bracket) (t : Nat), g.brackets[i]? = some bi → g.brackets[j]? = some bj →
    bi.HasId t → bj.HasId t → i = j

def Inv (s : Sched) : Prop := InvExc s.mgr s.pending s.configs none

theorem Manager.hasId_of_getElem? {g : Manager} {id : Nat} {br : Bracket} {t : Nat}
    (hbr : g.brackets[id]? = some br) (ht : br.HasId t) : g.HasId t :=
  ⟨br, List.mem_of_getElem? hbr, ht⟩

/-- bracket `j` holds trial `t` -/
def Manager.HasIdAt (g : Manager) (j t : Nat) : Prop := ∃ b, g.brackets[j]? = some b ∧ b.HasId t

theorem Manager.hasId_iff {g : Manager} {t : Nat} : g.HasId t ↔ ∃ k, g.HasIdAt k t :=
  ⟨fun ⟨b, hb, ht⟩ => (List.mem_iff_getElem?.mp hb).elim fun k hk => ⟨k, b, hk, ht⟩,
   fun ⟨_, _, hk, ht⟩ => Manager.hasId_of_getElem? hk ht⟩

theorem InvExc.disjointAt {g P C exc} (hI : InvExc g P C exc) {i j t : Nat} (hi : g.HasIdAt i t)
    (hj : g.HasIdAt j t) : i = j :=
  hi.elim fun bi ⟨hbi, hti⟩ => hj.elim fun bj ⟨hbj, htj⟩ => hI.disjoint i j bi bj t hbi hbj hti htj

theorem Bracket.hasId_of_slot {br : Bracket} {k p : Nat} {rg : Rung} {x : Slot} {t : Nat}
    (hrg : br.rungs[k]? = some rg) (hx : rg.slots[p]? = some x) (ht : x.tid = some t) : br.HasId t :=
  ⟨rg, List.mem_of_getElem? hrg, (mem_ids_iff rg t).mpr ⟨p, x, hx, ht⟩⟩

theorem PendSlot.mono {g g' : Manager} {br t sl rg x} (h : PendSlot g br t sl rg x)
    (hg : g'.HasId t → g.HasId t) : PendSlot g' br t sl rg x :=
  ⟨h.hrg, h.ri, h.lt, h.lvl, h.hsl, h.tid, h.stid, h.empty, fun hx hc => h.fresh hx (hg hc)⟩

theorem PendSlot.bump {g : Manager} {br t sl rg x} (h : PendSlot g br t sl rg x) :
    PendSlot g (bump br) t sl rg x :=
  ⟨h.hrg, h.ri, Nat.lt_succ_of_lt h.lt, h.lvl, h.hsl, h.tid, h.stid, h.empty, h.fresh⟩

theorem hasIdAt_after {g g' : Manager} {id : Nat} {br br' res rg x np} (hbr : g.brackets[id]? = some br)
    (hl : LegalRes br res rg x) (hc : ResultCase br res rg br' np)
    (hr : MgrRes g id br' g') (j t : Nat) : g'.HasIdAt j t ↔ g.HasIdAt j t ∨ (j = id ∧ res.tid = some t) := by
  have hid := resultCase_hasId hl hc t
  constructor
  · rintro ⟨b, hj, ht⟩
    rcases hr.after j b hj with ⟨rfl, rfl⟩ | ⟨_, h2⟩ | ⟨h3, _⟩
    · exact (hid.mp ht).imp (fun h => ⟨br, hbr, h⟩) fun h => ⟨rfl, h⟩
    · exact Or.inl ⟨b, h2, ht⟩
    · exact absurd ht (h3.noId t)
  · rintro (⟨b, hj, ht⟩ | ⟨rfl, h⟩)
    · by_cases hji : j = id
      · obtain rfl := Option.mem_unique hbr (hji ▸ hj)
        exact ⟨br', hji ▸ hr.atId hbr, hid.mpr (Or.inl ht)⟩
      · exact ⟨b, hr.keep j b hji hj, ht⟩
    · exact ⟨br', hr.atId hbr, hid.mpr (Or.inr h)⟩

/-- `on_result` of the manager has answered the handed-out, still empty slot `res.slotIndex` of the
current rung of bracket `id`, for a trial which is new to the manager if the slot held no id -/
structure ReportedAt (g : Manager) (id : Nat) (res : SlotInRung) (g' : Manager) (np : Option (List (Option Nat)))
    (spec : List (Nat × Nat)) (br : Bracket) (rg : Rung) (x : Slot) (br' : Bracket) : Prop where
  hbr : g.brackets[id]? = some br
  wf : BWF spec br
  legal : LegalRes br res rg x
  fresh : x.tid = none → ∀ u, res.tid = some u → ¬ g.HasId u
  case : ResultCase br res rg br' np
  mgr : MgrRes g id br' g'

def Reported (g : Manager) (id : Nat) (res : SlotInRung) (g' : Manager) (np : Option (List (Option Nat))) : Prop :=
  ∃ spec br rg x br', ReportedAt g id res g' np spec br rg x br'

theorem Reported.sys {g g' : Manager} {id res np} (h : Reported g id res g' np) :
    g'.bracketRungs = g.bracketRungs ∧ g'.mode = g.mode := by
  obtain ⟨_, _, _, _, _, hr⟩ := h
  exact ⟨hr.mgr.sys, hr.mgr.mode⟩

/-- The slot `p` of bracket `id` is handed out and not registered in `P`
(`exc = some (id, p)`); reporting a legal result for it does not raise and re-establishes
the full invariant. -/
theorem report_inv {g : Manager} {P : List (Nat × (Nat × SlotInRung))} {C : List Nat} {id : Nat}
    {br : Bracket} {res : SlotInRung} {rg : Rung} {x : Slot}
    (hbr : g.brackets[id]? = some br) (ho : SlotOpen br res rg x) (hI : InvExc g P C (some (id, res.slotIndex)))
    (hfreshG : x.tid = none → ∀ t, res.tid = some t → ¬ g.HasId t)
    (hnotPend : ∀ t, res.tid = some t → alookup t P = none)
    (hC : ∀ t, res.tid = some t → t ∈ C) :
    ∃ g' np, g.onResult id res = .ok (g', np) ∧ Reported g id res g' np ∧ InvExc g' P C none := by
  have hl : LegalRes br res rg x := ⟨ho, fun hx t ht hc => hfreshG hx t ht (Manager.hasId_of_getElem? hbr hc)⟩
  obtain ⟨g', np, br', hres, hcase, hmwf', hmr⟩ := mgr_onResult_spec hI.mwf id br res rg x hbr hl
  obtain ⟨spec, hspec, hb, hmode⟩ := hI.mwf.wf id br hbr
  refine ⟨g', np, hres, ⟨spec, br, rg, x, br', hbr, hb, hl, hfreshG, hcase, hmr⟩, ?_⟩
  have hafter := hmr.after
  have hat := hasIdAt_after hbr hl hcase hmr
  have hids : ∀ t, g'.HasId t ↔ g.HasId t ∨ res.tid = some t := fun t => by
    simp only [Manager.hasId_iff, hat, exists_or, exists_eq_left]
  refine {
    mwf := hmwf', keys := hI.keys, distinct := hI.distinct, pkeys := hI.pkeys,
    ids := fun t ht => ((hids t).mp ht).elim (hI.ids t) (hC t), pend := ?pend, owed := ?owed, disjoint := ?disjoint }
  case pend =>
    intro t' id' sl' hlook
    obtain ⟨b', rg', x', hb', hps, hexc⟩ := hI.pend t' id' sl' hlook
    have hps' : PendSlot g' b' t' sl' rg' x' := hps.mono fun hc =>
      ((hids t').mp hc).resolve_right fun h => by rw [hnotPend t' h] at hlook; cases hlook
    by_cases hid' : id' = id
    · subst hid'
      obtain rfl := Option.mem_unique hbr hb'
      obtain rfl := Option.mem_unique hl.hrg hps.hrg
      -- another slot of the rung answered: the rung stays open
      have hqne : sl'.slotIndex ≠ res.slotIndex := fun h => hexc (by rw [h])
      obtain rfl := stay_of_other_pending hb hl hcase sl'.slotIndex x' hps.hsl hqne hps.empty
      exact ⟨_, _, x', hmr.atId hbr, { hps' with hrg := written_cur hl, hsl := (write_slot_ne hqne).trans hps.hsl },
        nofun⟩
    · exact ⟨b', rg', x', hmr.keep id' b' hid' hb', hps', nofun⟩
  case owed =>
    intro j b rgj q xq hbj hrgj hxq hqlt hxm _
    rcases hafter j b hbj with ⟨rfl, rfl⟩ | ⟨hji, hbold⟩ | ⟨hfr, _⟩
    · cases hcase with
      | stay h =>
        obtain rfl := Option.mem_unique (written_cur hl) hrgj
        rcases getElem?_set_eq_some hxq with ⟨_, rfl⟩ | ⟨hqne, hxq⟩
        · have := hl.hm; rw [show res.metric = none from hxm] at this; cases this
        · exact hI.owed j br rg q xq hbr hl.hrg hxq hqlt hxm fun h => hqne (by cases h; rfl)
      -- `Bracket.finished` / `Bracket.promoted` have `firstFree = 0`
      | last h _ => exact absurd hqlt (Nat.not_lt_zero _)
      | promote h _ _ _ _ _ _ => exact absurd hqlt (Nat.not_lt_zero _)
    · exact hI.owed j b rgj q xq hbold hrgj hxq hqlt hxm fun h => hji (by cases h; rfl)
    · exact absurd (hfr.firstFree ▸ hqlt) (Nat.not_lt_zero _)
  case disjoint =>
    have key : ∀ {j t}, g.HasIdAt j t → res.tid = some t → j = id := by
      rintro j t ⟨bj, hbj, htj⟩ h
      rcases hl.tid with hx | hx
      · exact absurd (Manager.hasId_of_getElem? hbj htj) (hfreshG hx t h)
      · exact hI.disjoint j id bj br t hbj hbr htj (Bracket.hasId_of_slot hl.hrg hl.hsl (hx.trans h))
    intro i j bi bj t hbi hbj hti htj
    rcases (hat i t).mp ⟨bi, hbi, hti⟩ with hi | ⟨rfl, hi⟩
    · rcases (hat j t).mp ⟨bj, hbj, htj⟩ with hj | ⟨rfl, hj⟩
      · exact hI.disjointAt hi hj
      · exact key hi hj
    · rcases (hat j t).mp ⟨bj, hbj, htj⟩ with hj | ⟨rfl, _⟩
      · exact (key hj hi).symm
      · rfl

/-- every bracket is still there after `next_job`, with the same rungs -/
theorem JobStruct.fwd {g g1 : Manager} {id br rg x} (h : JobStruct g g1 id br rg x) {j : Nat} {b : Bracket}
    (hb : g.brackets[j]? = some b) : ∃ b', g1.brackets[j]? = some b' ∧ b'.rungs = b.rungs := by
  by_cases hj : j = id
  · subst hj
    rcases h.src with ho | ⟨rfl, _⟩
    · exact ⟨bump br, h.atId, Option.mem_unique ho hb ▸ rfl⟩
    · exact absurd (getElem?_lt hb) (Nat.lt_irrefl _)
  · exact ⟨b, h.keep j b hj hb, rfl⟩

theorem bump_hasId (br : Bracket) (t : Nat) : (bump br).HasId t ↔ br.HasId t := Iff.rfl

theorem JobStruct.hasIdAt_iff {g g1 : Manager} {id br rg x} (h : JobStruct g g1 id br rg x) (k t : Nat) :
    g1.HasIdAt k t ↔ g.HasIdAt k t := by
  constructor
  · rintro ⟨bk, hk, ht⟩
    rcases h.after k bk hk with ⟨rfl, rfl⟩ | ⟨_, hold⟩
    · exact h.src.elim (fun ho => ⟨br, ho, ht⟩) fun ⟨_, hfr⟩ => absurd ht (hfr.noId t)
    · exact ⟨bk, hold, ht⟩
  · rintro ⟨bk, hk, r, hr, ht⟩
    obtain ⟨b', hb', hrungs⟩ := h.fwd hk
    exact ⟨b', hb', r, hrungs ▸ hr, ht⟩

theorem JobStruct.empty {g g1 : Manager} {id br rg x} (h : JobStruct g g1 id br rg x) : x.metric = none :=
  h.ok.elim fun _ ⟨_, hb, _⟩ => (hb.free rg h.hrg).2 br.firstFree x h.hsl (Nat.le_refl _)

theorem JobStruct.hasId {g g1 : Manager} {id br rg x} (h : JobStruct g g1 id br rg x) (t : Nat)
    (hx : x.tid = some t) : br.HasId t ∧ g1.HasId t :=
  have h1 := Bracket.hasId_of_slot h.hrg h.hsl hx
  ⟨h1, Manager.hasId_of_getElem? h.atId h1⟩

/-- `next_job` under the invariant: a job is returned; afterwards the invariant holds
except that the handed-out slot is not yet registered. -/
theorem nextJob_inv {g : Manager} {P : List (Nat × (Nat × SlotInRung))} {C : List Nat}
    (hI : InvExc g P C none) :
    ∃ g1 id br rg x, g.nextJob = .ok (g1, id, slotOf br rg x) ∧ JobStruct g g1 id br rg x ∧
      InvExc g1 P C (some (id, br.firstFree)) := by
  obtain ⟨g1, id, br, rg, x, hjob, hs, hmwf1⟩ := nextJob_job hI.mwf
  have hids : ∀ t, g1.HasId t ↔ g.HasId t := fun t => by simp only [Manager.hasId_iff, hs.hasIdAt_iff]
  refine ⟨g1, id, br, rg, x, hjob, hs, ?_⟩
  refine {
    mwf := hmwf1, keys := hI.keys, distinct := hI.distinct, pkeys := hI.pkeys,
    ids := fun t ht => hI.ids t ((hids t).mp ht), pend := ?pend, owed := ?owed, disjoint := ?disjoint }
  case pend =>
    intro t' id' sl' hlook
    obtain ⟨b', rg', x', hb', hps, _⟩ := hI.pend t' id' sl' hlook
    have hps' := hps.mono (hids t').mp
    by_cases hid' : id' = id
    · subst hid'
      rcases hs.src with ho | ⟨rfl, _⟩
      · obtain rfl := Option.mem_unique ho hb'
        exact ⟨_, rg', x', hs.atId, hps'.bump,
          fun h => absurd (Prod.mk.inj (Option.some.inj h)).2 (Nat.ne_of_gt hps.lt)⟩
      · exact absurd (getElem?_lt hb') (Nat.lt_irrefl _)
    · exact ⟨b', rg', x', hs.keep id' b' hid' hb', hps', fun h => hid' (Prod.mk.inj (Option.some.inj h)).1.symm⟩
  case owed =>
    intro j b rgj q xq hbj hrgj hxq hqlt hxm hexc
    rcases hs.after j b hbj with ⟨rfl, rfl⟩ | ⟨hji, hbold⟩
    · have hq' : q < br.firstFree :=
        Nat.lt_of_le_of_ne (Nat.le_of_lt_succ hqlt) fun h => hexc (by rw [h])
      rcases hs.src with ho | ⟨_, hfr⟩
      · exact hI.owed j br rgj q xq ho hrgj hxq hq' hxm nofun
      · exact absurd (hfr.firstFree ▸ hq') (Nat.not_lt_zero _)
    · exact hI.owed j b rgj q xq hbold hrgj hxq hqlt hxm nofun
  case disjoint =>
    intro i j bi bj t hbi hbj hti htj
    exact hI.disjointAt ((hs.hasIdAt_iff i t).mp ⟨bi, hbi, hti⟩) ((hs.hasIdAt_iff j t).mp ⟨bj, hbj, htj⟩)

/-- registering the handed-out job for trial `t` completes the invariant -/
theorem register_inv {g g1 : Manager} {P : List (Nat × (Nat × SlotInRung))} {C C' : List Nat} {id : Nat}
    {br : Bracket} {rg : Rung} {x : Slot} (t : Nat)
    (hI : InvExc g1 P C (some (id, br.firstFree))) (hj : JobStruct g g1 id br rg x)
    (hnot : alookup t P = none) (hsub : ∀ c ∈ C, c ∈ C') (htC : t ∈ C')
    (hx : x.tid = some t ∨ (x.tid = none ∧ ¬ g1.HasId t)) :
    InvExc g1 (aset t (id, { slotOf br rg x with tid := some t }) P) C' none := by
  have hexc : ∀ {t' sl'}, alookup t' P = some (id, sl') → sl'.slotIndex ≠ br.firstFree := fun h he =>
    (hI.pend _ _ _ h).elim fun _ ⟨_, _, _, _, hexc⟩ => hexc (by rw [he])
  refine {
    mwf := hI.mwf, keys := nodup_keys_aset _ _ hI.keys, ids := fun c hc => hsub c (hI.ids c hc), disjoint := hI.disjoint,
    pend := ?pend, distinct := ?distinct, owed := ?owed, pkeys := ?pkeys }
  case pend =>
    intro t' id' sl' hlook
    rcases alookup_aset_eq_some.mp hlook with ⟨rfl, h⟩ | ⟨_, h⟩
    · cases h
      exact ⟨bump br, rg, x, hj.atId,
        { hrg := hj.hrg, ri := rfl, lt := Nat.lt_succ_self _, lvl := rfl, hsl := hj.hsl, tid := rfl,
          stid := hx.symm.imp (·.1) (fun h => h), empty := hj.empty,
          fresh := fun hxn => hx.elim (fun h => by rw [h] at hxn; cases hxn) (·.2) }, nofun⟩
    · obtain ⟨b', rg', x', hb', hps, _⟩ := hI.pend t' id' sl' h
      exact ⟨b', rg', x', hb', hps, nofun⟩
  case distinct =>
    intro t1 t2 id' sl1 sl2 h1 h2 heq
    rcases alookup_aset_eq_some.mp h1 with ⟨rfl, e1⟩ | ⟨_, e1⟩
    · rcases alookup_aset_eq_some.mp h2 with ⟨rfl, _⟩ | ⟨_, e2⟩
      · rfl
      · cases e1; exact absurd heq.symm (hexc e2)
    · rcases alookup_aset_eq_some.mp h2 with ⟨rfl, e2⟩ | ⟨_, e2⟩
      · cases e2; exact absurd heq (hexc e1)
      · exact hI.distinct t1 t2 id' sl1 sl2 e1 e2 heq
  case owed =>
    intro j b rgj q xq hbj hrgj hxq hqlt hxm _
    by_cases hjq : (j, q) = (id, br.firstFree)
    · cases hjq
      exact ⟨t, _, alookup_aset_self _ _ _, rfl⟩
    · obtain ⟨t', sl', hl', hq'⟩ := hI.owed j b rgj q xq hbj hrgj hxq hqlt hxm fun h => hjq (Option.some.inj h).symm
      have hne : t' ≠ t := fun h => by rw [h, hnot] at hl'; cases hl'
      exact ⟨t', sl', (alookup_aset_ne hne _ _).trans hl', hq'⟩
  case pkeys =>
    intro t' v hlook
    rcases alookup_aset_eq_some.mp hlook with ⟨rfl, _⟩ | ⟨_, h⟩
    · exact htC
    · exact hsub t' (hI.pkeys t' v h)

/-- taking trial `t`'s entry out of `P` leaves its slot as the exception -/
theorem adel_inv {g : Manager} {P : List (Nat × (Nat × SlotInRung))} {C : List Nat}
    (hI : InvExc g P C none) (t id : Nat) (sl : SlotInRung) (hlook : alookup t P = some (id, sl)) :
    InvExc g (adel t P) C (some (id, sl.slotIndex)) := by
  have hold : ∀ {t' v}, alookup t' (adel t P) = some v → t' ≠ t ∧ alookup t' P = some v :=
    (alookup_adel_eq_some hI.keys).mp
  refine {
    mwf := hI.mwf, keys := nodup_keys_adel t hI.keys, ids := hI.ids, disjoint := hI.disjoint,
    pkeys := fun t' v h' => hI.pkeys t' v (hold h').2, pend := ?pend, distinct := ?distinct, owed := ?owed }
  case pend =>
    intro t' id' sl' h'
    obtain ⟨hne, h'⟩ := hold h'
    obtain ⟨b', rg', x', hb', hps, _⟩ := hI.pend t' id' sl' h'
    refine ⟨b', rg', x', hb', hps, fun h => ?_⟩
    obtain ⟨rfl, hq⟩ := Prod.mk.inj (Option.some.inj h)
    exact hne (hI.distinct t' t id sl' sl h' hlook hq.symm)
  case distinct =>
    intro t1 t2 id' sl1 sl2 h1 h2 heq
    exact hI.distinct t1 t2 id' sl1 sl2 (hold h1).2 (hold h2).2 heq
  case owed =>
    intro j b rgj q xq hbj hrgj hxq hqlt hxm hexc
    obtain ⟨t', sl', hl', hq'⟩ := hI.owed j b rgj q xq hbj hrgj hxq hqlt hxm nofun
    have hne : t' ≠ t := fun h => by
      subst h; cases Option.mem_unique hlook hl'; exact hexc (by rw [hq'])
    exact ⟨t', sl', (alookup_adel_ne hne _).trans hl', hq'⟩

/-- slot `(id, k, p)` of the manager holds `y` -/
def Manager.SlotAt (g : Manager) (id k p : Nat) (y : Slot) : Prop :=
  ∃ br rg, g.brackets[id]? = some br ∧ br.rungs[k]? = some rg ∧ rg.slots[p]? = some y

theorem slotAt_functional {g : Manager} {j k p : Nat} {y y' : Slot} (h : g.SlotAt j k p y)
    (h' : g.SlotAt j k p y') : y = y' := by
  obtain ⟨b, rg, hb, hk, hp⟩ := h
  obtain ⟨b', rg', hb', hk', hp'⟩ := h'
  obtain rfl := Option.mem_unique hb hb'
  obtain rfl := Option.mem_unique hk hk'
  exact Option.mem_unique hp hp'

theorem slotAt_hasId {g : Manager} {j k p : Nat} {y : Slot} {t : Nat} (h : g.SlotAt j k p y)
    (ht : y.tid = some t) : g.HasId t := by
  obtain ⟨b, rg, hb, hk, hp⟩ := h
  exact Manager.hasId_of_getElem? hb (Bracket.hasId_of_slot hk hp ht)

theorem InvExc.slot_unique {g P C exc} (hI : InvExc g P C exc) {t j j' k k' p p' : Nat} {y y' : Slot}
    (h : g.SlotAt j k p y) (h' : g.SlotAt j' k' p' y') (ht : y.tid = some t) (ht' : y'.tid = some t) :
    j = j' ∧ (k = k' → p = p' ∧ y = y') := by
  obtain ⟨b, r, hb, hk, hp⟩ := h
  obtain ⟨b', r', hb', hk', hp'⟩ := h'
  obtain rfl := hI.disjoint j j' b b' t hb hb' (Bracket.hasId_of_slot hk hp ht) (Bracket.hasId_of_slot hk' hp' ht')
  refine ⟨rfl, ?_⟩
  rintro rfl
  cases Option.mem_unique hb hb'; cases Option.mem_unique hk hk'
  obtain ⟨_, -, hw, -⟩ := hI.mwf.wf j b hb
  obtain rfl := nodup_idx r.slots t (hw.nodup r (List.mem_of_getElem? hk)) p p' y y' hp hp' ht ht'
  exact ⟨rfl, Option.mem_unique hp hp'⟩

theorem PendSlot.slotAt {g : Manager} {id : Nat} {br t sl rg x} (h : PendSlot g br t sl rg x)
    (hbr : g.brackets[id]? = some br) : g.SlotAt id sl.rungIndex sl.slotIndex x :=
  ⟨br, rg, hbr, h.ri ▸ h.hrg, h.hsl⟩

theorem InvExc.pend_slotAt {g P C exc} (hI : InvExc g P C exc) {t id : Nat} {sl : SlotInRung}
    (hlook : alookup t P = some (id, sl)) : ∃ x, g.SlotAt id sl.rungIndex sl.slotIndex x ∧ x.metric = none :=
  (hI.pend t id sl hlook).elim fun _ ⟨_, x, hbr, hps, _⟩ => ⟨x, hps.slotAt hbr, hps.empty⟩

theorem JobStruct.slotAt {g g1 : Manager} {id : Nat} {br : Bracket} {rg : Rung} {x : Slot}
    (hj : JobStruct g g1 id br rg x) {o : Option Nat} (hx : x.tid = o) :
    g1.SlotAt id br.current br.firstFree ⟨o, none⟩ := by
  obtain ⟨xt, xm⟩ := x
  cases hx; cases (show xm = none from hj.empty)
  exact ⟨_, rg, hj.atId, hj.hrg, hj.hsl⟩

/-- a finished slot of a running trial lies in the same bracket, in a lower rung; a trial
started for its slot has none -/
theorem finished_below {s : Sched} (hI : Inv s) {t id : Nat} {sl : SlotInRung}
    (hlook : alookup t s.pending = some (id, sl)) {j k p : Nat} {m : Metric}
    (hf : s.mgr.SlotAt j k p ⟨some t, some m⟩) : j = id ∧ k < sl.rungIndex := by
  obtain ⟨br, rg, x, hbr, hps, _⟩ := hI.pend t id sl hlook
  rcases hps.stid with hn | hs
  · exact absurd (slotAt_hasId hf rfl) (hps.fresh hn)
  · -- in the current rung `t` sits in the slot it is registered for, which is empty
    obtain ⟨rfl, h2⟩ := hI.slot_unique hf (hps.slotAt hbr) rfl hs
    obtain ⟨b, rgk, hb, hk, -⟩ := hf
    cases Option.mem_unique hbr hb
    obtain ⟨_, -, hw, -⟩ := hI.mwf.wf j br hbr
    refine ⟨rfl, Nat.lt_of_le_of_ne ?_ fun hkc => ?_⟩
    · exact hps.ri ▸ hw.le_cur hk
    · have := hps.empty; rw [← (h2 hkc).2] at this; cases this

-- `Frame` lives in the namespace of the composition with the searcher (C14); C13-sync and `Keeps` use it too
namespace C14S
/-- `g'` arises from `g` by handing out / answering slots: every slot except the answered one
`ans` is where it was, and every occupied slot with a trial id was there before or is the
answered one -/
structure Frame (g g' : Manager) (ans : Option (Nat × Nat × Nat)) : Prop where
  fwd : ∀ j k p y, g.SlotAt j k p y → ans ≠ some (j, k, p) → g'.SlotAt j k p y
  bwd : ∀ j k p t m, g'.SlotAt j k p ⟨some t, some m⟩ →
    g.SlotAt j k p ⟨some t, some m⟩ ∨ ans = some (j, k, p)

theorem Frame.refl (g : Manager) : Frame g g none :=
  ⟨fun _ _ _ _ h _ => h, fun _ _ _ _ _ h => Or.inl h⟩

theorem Frame.trans {g g1 g' : Manager} {a : Option (Nat × Nat × Nat)} (h1 : Frame g g1 none)
    (h2 : Frame g1 g' a) : Frame g g' a :=
  ⟨fun j k p y h hne => h2.fwd j k p y (h1.fwd j k p y h nofun) hne,
   fun j k p t m h => (h2.bwd j k p t m h).imp_left fun h' => (h1.bwd j k p t m h').resolve_right nofun⟩
end C14S

theorem frame_job {g g1 : Manager} {id : Nat} {br : Bracket} {rg : Rung} {x : Slot}
    (hs : JobStruct g g1 id br rg x) : C14S.Frame g g1 none := by
  refine ⟨?_, ?_⟩
  · rintro j k p y ⟨b, rgk, hb, hk, hp⟩ -
    obtain ⟨b', hb', hrungs⟩ := hs.fwd hb
    exact ⟨b', rgk, hb', hrungs ▸ hk, hp⟩
  rintro j k p t m ⟨b, rgk, hb, hk, hp⟩
  left
  rcases hs.after j b hb with ⟨rfl, rfl⟩ | ⟨_, hold⟩
  · rcases hs.src with ho | ⟨_, hfr⟩
    · exact ⟨br, rgk, ho, hk, hp⟩
    · exact absurd (Bracket.hasId_of_slot hk hp rfl) (hfr.noId t)
  · exact ⟨b, rgk, hold, hk, hp⟩

theorem Reported.slotAt {g g' : Manager} {id : Nat} {res np} (h : Reported g id res g' np) :
    g'.SlotAt id res.rungIndex res.slotIndex ⟨res.tid, res.metric⟩ := by
  obtain ⟨spec, br, rg, x, br', hr⟩ := h
  exact ⟨br', rg.write res, hr.mgr.atId hr.hbr, hr.legal.ri ▸ resultCase_rungs hr.case (written_cur hr.legal),
    write_slot_self hr.legal⟩

theorem frame_report {g g' : Manager} {id : Nat} {res : SlotInRung} {np : Option (List (Option Nat))}
    (h : Reported g id res g' np) : C14S.Frame g g' (some (id, res.rungIndex, res.slotIndex)) := by
  obtain ⟨spec, br, rg, x, br', hr⟩ := h
  refine ⟨?_, ?_⟩
  · rintro j k p y ⟨b, rgk, hb, hk, hp⟩ hne
    by_cases hj : j = id
    · subst hj
      obtain rfl := Option.mem_unique hr.hbr hb
      by_cases hkc : k = br.current
      · subst hkc
        obtain rfl := Option.mem_unique hk hr.legal.hrg
        exact ⟨br', _, hr.mgr.atId hr.hbr, resultCase_rungs hr.case (written_cur hr.legal),
          (write_slot_ne fun h => hne (by rw [hr.legal.ri, h])).trans hp⟩
      · exact ⟨br', rgk, hr.mgr.atId hr.hbr, resultCase_rungs hr.case ((written_other k hkc).trans hk), hp⟩
    · exact ⟨b, rgk, hr.mgr.keep j b hj hb, hk, hp⟩
  rintro j k p t m ⟨b, rgk, hb, hk, hp⟩
  rcases hr.mgr.after j b hb with ⟨rfl, rfl⟩ | ⟨_, hold⟩ | ⟨hfr, _⟩
  · -- the answered bracket: a rung after the write (the answered slot or an old one), or the new rung, which holds no result
    rcases resultCase_rungs_of hr.case hk with hk | hnone
    · rcases written_slot hr.legal.hrg hk hp with ⟨rfl, rfl⟩ | ⟨rgk0, h1, h2⟩
      · exact Or.inr (by rw [hr.legal.ri])
      · exact Or.inl ⟨br, rgk0, hr.hbr, h1, h2⟩
    · cases hnone _ (List.mem_of_getElem? hp)
  · exact Or.inl ⟨b, rgk, hold, hk, hp⟩
  · exact absurd (Bracket.hasId_of_slot hk hp rfl) (hfr.noId t)

end SyneTune.Sync
