import SyneTune.Lemmas.TunerStruct
/-
Invariant relating what the scheduler has been told about a trial (`kst`), the status the
loop records for it (`status.last`), the backend status as far as commands and polls tell
(`bst`), the running set and `trials_scheduler_stopped` — under the contracts
`B` (backend) and `K` (scheduler).  Behind C01 `lifecycle`, `resume_only_paused`, `notify_partial`.

All clauses but the register ones speak about one trial at a time (`KAt`) and read the state through the
entries of that trial only; most transitions touch one trial (`KBody.at_one`).
-/
namespace SyneTune.Tuner
open SyneTune AL

/-- **contract K** (scheduler): `resume(id)` is only suggested for a trial whose run the
scheduler itself ended with PAUSE and which has not been resumed or reported failed since. -/
def KOk (s : LState) (a : Ans) : Prop :=
  s.pc = .suggest → ∀ id cfg, a = .sugg (.resume id cfg) → alookup id s.kst = some .paused

/-- the trial is in `done_trials` of the iteration under way -/
def InDone (s : LState) (t : Nat) : Prop := updPc s.pc = true ∧ t ∈ keys s.done

/-- a status that a running trial may have in the loop's records -/
def Active (o : Option St) : Prop := o = some .inProgress ∨ o = some .stopping

/-- running trials are known to the scheduler as live (unless their end has just been told) -/
structure KLive (s : LState) : Prop where
  live : ∀ t ∈ s.running, InDone s t ∨ alookup t s.kst = some .live ∨ (s.pc = .completeCb ∧ t = s.t)
  stp : ∀ t ∈ s.running, t ∈ s.schedStopped → InDone s t
  pausedRun : ∀ t, alookup t s.kst = some .paused → t ∉ s.running ∨ InDone s t

/-- the recorded status: a running trial is recorded as active, every recorded id has been started, and a trial the
scheduler paused is recorded as `paused` (in `done` until the iteration writes it to `status.last`) -/
structure KLast (s : LState) : Prop where
  act : ∀ t ∈ s.running, Active (alookup t s.status.last)
  boundL : ∀ t ∈ keys s.status.last, t < s.nStarted
  pausedSt : ∀ t, alookup t s.kst = some .paused →
      ((updPc s.pc = true ∧ alookup t s.done = some .paused) ∨ (¬ InDone s t ∧ alookup t s.status.last = some .paused))

/-- a trial in `trials_scheduler_stopped` is dead for the scheduler, and the scheduler knows started trials only -/
structure KDead (s : LState) : Prop where
  dead : ∀ t ∈ s.schedStopped, alookup t s.kst = some .dead
  boundK : ∀ t ∈ keys s.kst, t < s.nStarted

/-- a trial the scheduler paused is paused at the backend; `regPause`: so is the one whose PAUSE is being carried
out, once the command has been sent -/
structure KBst (s : LState) : Prop where
  pausedBst : ∀ t, alookup t s.kst = some .paused → alookup t s.bst = some .paused
  regPause : s.pc = .removeP → alookup s.cur.tid s.bst = some .paused

/-- the register clauses: what `sId` and `t` stand for at the control points that start, resume or complete a trial -/
structure KReg (s : LState) : Prop where
  regStart : (s.pc = .startCmd ∨ s.pc = .copyCmd) → s.sId = s.nStarted
  regAdd : (s.pc = .addS ∨ s.pc = .startCb) → s.sId + 1 = s.nStarted ∧ s.sId ∉ keys s.status.last
  regAddK : s.pc = .addS → s.sId ∉ keys s.kst
  regStartCb : s.pc = .startCb → alookup s.sId s.kst = some .live
  regResume : s.pc = .resumeCmd → alookup s.sId s.kst = some .paused
  regResumeCb : s.pc = .resumeCb → alookup s.sId s.status.last = some .paused ∧ alookup s.sId s.kst = some .live
  regCcb : s.pc = .completeCb → alookup s.t s.kst ≠ some .paused

/-- the invariant inside the loop: running set against scheduler (`lv`) and against the records (`ls`), stopped
trials and id bounds (`dd`), backend status (`bs`), registers (`rg`) -/
structure KBody (s : LState) : Prop where
  lv : KLive s
  ls : KLast s
  dd : KDead s
  bs : KBst s
  rg : KReg s

/-- the invariant is about the loop; nothing is claimed inside the `finally` block -/
def KInv (s : LState) : Prop := finPc s.pc = false → KBody s

/-- control points with a clause of `KReg` -/
def regPc : Pc → Bool
  | .startCmd | .copyCmd | .addS | .startCb | .resumeCmd | .resumeCb | .completeCb => true
  | _ => false

/-- the clauses of `KLive`, `KLast`, `KDead`, `KBst.pausedBst` for the one trial `t` -/
structure KAt (s : LState) (t : Nat) : Prop where
  live : t ∈ s.running → InDone s t ∨ alookup t s.kst = some .live ∨ (s.pc = .completeCb ∧ t = s.t)
  stp : t ∈ s.running → t ∈ s.schedStopped → InDone s t
  pausedRun : alookup t s.kst = some .paused → t ∉ s.running ∨ InDone s t
  act : t ∈ s.running → Active (alookup t s.status.last)
  boundL : t ∈ keys s.status.last → t < s.nStarted
  pausedSt : alookup t s.kst = some .paused →
      ((updPc s.pc = true ∧ alookup t s.done = some .paused) ∨ (¬ InDone s t ∧ alookup t s.status.last = some .paused))
  dead : t ∈ s.schedStopped → alookup t s.kst = some .dead
  boundK : t ∈ keys s.kst → t < s.nStarted
  pausedBst : alookup t s.kst = some .paused → alookup t s.bst = some .paused

theorem KBody.at {s : LState} (h : KBody s) (t : Nat) : KAt s t :=
  ⟨h.lv.live t, h.lv.stp t, h.lv.pausedRun t, h.ls.act t, h.ls.boundL t, h.ls.pausedSt t, h.dd.dead t, h.dd.boundK t,
   h.bs.pausedBst t⟩

theorem KBody.of_at {s : LState} (h : ∀ t, KAt s t) (hp : s.pc = .removeP → alookup s.cur.tid s.bst = some .paused)
    (hr : KReg s) : KBody s :=
  ⟨⟨fun t => (h t).live, fun t => (h t).stp, fun t => (h t).pausedRun⟩,
   ⟨fun t => (h t).act, fun t => (h t).boundL, fun t => (h t).pausedSt⟩, ⟨fun t => (h t).dead, fun t => (h t).boundK⟩,
   ⟨fun t => (h t).pausedBst, hp⟩, hr⟩

theorem KAt.of_live {s : LState} {t : Nat} (hk : alookup t s.kst = some .live) (hss : t ∉ s.schedStopped)
    (act : t ∈ s.running → Active (alookup t s.status.last)) (boundL : t ∈ keys s.status.last → t < s.nStarted)
    (boundK : t < s.nStarted) : KAt s t :=
  have hnp : alookup t s.kst ≠ some .paused := fun hp => nomatch hk.symm.trans hp
  ⟨fun _ => .inr (.inl hk), fun _ hs => absurd hs hss, fun hp => absurd hp hnp, act, boundL, fun hp => absurd hp hnp,
   fun hs => absurd hs hss, fun _ => boundK, fun hp => absurd hp hnp⟩

/-- the clauses about `t` read the state through its entries for `t` only (the backend status only while the
scheduler has the trial as paused), and `done_trials` only as far as `hin`, `hpd` say -/
theorem KAt.congr {s s' : LState} {t : Nat} (h : KAt s t) (hr : t ∈ s'.running ↔ t ∈ s.running)
    (hk : alookup t s'.kst = alookup t s.kst) (hl : alookup t s'.status.last = alookup t s.status.last)
    (hss : t ∈ s'.schedStopped ↔ t ∈ s.schedStopped) (hin : InDone s' t ↔ InDone s t)
    (hpd : updPc s.pc = true ∧ alookup t s.done = some .paused → updPc s'.pc = true ∧ alookup t s'.done = some .paused)
    (hb : alookup t s.kst = some .paused → alookup t s'.bst = alookup t s.bst) (hn : s.nStarted ≤ s'.nStarted)
    (hcc : s.pc = .completeCb → t = s.t → s'.pc = .completeCb ∧ t = s'.t) : KAt s' t := by
  refine ⟨fun ht => ?_, fun ht hs => hin.mpr (h.stp (hr.mp ht) (hss.mp hs)), fun hp => ?_, fun ht => hl ▸ h.act (hr.mp ht),
    fun ht => Nat.lt_of_lt_of_le (h.boundL ((mem_keys_congr hl).mp ht)) hn, fun hp => ?_,
    fun hs => hk ▸ h.dead (hss.mp hs), fun ht => Nat.lt_of_lt_of_le (h.boundK ((mem_keys_congr hk).mp ht)) hn,
    fun hp => hb (hk ▸ hp) ▸ h.pausedBst (hk ▸ hp)⟩
  · rcases h.live (hr.mp ht) with h1 | h1 | h1
    · exact .inl (hin.mpr h1)
    · exact .inr (.inl (hk ▸ h1))
    · exact .inr (.inr (hcc h1.1 h1.2))
  · exact (h.pausedRun (hk ▸ hp)).imp (fun h1 => h1 ∘ hr.mp) hin.mpr
  · exact (h.pausedSt (hk ▸ hp)).imp hpd fun h1 => ⟨h1.1 ∘ hin.mp, hl ▸ h1.2⟩

theorem KAt.frame {s s' : LState} {t : Nat} (h : KAt s t) (hr : t ∈ s'.running ↔ t ∈ s.running)
    (hk : alookup t s'.kst = alookup t s.kst) (hl : alookup t s'.status.last = alookup t s.status.last)
    (hss : t ∈ s'.schedStopped ↔ t ∈ s.schedStopped) (hd : alookup t s'.done = alookup t s.done)
    (hb : alookup t s.kst = some .paused → alookup t s'.bst = alookup t s.bst) (hn : s.nStarted ≤ s'.nStarted)
    (hu : updPc s'.pc = updPc s.pc) (hcc : s.pc = .completeCb → t = s.t → s'.pc = .completeCb ∧ t = s'.t) :
    KAt s' t :=
  h.congr hr hk hl hss (by unfold InDone; rw [hu, mem_keys_congr hd]) (by rw [hu, hd]; exact id) hb hn hcc

/-- a field that is not given did not change at all -/
structure KSameBut (s s' : LState) (c : Nat) : Prop where
  running : ∀ t, t ≠ c → (t ∈ s'.running ↔ t ∈ s.running) := by exact fun _ _ => .rfl
  kst : ∀ t, t ≠ c → alookup t s'.kst = alookup t s.kst := by exact fun _ _ => rfl
  last : ∀ t, t ≠ c → alookup t s'.status.last = alookup t s.status.last := by exact fun _ _ => rfl
  schedStopped : ∀ t, t ≠ c → (t ∈ s'.schedStopped ↔ t ∈ s.schedStopped) := by exact fun _ _ => .rfl
  done : ∀ t, t ≠ c → alookup t s'.done = alookup t s.done := by exact fun _ _ => rfl
  bst : ∀ t, t ≠ c → alookup t s'.bst = alookup t s.bst := by exact fun _ _ => rfl
  nStarted : s.nStarted ≤ s'.nStarted := by exact Nat.le_refl _

/-- a transition that touches the entries of the trial `c` only: the other trials keep their
clauses, those of `c` are checked in the new state -/
theorem KBody.at_one {s s' : LState} (h : KBody s) (c : Nat) (e : KSameBut s s' c)
    (hu : updPc s'.pc = updPc s.pc) (hcc : s.pc = .completeCb → s.t = c) (hc : KAt s' c)
    (hp : s'.pc = .removeP → alookup s'.cur.tid s'.bst = some .paused) (hreg : KReg s') : KBody s' := by
  refine .of_at (fun t => ?_) hp hreg
  by_cases ht : t = c
  · exact ht ▸ hc
  · exact (h.at t).frame (e.running t ht) (e.kst t ht) (e.last t ht) (e.schedStopped t ht) (e.done t ht)
      (fun _ => e.bst t ht) e.nStarted hu fun hq h1 => absurd (h1.trans (hcc hq)) ht

theorem KReg.out {s' : LState} (hp : regPc s'.pc = false) : KReg s' := by
  have hne : ∀ {p : Pc}, regPc p = true → s'.pc ≠ p := Pc.ne_of_class hp
  refine ⟨?_, ?_, ?_, ?_, ?_, ?_, ?_⟩
  · rintro (hc | hc) <;> exact absurd hc (hne rfl)
  · rintro (hc | hc) <;> exact absurd hc (hne rfl)
  · intro hc; exact absurd hc (hne rfl)
  · intro hc; exact absurd hc (hne rfl)
  · intro hc; exact absurd hc (hne rfl)
  · intro hc; exact absurd hc (hne rfl)
  · intro hc; exact absurd hc (hne rfl)

/-- `KReg` at the control point `p`: only the clauses of `p` have to be given, the others are vacuous -/
theorem KReg.only {s' : LState} (p : Pc) (hp : s'.pc = p)
    (regStart : (p = .startCmd ∨ p = .copyCmd) → s'.sId = s'.nStarted := by rintro (hc | hc) <;> cases hc)
    (regAdd : (p = .addS ∨ p = .startCb) → s'.sId + 1 = s'.nStarted ∧ s'.sId ∉ keys s'.status.last := by
      rintro (hc | hc) <;> cases hc)
    (regAddK : p = .addS → s'.sId ∉ keys s'.kst := by nofun)
    (regStartCb : p = .startCb → alookup s'.sId s'.kst = some .live := by nofun)
    (regResume : p = .resumeCmd → alookup s'.sId s'.kst = some .paused := by nofun)
    (regResumeCb : p = .resumeCb → alookup s'.sId s'.status.last = some .paused ∧ alookup s'.sId s'.kst = some .live := by
      nofun)
    (regCcb : p = .completeCb → alookup s'.t s'.kst ≠ some .paused := by nofun) : KReg s' := by
  subst hp
  exact ⟨regStart, regAdd, regAddK, regStartCb, regResume, regResumeCb, regCcb⟩

/-- the step leaves alone every field the clauses of `KBody` read -/
structure KSame (s s' : LState) : Prop where
  running : s'.running = s.running
  kst : s'.kst = s.kst
  last : s'.status.last = s.status.last
  schedStopped : s'.schedStopped = s.schedStopped
  done : s'.done = s.done
  bst : s'.bst = s.bst
  nStarted : s'.nStarted = s.nStarted

/-- `hu`, `hcc`, `hrp`: `done_trials` does not change its meaning, the source is not the one control point at which a
clause names `t`, and the target is not the one at which `regPause` speaks -/
theorem KBody.regMove {s s' : LState} (h : KBody s) (hu : updPc s'.pc = updPc s.pc) (hcc : s.pc ≠ .completeCb)
    (hrp : s'.pc ≠ .removeP) (hreg : KReg s') (e : KSame s s' := by exact ⟨rfl, rfl, rfl, rfl, rfl, rfl, rfl⟩) :
    KBody s' :=
  .of_at (fun t => (h.at t).frame (e.running ▸ .rfl) (e.kst ▸ rfl) (e.last ▸ rfl) (e.schedStopped ▸ .rfl) (e.done ▸ rfl)
    (fun _ => e.bst ▸ rfl) (e.nStarted ▸ Nat.le_refl _) hu fun hc => absurd hc hcc) (fun hc => absurd hc hrp) hreg

theorem KBody.move {s s' : LState} (h : KBody s) (hu : updPc s'.pc = updPc s.pc) (hreg : regPc s'.pc = false)
    (hcc : s.pc ≠ .completeCb) (hrp : s'.pc ≠ .removeP)
    (e : KSame s s' := by exact ⟨rfl, rfl, rfl, rfl, rfl, rfl, rfl⟩) : KBody s' :=
  h.regMove hu hcc hrp (.out hreg) e

structure CurFacts (s : LState) : Prop where
  live : alookup s.cur.tid s.kst = some .live
  notStopped : s.cur.tid ∉ s.schedStopped
  lt : s.cur.tid < s.nStarted

theorem cur_facts {s : LState} (hS : SInv s) (h : KBody s) (hp : curResPc s.pc = true) : CurFacts s := by
  have hu := curRes_upd _ hp
  obtain ⟨hsd, hnd⟩ := hS.cur hp
  obtain ⟨kv, hkv, hk⟩ := List.mem_map.mp hsd
  have hrun : s.cur.tid ∈ s.running := by rw [← hk]; exact (hS.sdRun hu kv hkv).1
  have hnotcc : s.pc ≠ .completeCb := by intro hc; rw [hc] at hp; cases hp
  refine ⟨?_, fun hc => hnd (h.lv.stp _ hrun hc).2, ?_⟩
  · rcases h.lv.live _ hrun with h1 | h1 | h1
    · exact absurd h1.2 hnd
    · exact h1
    · exact absurd h1.1 hnotcc
  · apply h.ls.boundL
    rcases h.ls.act _ hrun with h1 | h1 <;> exact mem_keys_of_alookup h1

theorem item_facts {s : LState} (hS : SInv s) (h : KBody s) (hp : curItemPc s.pc = true) :
    s.t ∈ s.running ∧ s.t < s.nStarted := by
  have hu := curItem_upd _ hp
  obtain ⟨pre, st, hsd, _, _⟩ := hS.item hp
  have hmem : (s.t, st) ∈ s.sd := by rw [hsd]; simp
  have hrun := (hS.sdRun hu _ hmem).1
  refine ⟨hrun, ?_⟩
  apply h.ls.boundL
  rcases h.ls.act _ hrun with h1 | h1 <;> exact mem_keys_of_alookup h1

/-- outside `_process_new_results`, a trial that the scheduler has as paused is paused for the
backend and in the loop's records, is not running and was not stopped by the scheduler -/
theorem KBody.of_paused {s : LState} (h : KBody s) (hnu : updPc s.pc = false) {t : Nat}
    (hpz : alookup t s.kst = some .paused) :
    alookup t s.bst = some .paused ∧ alookup t s.status.last = some .paused ∧ t ∉ s.running ∧ t ∉ s.schedStopped := by
  have hnin : ¬ InDone s t := fun hc => by rw [hc.1] at hnu; cases hnu
  exact ⟨h.bs.pausedBst t hpz, ((h.ls.pausedSt t hpz).resolve_left fun h1 => by rw [h1.1] at hnu; cases hnu).2,
    (h.lv.pausedRun t hpz).resolve_right hnin, fun hc => nomatch hpz.symm.trans (h.dd.dead t hc)⟩

theorem KBody.at_resumeCmd {s : LState} (h : KBody s) (hp : s.pc = .resumeCmd) :
    alookup s.sId s.bst = some .paused ∧ alookup s.sId s.status.last = some .paused ∧ s.sId ∉ s.running ∧
    s.sId ∉ s.schedStopped :=
  h.of_paused (hp ▸ rfl) (h.rg.regResume hp)

theorem KBody.polled {s s' : LState} (h : KBody s) (hp : s.pc = .fetch) (sd : List (Nat × St))
    (hB : ∀ kv ∈ sd, kv.1 ∈ s.running) (hp' : s'.pc = .cbFetch)
    (hr : s'.running = s.running) (hk : s'.kst = s.kst) (hl : s'.status.last = s.status.last)
    (hss : s'.schedStopped = s.schedStopped) (hd : s'.done = []) (hb : s'.bst = aupdate s.bst sd)
    (hn : s'.nStarted = s.nStarted) : KBody s' := by
  -- no trial is in `done_trials`, neither before the poll (not live) nor after it (empty)
  have hnin : ∀ t, ¬InDone s t := fun t hc => by have := hc.1; rw [hp] at this; cases this
  refine .of_at (fun t => (h.at t).congr (hr ▸ .rfl) (hk ▸ rfl) (hl ▸ rfl) (hss ▸ .rfl)
      ⟨fun hc => (by have := hc.2; rw [hd] at this; cases this), fun hc => (hnin t hc).elim⟩
      (fun hc => by rw [hp] at hc; cases hc.1) (fun hpz => ?_) (hn ▸ Nat.le_refl _) fun hc => by rw [hp] at hc; cases hc)
    (fun hc => by rw [hp'] at hc; cases hc) (.out (hp' ▸ rfl))
  -- a trial paused for the scheduler is not running, so the poll says nothing about it
  rw [hb, alookup_aupdate_of_not_mem]
  intro hc
  obtain ⟨kv, hkv, rfl⟩ := List.mem_map.mp hc
  exact ((h.lv.pausedRun _ hpz).resolve_right (hnin _)) (hB kv hkv)

theorem KBody.stopped {s : LState} (h : KBody s) (hS : SInv s) (hp : s.pc = .stopCmd) (pc' : Pc)
    (hpc : pc' = .stopDel ∨ pc' = .removeS) :
    KBody { s with curSt := .stopped, bst := aset s.cur.tid .stopped s.bst, pc := pc' } := by
  have hlive := (cur_facts hS h (hp ▸ rfl)).live
  have hq : updPc pc' = updPc s.pc ∧ regPc pc' = false ∧ pc' ≠ .removeP := by
    rcases hpc with rfl | rfl <;> exact ⟨hp ▸ rfl, rfl, nofun⟩
  -- the stopped trial is live for the scheduler, so no clause reads its backend status
  exact .of_at (fun t => (h.at t).frame .rfl rfl rfl .rfl rfl
      (fun ht => alookup_aset_ne (fun hc => by rw [hc, hlive] at ht; cases ht) _ _) (Nat.le_refl _) hq.1
      fun hc => by rw [hp] at hc; cases hc)
    (fun hc => absurd hc hq.2.2) (.out hq.2.1)

theorem KBody.pauseSent {s : LState} (h : KBody s) (hp : s.pc = .pauseCmd) :
    KBody { s with pc := .removeP, bst := aset s.cur.tid .paused s.bst } := by
  refine .of_at (fun t => (h.at t).frame .rfl rfl rfl .rfl rfl (fun ht => ?_) (Nat.le_refl _) (hp ▸ rfl)
    fun hc => by rw [hp] at hc; cases hc) (fun _ => alookup_aset_self _ _ _) (.out rfl)
  show alookup t (aset s.cur.tid St.paused s.bst) = alookup t s.bst
  rw [alookup_aset, h.bs.pausedBst t ht]
  split <;> rfl

/-- the trial `c` (running, not yet done) enters `done_trials` with status `v`; the scheduler has been told about the
end of its run (`kv`: `dead` or `paused`).  `hdead`: if it is now in `trials_scheduler_stopped` it is dead; `hpaused`:
a paused one is recorded and known to the backend as paused -/
theorem KBody.ended {s : LState} (h : KBody s) (c : Nat) (v : St) (kv : KSt) (q : Pc) (ss : List Nat)
    (hu : updPc s.pc = true) (hu' : updPc q = true) (hlt : c < s.nStarted) (hncc0 : s.pc ≠ .completeCb)
    (hss : ∀ t, t ≠ c → (t ∈ ss ↔ t ∈ s.schedStopped)) (hdead : c ∈ ss → kv = .dead)
    (hpaused : kv = .paused → v = .paused ∧ alookup c s.bst = some .paused)
    (hreg : regPc q = false) (hrp : q ≠ .removeP) :
    KBody { s with pc := q, done := aset c v s.done, kst := aset c kv s.kst, schedStopped := ss } := by
  have hinc : InDone { s with pc := q, done := aset c v s.done, kst := aset c kv s.kst, schedStopped := ss } c :=
    ⟨hu', (mem_keys_aset _ _ _ _).mpr (.inl rfl)⟩
  have hkc : alookup c (aset c kv s.kst) = some kv := alookup_aset_self _ _ _
  have hkp : alookup c (aset c kv s.kst) = some .paused → kv = .paused := fun hpz => Option.some.inj (hkc.symm.trans hpz)
  exact h.at_one c
    { kst := fun t ht => alookup_aset_ne ht _ _, done := fun t ht => alookup_aset_ne ht _ _, schedStopped := hss }
    (hu'.trans hu.symm)
    (fun hc => absurd hc hncc0)
    { live := fun _ => .inl hinc, stp := fun _ _ => hinc, pausedRun := fun _ => .inr hinc, act := h.ls.act c,
      boundL := h.ls.boundL c, boundK := fun _ => hlt, dead := fun hs => hdead hs ▸ hkc,
      pausedSt := fun hpz => .inl ⟨hu', (hpaused (hkp hpz)).1 ▸ alookup_aset_self _ _ _⟩,
      pausedBst := fun hpz => (hpaused (hkp hpz)).2 }
    (fun hc => absurd hc hrp) (.out hreg)

/-- `on_trial_complete` has returned for a trial that completed -/
theorem KBody.toCcb {s : LState} (h : KBody s) (hS : SInv s) (hp : s.pc = .completeS) :
    KBody { s with pc := .completeCb, kst := aset s.t .dead s.kst } := by
  obtain ⟨hrun, hlt⟩ := item_facts hS h (hp ▸ rfl)
  have hu : updPc .completeCb = updPc s.pc := by rw [hp]; rfl
  have hkc : alookup s.t (aset s.t .dead s.kst) = some .dead := alookup_aset_self _ _ _
  have hnp : alookup s.t (aset s.t .dead s.kst) ≠ some .paused := by rw [hkc]; nofun
  refine h.at_one s.t { kst := fun t ht => alookup_aset_ne ht _ _ } hu (by rw [hp]; nofun) ?_ nofun
    (.only .completeCb rfl (regCcb := fun _ hc => nomatch hkc.symm.trans hc))
  exact { live := fun _ => .inr (.inr ⟨rfl, rfl⟩), stp := fun hc hs => ⟨hu ▸ (h.lv.stp _ hc hs).1, (h.lv.stp _ hc hs).2⟩,
          pausedRun := fun hpz => absurd hpz hnp, act := h.ls.act _, boundL := h.ls.boundL _,
          pausedSt := fun hpz => absurd hpz hnp, dead := fun _ => hkc, boundK := fun _ => hlt,
          pausedBst := fun hpz => absurd hpz hnp }

/-- `on_trial_complete` of the callbacks has returned: the trial is done -/
theorem KBody.ccbDone {s : LState} (h : KBody s) (hp : s.pc = .completeCb) (v : St) :
    KBody { s with pc := .second, done := aset s.t v s.done } := by
  have hu : updPc .second = updPc s.pc := by rw [hp]; rfl
  have hinc : InDone { s with pc := .second, done := aset s.t v s.done } s.t :=
    ⟨rfl, (mem_keys_aset _ _ _ _).mpr (.inl rfl)⟩
  have c := h.at s.t
  refine h.at_one s.t { done := fun t ht => alookup_aset_ne ht _ _ } hu (fun _ => rfl) ?_ nofun (.out rfl)
  exact { c with live := fun _ => .inl hinc, stp := fun _ _ => hinc, pausedRun := fun _ => .inr hinc,
                 pausedSt := fun hpz => absurd hpz (h.rg.regCcb hp) }

/-- an item whose trial is already done with status `completed`: straight to the callbacks -/
theorem KBody.directCcb {s : LState} (h : KBody s) (hp : s.pc = .second) {t rid : Nat} {rest : List (Nat × St)}
    (hkd : t ∈ keys s.done) (hnp : alookup t s.done ≠ some .paused) :
    KBody { s with pc := .completeCb, t := t, tSt := .completed, tRid := rid, items := rest } := by
  refine h.regMove (hp ▸ rfl) (hp ▸ nofun) nofun (.only .completeCb rfl (regCcb := fun _ hpz => ?_))
  rcases h.ls.pausedSt _ hpz with h1 | h1
  · exact hnp h1.2
  · exact h1.1 ⟨hp ▸ rfl, hkd⟩

theorem active_of_processed {s : LState} (hS : SInv s) (h : KBody s) (hp : s.pc = .afterUpd) (t : Nat) (st : St)
    (hm : (t, st) ∈ s.sd) (hnd : t ∉ keys s.done) : st = .inProgress ∨ st = .stopping := by
  obtain ⟨pre, hsd, hpre⟩ := hS.p2 (Or.inr hp)
  rw [hS.p2end hp, List.append_nil] at hsd
  obtain ⟨h1, h2, h3⟩ := hpre _ (hsd ▸ hm)
  obtain ⟨hrun, hnp⟩ := (hS.dicts hp rfl).sdRun _ hm
  cases st with
  | inProgress => exact Or.inl rfl
  | stopping => exact Or.inr rfl
  | paused => exact absurd rfl hnp
  | completed => exact absurd (h2 rfl) hnd
  | failed => exact absurd (mem_keys_of_alookup (h1 rfl)) hnd
  | stopped =>
    by_cases hss : t ∈ s.schedStopped
    · exact absurd (h.lv.stp t hrun hss).2 hnd
    · exact absurd (h3 rfl hss) hnd

theorem KBody.afterUpdate {s : LState} (h : KBody s) (hS : SInv s) (hp : s.pc = .afterUpd) :
    KBody (afterUpdate s) := by
  have hu : updPc s.pc = true := hp ▸ rfl
  have hnu := afterUpdate_not_upd s
  have hlk := hS.lastAfterUpdate hp
  have hrun : ∀ {t v}, alookup t s.sd = some v → t ∈ s.running :=
    fun hv => ((hS.dicts hp rfl).sdRun _ (mem_of_alookup hv)).1
  refine .of_at (fun t => {
      live := fun ht => ?_, stp := fun ht hs => ?_, pausedRun := fun hpz => .inl (fun ht => ?_),
      act := fun ht => ?_, boundL := fun ht => ?_,
      pausedSt := fun hpz => .inr ⟨fun hc => (nomatch hnu.symm.trans hc.1), ?_⟩,
      dead := h.dd.dead t, boundK := h.dd.boundK t, pausedBst := h.bs.pausedBst t })
    (fun hc => by rw [hc] at hnu; cases hnu) (.out (afterUpdate_pc_not (by decide) s))
  -- a trial that stays in the running set is not in `done_trials`
  · obtain ⟨h1, h2⟩ := mem_afterUpdate_running.mp ht
    rcases h.lv.live t h1 with h3 | h3 | h3
    · exact absurd h3.2 h2
    · exact .inr (.inl h3)
    · rw [hp] at h3; exact nomatch h3.1
  · obtain ⟨h1, h2⟩ := mem_afterUpdate_running.mp ht
    exact absurd (h.lv.stp t h1 hs).2 h2
  · obtain ⟨h1, h2⟩ := mem_afterUpdate_running.mp ht
    exact (h.lv.pausedRun t hpz).elim (· h1) (h2 ·.2)
  · obtain ⟨h1, h2⟩ := mem_afterUpdate_running.mp ht
    rw [hlk, alookup_eq_none_iff.mpr h2]
    cases hv : alookup t s.sd with
    | none => exact h.ls.act t h1
    | some v => exact (active_of_processed hS h hp t v (mem_of_alookup hv) h2).imp (congrArg some) (congrArg some)
  · rw [afterUpdate_last] at ht
    exact h.ls.boundL t (((mem_keys_aupdate _ _ _).mp ht).elim id fun h1 => (hS.updRecorded hp t h1).2)
  -- paused for the scheduler: recorded as paused by this update, or not polled and recorded so before
  · rw [hlk]
    rcases h.ls.pausedSt t hpz with h1 | h1
    · rw [h1.2]; rfl
    · have hnd : t ∉ keys s.done := fun hc => h1.1 ⟨hu, hc⟩
      rw [alookup_eq_none_iff.mpr hnd]
      cases hv : alookup t s.sd with
      | none => exact h1.2
      | some v => exact ((h.lv.pausedRun t hpz).elim (· (hrun hv)) (hnd ·.2)).elim

theorem KBody.started {s : LState} (h : KBody s) (hp : s.pc = .startCmd ∨ s.pc = .copyCmd) : KBody (started s) := by
  have hsid := h.rg.regStart hp
  have hnew : ∀ {β} {l : List (Nat × β)}, (∀ t ∈ keys l, t < s.nStarted) → s.sId ∉ keys l :=
    fun hl hc => Nat.lt_irrefl _ (hsid ▸ hl _ hc)
  -- the new id is not known to the scheduler yet, so no clause reads its backend status
  refine .of_at (fun t => (h.at t).frame .rfl rfl rfl .rfl rfl (fun ht => alookup_aset_ne (fun hc => ?_) _ _)
      (Nat.le_succ _) (by rcases hp with hp | hp <;> rw [hp] <;> rfl) fun hc => by rcases hp with hp | hp <;> (rw [hp] at hc; cases hc))
    nofun
    (.only .addS rfl (regAdd := fun _ => ⟨congrArg (· + 1) hsid, hnew h.ls.boundL⟩) (regAddK := fun _ => hnew h.dd.boundK))
  exact hnew h.dd.boundK (hc ▸ mem_keys_of_alookup ht)

/-- `on_trial_add` has returned: the scheduler knows the new trial -/
theorem KBody.added {s : LState} (h : KBody s) (hp : s.pc = .addS) :
    KBody { s with pc := .startCb, kst := aset s.sId .live s.kst } := by
  have hnk := h.rg.regAddK hp
  have hadd := h.rg.regAdd (.inl hp)
  have hkc : alookup s.sId (aset s.sId .live s.kst) = some .live := alookup_aset_self _ _ _
  -- the scheduler has not heard of the new trial before
  have hnss : s.sId ∉ s.schedStopped := fun hc =>
    hnk (mem_keys_of_alookup (h.dd.dead _ hc))
  exact h.at_one s.sId { kst := fun t ht => alookup_aset_ne ht _ _ } (by rw [hp]; rfl) (by rw [hp]; nofun)
    (.of_live hkc hnss (h.ls.act _) (h.ls.boundL _) (show s.sId < s.nStarted by have := hadd.1; omega)) nofun
    (.only .startCb rfl (regAdd := fun _ => hadd) (regStartCb := fun _ => hkc))

theorem KBody.resumed {s s' : LState} (h : KBody s) (hp : s.pc = .resumeCmd) (hp' : s'.pc = .resumeCb)
    (hsid : s'.sId = s.sId) (hr : s'.running = s.running) (hk : s'.kst = aset s.sId .live s.kst)
    (hl : s'.status.last = s.status.last) (hss : s'.schedStopped = s.schedStopped) (hd : s'.done = s.done)
    (hb : s'.bst = aset s.sId .inProgress s.bst) (hn : s'.nStarted = s.nStarted) : KBody s' := by
  have hpz0 := h.rg.regResume hp
  obtain ⟨_, hlast, hnrun, hnss⟩ := h.at_resumeCmd hp
  have c := h.at s.sId
  have hkc : alookup s.sId s'.kst = some .live := by rw [hk]; exact alookup_aset_self _ _ _
  refine h.at_one s.sId
    { running := fun _ _ => hr ▸ .rfl, kst := fun t ht => by rw [hk]; exact alookup_aset_ne ht _ _,
      last := fun _ _ => hl ▸ rfl, schedStopped := fun _ _ => hss ▸ .rfl, done := fun _ _ => hd ▸ rfl,
      bst := fun t ht => by rw [hb]; exact alookup_aset_ne ht _ _, nStarted := hn ▸ Nat.le_refl _ }
    (by rw [hp, hp']; rfl) (by rw [hp]; nofun) ?_ (by rw [hp']; nofun)
    (.only .resumeCb hp' (regResumeCb := fun _ => ?_))
  · exact .of_live hkc (fun hs => hnss (hss ▸ hs)) (fun hc => absurd (hr ▸ hc) hnrun) (fun hc => hn ▸ c.boundL (hl ▸ hc))
      (hn ▸ c.boundK (mem_keys_of_alookup hpz0))
  · rw [hsid, hl]; exact ⟨hlast, hkc⟩

/-- the trial `u` (live for the scheduler; new, or paused in the loop's records) joins the running set -/
theorem KBody.scheduled {s : LState} (h : KBody s) (hnu : updPc s.pc = false) (u : Nat)
    (hlive : alookup u s.kst = some .live) (hlt : u < s.nStarted) : KBody (scheduled s u) := by
  have hrun : ∀ t, t ≠ u → (t ∈ (Tuner.scheduled s u).running ↔ t ∈ s.running) := by
    intro t ht; rw [scheduled_running]; split
    · exact (mem_sadd _ _ _).trans ⟨fun h1 => h1.resolve_left ht, .inr⟩
    · exact .rfl
  have hnss : u ∉ s.schedStopped := fun hc => nomatch hlive.symm.trans (h.dd.dead u hc)
  rw [scheduled_eq]
  refine h.at_one u { running := hrun, last := fun t ht => ?_ } hnu.symm (fun hc => by rw [hc] at hnu; cases hnu) ?_ nofun (.out rfl)
  · show alookup t (s.status.update [(u, .inProgress)] []).last = _
    rw [update_last]; exact alookup_aset_ne ht _ _
  · refine .of_live hlive hnss (fun _ => .inl ?_) (fun _ => hlt) hlt
    show alookup u (s.status.update [(u, .inProgress)] []).last = _
    rw [update_last]; exact alookup_aset_self _ _ _

theorem KBody.item {s s' : LState} {t : Nat} {st : St} {rest : List (Nat × St)} (h : KBody s) (hp : s.pc = .second)
    (i : Item s t rest st s') : KBody s' := by
  cases i
  case completeCb hl hd hp' => exact h.directCcb hp hd hp'
  case pausedCompleted | skip => exact h.move rfl (hp ▸ rfl) (hp ▸ nofun) (hp ▸ nofun)
  all_goals exact h.move (hp ▸ rfl) rfl (hp ▸ nofun) nofun

theorem finPc_back {s s' : LState} (hfl : finPc s.pc = true → finPc s'.pc = true) (h : finPc s'.pc = false) :
    finPc s.pc = false := by
  cases hh : finPc s.pc
  · rfl
  · rw [hfl hh] at h; cases h

/-- the loop keeps `KInv` under the contracts B (what a poll may report) and K (which trials the
scheduler may resume) -/
theorem KInv_trans {s s' : LState} {a : Ans} (hI : KInv s) (t : Trans s a s') (hB : BOk s a) (hK : KOk s a)
    (hS : SInv s) : KInv s' := by
  intro hf'
  have h := hI (fin_back t.flow hf')
  cases t
  case fin f => exact nomatch f.tgt.symm.trans hf'
  case raiseEnv | assertFail | keyError | noMetrics => cases hf'
  case ctl p c =>
    cases c
    case leaveLoop => cases hf'
    case copyCkpt hpc _ =>
      exact h.regMove (hpc ▸ rfl) (hpc ▸ nofun) nofun (.only .copyCmd rfl (regStart := fun _ => h.rg.regStart (.inl hpc)))
    all_goals exact h.move (‹s.pc = _› ▸ rfl) rfl (‹s.pc = _› ▸ nofun) nofun
  case poll sd res hpc =>
    exact h.polled hpc sd (fun kv hkv => ((hB hpc _ _ rfl).2 kv hkv).1) rfl rfl rfl rfl rfl rfl rfl rfl
  case skipResult hpc _ _ => exact h.move rfl (hpc ▸ rfl) (hpc ▸ nofun) (hpc ▸ nofun)
  case stopped hpc _ => exact h.stopped hS hpc _ (.inl rfl)
  case stoppedKeep hpc _ => exact h.stopped hS hpc _ (.inr rfl)
  case paused hpc => exact h.pauseSent hpc
  case removedStopped hpc =>
    exact h.ended s.cur.tid s.curSt .dead .nextRes _ (hpc ▸ rfl) rfl (cur_facts hS h (hpc ▸ rfl)).lt (hpc ▸ nofun)
      (hss := fun t ht => (mem_sadd _ _ _).trans ⟨(·.resolve_left ht), .inr⟩) (hdead := fun _ => rfl) (hpaused := nofun)
      rfl nofun
  case removedPaused hpc =>
    have hc := cur_facts hS h (hpc ▸ rfl)
    exact h.ended s.cur.tid .paused .paused .nextRes _ (hpc ▸ rfl) rfl hc.lt (hpc ▸ nofun)
      (hss := fun _ _ => .rfl) (hdead := fun hs => absurd hs hc.notStopped) (hpaused := fun _ => ⟨rfl, h.bs.regPause hpc⟩)
      rfl nofun
  case item hpc _ i => exact h.item hpc i
  case completeTold hpc _ => exact h.toCcb hS hpc
  case completeToldPaused hpc _ | errorTold hpc =>
    exact h.ended s.t s.tSt .dead .second _ (hpc ▸ rfl) rfl (item_facts hS h (hpc ▸ rfl)).2 (hpc ▸ nofun)
      (hss := fun _ _ => .rfl) (hdead := fun _ => rfl) (hpaused := nofun) rfl nofun
  case completeCalled hpc => exact h.ccbDone hpc _
  case updated hpc => exact h.afterUpdate hS hpc
  case suggestStart hpc =>
    exact h.regMove (hpc ▸ rfl) (hpc ▸ nofun) nofun (.only .startCmd rfl (regStart := fun _ => rfl))
  case suggestResume hpc =>
    exact h.regMove (hpc ▸ rfl) (hpc ▸ nofun) nofun (.only .resumeCmd rfl (regResume := fun _ => hK hpc _ _ rfl))
  case startedPlain hpc _ => exact h.started (.inl hpc)
  case startedCopied hpc => exact h.started (.inr hpc)
  case addTold hpc => exact h.added hpc
  case resumed hpc => exact h.resumed hpc rfl rfl rfl rfl rfl rfl rfl rfl rfl
  case scheduled hpc =>
    rw [← scheduled_eq]
    rcases hpc with hpc | hpc
    · exact h.scheduled (hpc ▸ rfl) _ (h.rg.regStartCb hpc) (by have := (h.rg.regAdd (.inr hpc)).1; omega)
    · exact h.scheduled (hpc ▸ rfl) _ (h.rg.regResumeCb hpc).2
        (h.dd.boundK _ (mem_keys_of_alookup ((h.rg.regResumeCb hpc).2)))
  -- the other transitions of the loop leave the fields the invariant reads alone
  all_goals exact h.move (‹s.pc = _› ▸ rfl) rfl (‹s.pc = _› ▸ nofun) nofun

theorem KBody.log {s : LState} (l : List Call) (h : KBody s) : KBody { s with log := l } :=
  .of_at (fun t => (h.at t).frame .rfl rfl rfl .rfl rfl (fun _ => rfl) (Nat.le_refl _) rfl fun hc ht => ⟨hc, ht⟩)
    h.bs.regPause ⟨h.rg.regStart, h.rg.regAdd, h.rg.regAddK, h.rg.regStartCb, h.rg.regResume, h.rg.regResumeCb, h.rg.regCcb⟩

theorem KInv.reach {c : Cfg} {s : LState} (h : Reach c (fun s a => BOk s a ∧ KOk s a) s) : KInv s := by
  refine h.inv (fun _ => ?_) (fun _ l h hf => .log l (h hf))
    fun h hp ih t => KInv_trans ih t hp.1 hp.2 (.reach (h.mono fun _ _ => And.left))
  refine ⟨⟨?_, ?_, ?_⟩, ⟨?_, ?_, ?_⟩, ⟨?_, ?_⟩, ⟨?_, nofun⟩, KReg.out rfl⟩
  all_goals (intro t ht; simp [init, keys, alookup] at ht)

end SyneTune.Tuner
