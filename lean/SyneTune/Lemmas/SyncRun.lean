import SyneTune.Lemmas.SyncStep
/- What every operation keeps besides the invariant (`Keeps`): rung systems and mode, slots once
answered, non-promoted trials (`NotPromoted`).  Then the induction over the list of operations: invariant and
`Keeps` along every run, hence in every reachable state (`Reachable`). -/
namespace SyneTune.Sync
open SyneTune

/-- trial `t` took part in a completed rung and was not taken into the next one -/
def NotPromoted (g : Manager) (t : Nat) : Prop :=
  ∃ (id : Nat) (br : Bracket) (k : Nat) (prev next : Rung), g.brackets[id]? = some br ∧ br.rungs[k]? = some prev ∧
    br.rungs[k + 1]? = some next ∧ t ∈ prev.ids ∧ t ∉ next.ids

theorem notPromoted_job {g g1 id br rg x} (hs : JobStruct g g1 id br rg x) (t : Nat)
    (h : NotPromoted g t) : NotPromoted g1 t := by
  obtain ⟨j, b, k, prev, next, hb, hp, hn, h1, h2⟩ := h
  obtain ⟨b', hb', hrungs⟩ := hs.fwd hb
  exact ⟨j, b', k, prev, next, hb', hrungs ▸ hp, hrungs ▸ hn, h1, h2⟩

theorem notPromoted_report {g g' : Manager} {id : Nat} {res np} (h : Reported g id res g' np) (t : Nat)
    (ht : NotPromoted g t) : NotPromoted g' t := by
  obtain ⟨spec, br, rg, x, br', hr⟩ := h
  obtain ⟨j, b, k, prev, next, hb, hp, hn, h1, h2⟩ := ht
  by_cases hj : j = id
  · subst hj
    obtain rfl := Option.mem_unique hr.hbr hb
    -- rung `k` is below the current one and untouched; rung `k + 1` may be the one written to
    have hk : k < br.current := hr.wf.le_cur hn
    have hp' := resultCase_rungs hr.case ((written_other k (Nat.ne_of_lt hk)).trans hp)
    by_cases hkc : k + 1 = br.current
    · obtain rfl := Option.mem_unique hn (hkc ▸ hr.legal.hrg)
      refine ⟨j, br', k, prev, next.write res, hr.mgr.atId hr.hbr, hp', resultCase_rungs hr.case (hkc ▸ written_cur hr.legal), h1, ?_⟩
      rw [write_ids_mem hr.legal]
      rintro (hin | hres)
      · exact h2 hin
      · rcases hr.legal.tid with hx | hx
        · exact hr.fresh hx t hres (Manager.hasId_of_getElem? hr.hbr ⟨prev, List.mem_of_getElem? hp, h1⟩)
        · exact h2 ((mem_ids_iff next t).mpr ⟨_, x, hr.legal.hsl, hx.trans hres⟩)
    · exact ⟨j, br', k, prev, next, hr.mgr.atId hr.hbr, hp', resultCase_rungs hr.case ((written_other (k + 1) hkc).trans hn), h1, h2⟩
  · exact ⟨j, b, k, prev, next, hr.mgr.keep j b hj hb, hp, hn, h1, h2⟩

theorem removable_notPromoted {g g' : Manager} {id : Nat} {res} {l : List (Option Nat)}
    (h : Reported g id res g' (some l)) (t : Nat) (ht : some t ∈ l) : NotPromoted g' t := by
  obtain ⟨spec, br, rg, x, br', hr⟩ := h
  cases hr.case with
  | promote hd newLen ms rest es htodo hes =>
    obtain ⟨⟨e, he, het⟩, hnot⟩ := (mem_remainingList _ _ _).mp ht
    have hlen := written_length hr.wf hr.legal
    refine ⟨id, _, br.current, rg.write res, _, hr.mgr.atId hr.hbr,
      (List.getElem?_append_left (by omega)).trans (written_cur hr.legal), hlen ▸ List.getElem?_concat_length, ?_, ?_⟩
    · rw [Rung.ids, ← entriesOf_ids hes]
      exact List.mem_filterMap.mpr ⟨e, he, het⟩
    · rw [newRung_ids, List.mem_filterMap]
      exact fun ⟨o, ho, (hot : o = some t)⟩ => hnot (hot ▸ ho)

structure Keeps (g : Manager) (rem : List (Option Nat)) (g' : Manager) (rem' : List (Option Nat)) : Prop where
  sys : g'.bracketRungs = g.bracketRungs
  mode : g'.mode = g.mode
  slots : ∀ (j k p : Nat) (y : Slot), g.SlotAt j k p y → y.metric.isSome = true → g'.SlotAt j k p y
  np : ∀ t, NotPromoted g t → NotPromoted g' t
  rem : ∀ t, some t ∈ rem' → some t ∈ rem ∨ NotPromoted g' t

theorem Keeps.refl (g : Manager) (rem : List (Option Nat)) : Keeps g rem g rem :=
  ⟨rfl, rfl, fun _ _ _ _ h _ => h, fun _ h => h, fun _ h => Or.inl h⟩

theorem Keeps.trans {g g' g'' : Manager} {rem rem' rem'' : List (Option Nat)} (h : Keeps g rem g' rem')
    (h' : Keeps g' rem' g'' rem'') : Keeps g rem g'' rem'' :=
  ⟨h'.sys.trans h.sys, h'.mode.trans h.mode, fun j k p y hs hy => h'.slots j k p y (h.slots j k p y hs hy) hy,
    fun t ht => h'.np t (h.np t ht), fun t ht => (h'.rem t ht).elim (fun hr => (h.rem t hr).imp_right (h'.np t)) Or.inr⟩

theorem keeps_job {g g1 id br rg x} (hs : JobStruct g g1 id br rg x) (rem : List (Option Nat)) :
    Keeps g rem g1 rem :=
  ⟨hs.sys, hs.mode, fun j k p y h _ => (frame_job hs).fwd j k p y h nofun, notPromoted_job hs, fun _ h => Or.inl h⟩

theorem keeps_report (s : Sched) {g' : Manager} {id : Nat} {res np} (h : Reported s.mgr id res g' np) :
    Keeps s.mgr s.removable g' (s.afterReport g' np).removable := by
  refine ⟨h.sys.1, h.sys.2, fun j k p y hs hy => (frame_report h).fwd j k p y hs ?_, notPromoted_report h, fun t ht => ?_⟩
  · -- the answered slot was not occupied
    obtain ⟨spec, br, rg, x, br', hr⟩ := h
    rintro ⟨⟩
    rw [slotAt_functional hs ⟨br, rg, hr.hbr, hr.legal.ri ▸ hr.legal.hrg, hr.legal.hsl⟩, hr.legal.empty] at hy; cases hy
  · cases np with
    | none => exact Or.inl ht
    | some l => exact (List.mem_append.mp ht).imp_right (removable_notPromoted h t)

/-- contract of the tuning loop for one call: the id handed to `suggest` is new -/
def LegalOp (s : Sched) : Op → Prop
  | .suggest tid _ => tid ∉ s.configs
  | _ => True

def LegalRun : Sched → List Op → Prop
  | _, [] => True
  | s, op :: ops => LegalOp s op ∧ LegalRun (s.next op) ops

instance (s : Sched) (op : Op) : Decidable (LegalOp s op) := by
  cases op <;> simp only [LegalOp] <;> infer_instance

def decLegalRun : (s : Sched) → (ops : List Op) → Decidable (LegalRun s ops)
  | _, [] => isTrue trivial
  | s, op :: ops =>
    match (inferInstance : Decidable (LegalOp s op)), decLegalRun (s.next op) ops with
    | isTrue h1, isTrue h2 => isTrue ⟨h1, h2⟩
    | isFalse h1, _ => isFalse (fun h => h1 h.1)
    | _, isFalse h2 => isFalse (fun h => h2 h.2)

instance (s : Sched) (ops : List Op) : Decidable (LegalRun s ops) := decLegalRun s ops

theorem legalRun_append {s : Sched} {ops ops' : List Op} (h : LegalRun s ops) (h' : LegalRun (s.run ops) ops') :
    LegalRun s (ops ++ ops') := by
  induction ops generalizing s with
  | nil => exact h'
  | cons o os ih => exact ⟨h.1, ih h.2 h'⟩

theorem next_of_ok {s s' : Sched} {op : Op} {o : Out} (h : s.step op = .ok (s', o)) : s.next op = s' := by
  rw [Sched.next, h]

theorem next_of_error {s : Sched} {op : Op} {e : SErr} (h : s.step op = .error e) : s.next op = s := by
  rw [Sched.next, h]

theorem step_suggest {s s' : Sched} {tid c sg calls} (h : s.suggest tid c = .ok (s', sg, calls)) :
    s.step (.suggest tid c) = .ok (s', { suggestion := some sg, calls := calls }) := by
  rw [Sched.step, h]

theorem step_result {s s' : Sched} {tid r v d calls} (h : s.onResult tid r v = .ok (s', d, calls)) :
    s.step (.result tid r v) = .ok (s', { decision := some d, calls := calls }) := by
  rw [Sched.step, h]

theorem step_result_error {s : Sched} {tid r v e} (h : s.onResult tid r v = .error e) :
    s.step (.result tid r v) = .error e := by
  rw [Sched.step, h]

theorem step_error {s s' : Sched} {tid calls} (h : s.onError tid = .ok (s', calls)) :
    s.step (.error tid) = .ok (s', { calls := calls }) := by
  rw [Sched.step, h]

def SkipsLevel (s : Sched) (op : Op) : Prop :=
  ∃ tid r v id sl, op = .result tid r v ∧ alookup tid s.pending = some (id, sl) ∧ sl.level < r

theorem step_of_ok {s s' : Sched} {op : Op} {o : Out} (h : s.step op = .ok (s', o)) (hI : Inv s')
    (hk : Keeps s.mgr s.removable s'.mgr s'.removable) :
    Inv (s.next op) ∧ Keeps s.mgr s.removable (s.next op).mgr (s.next op).removable ∧
      ((∃ s' o, s.step op = .ok (s', o)) ∨ SkipsLevel s op) := by
  rw [next_of_ok h]; exact ⟨hI, hk, Or.inl ⟨_, _, h⟩⟩

theorem step_spec {s : Sched} (hI : Inv s) (op : Op) (hl : LegalOp s op) :
    Inv (s.next op) ∧ Keeps s.mgr s.removable (s.next op).mgr (s.next op).removable ∧
    ((∃ s' o, s.step op = .ok (s', o)) ∨ SkipsLevel s op) := by
  cases op with
  | suggest tid c =>
    have he := suggest_eff hI tid c hl
    generalize hr : s.suggest tid c = res at he
    cases he with
    | resume c hj _ _ hI' => exact step_of_ok (step_suggest hr) hI' (keeps_job hj _)
    | start hj _ _ hI' => exact step_of_ok (step_suggest hr) hI' (keeps_job hj _)
    | noconfig hj _ hrep _ hI' => exact step_of_ok (step_suggest hr) hI' ((keeps_job hj _).trans (keeps_report { s with mgr := _ } hrep))
  | result tid r v =>
    have he := result_eff hI tid r v
    generalize hr : s.onResult tid r v = res at he
    cases he with
    | stop => exact step_of_ok (step_result hr) hI (.refl _ _)
    | «continue» => exact step_of_ok (step_result hr) hI (.refl _ _)
    | milestone _ _ _ hrep hI' => exact step_of_ok (step_result hr) hI' (keeps_report s hrep)
    | skip hlook hgt =>
      rw [next_of_error (step_result_error hr)]
      exact ⟨hI, .refl _ _, Or.inr ⟨tid, r, v, _, _, rfl, hlook, hgt⟩⟩
  | error tid =>
    have he := error_eff hI tid
    generalize hr : s.onError tid = res at he
    cases he with
    | idle => exact step_of_ok (step_error hr) hI (.refl _ _)
    | failed _ hrep hI' => exact step_of_ok (step_error hr) hI' (keeps_report s hrep)
  | complete tid r v => exact step_of_ok rfl hI (.refl _ _)
  | remove tid => exact step_of_ok rfl hI (.refl _ _)
  | takeRemovable =>
    exact step_of_ok (s := s) (s' := s.takeRemovable.1) rfl hI
      ⟨rfl, rfl, fun _ _ _ _ h _ => h, fun _ h => h, fun _ h => nomatch h⟩

theorem run_inv {s : Sched} (hI : Inv s) (ops : List Op) (hl : LegalRun s ops) :
    Inv (s.run ops) ∧ Keeps s.mgr s.removable (s.run ops).mgr (s.run ops).removable := by
  induction ops generalizing s with
  | nil => exact ⟨hI, .refl _ _⟩
  | cons op ops ih =>
    obtain ⟨hI', hk, -⟩ := step_spec hI op hl.1
    exact (ih hI' hl.2).imp_right hk.trans

theorem init_ok_eq {mode systems a b} {s : Sched} (h : Sched.init mode systems a b = .ok s) :
    ∃ g, Manager.init .hyperband mode systems = .ok g ∧ s = { mgr := g, maxResourceAttr := a, searcherAll := b } := by
  unfold Sched.init at h
  split at h
  · cases h
  · next g hg => cases h; exact ⟨g, hg, rfl⟩

theorem init_inv (mode : Mode) (systems : List (List (Nat × Nat))) (a b : Bool) (s : Sched)
    (h : Sched.init mode systems a b = .ok s) :
    Inv s ∧ s.mgr.bracketRungs = systems ∧ s.mgr.mode = mode := by
  obtain ⟨g, hg, rfl⟩ := init_ok_eq h
  obtain ⟨hmwf, hmode, hsys, hnew⟩ := init_wf mode systems g hg
  -- the only bracket is new: no ids, nothing handed out
  have hnew' : ∀ {j} {b : Bracket}, g.brackets[j]? = some b → b.Fresh :=
    fun hb => hnew _ (List.mem_of_getElem? hb)
  refine ⟨?_, hsys, hmode⟩
  exact {
    mwf := hmwf, keys := List.nodup_nil
    pend := fun t id sl hl => by cases hl
    distinct := fun t1 t2 id sl1 sl2 h1 => by cases h1
    owed := fun id br rg p x hbr _ _ hp => absurd ((hnew' hbr).firstFree ▸ hp) (Nat.not_lt_zero _)
    ids := fun t ⟨b, hb, ht⟩ => absurd ht ((hnew b hb).noId t)
    pkeys := fun t v hl => by cases hl
    disjoint := fun i j bi bj t hbi _ hti _ => absurd hti ((hnew' hbi).noId t) }

/-- states reachable from the constructor by operations which respect the contract -/
def Reachable (mode : Mode) (systems : List (List (Nat × Nat))) (s : Sched) : Prop :=
  ∃ a b s0 ops, Sched.init mode systems a b = .ok s0 ∧ LegalRun s0 ops ∧ s0.run ops = s

theorem reachable_inv {mode systems s} (h : Reachable mode systems s) :
    Inv s ∧ s.mgr.bracketRungs = systems ∧ s.mgr.mode = mode ∧ ∀ t, some t ∈ s.removable → NotPromoted s.mgr t := by
  obtain ⟨a, b, s0, ops, hinit, hl, rfl⟩ := h
  obtain ⟨hI0, hsys0, hmode0⟩ := init_inv mode systems a b s0 hinit
  obtain ⟨hI, hk⟩ := run_inv hI0 ops hl
  obtain ⟨g, -, rfl⟩ := init_ok_eq hinit
  exact ⟨hI, hk.sys.trans hsys0, hk.mode.trans hmode0, fun t ht => (hk.rem t ht).resolve_left nofun⟩

theorem Reachable.inv {mode systems s} (h : Reachable mode systems s) : Inv s := (reachable_inv h).1

theorem Reachable.sys {mode systems s} (h : Reachable mode systems s) : s.mgr.bracketRungs = systems :=
  (reachable_inv h).2.1

theorem Reachable.mode {mode systems s} (h : Reachable mode systems s) : s.mgr.mode = mode := (reachable_inv h).2.2.1

theorem Reachable.removable {mode systems s} (h : Reachable mode systems s) :
    ∀ t, some t ∈ s.removable → NotPromoted s.mgr t :=
  (reachable_inv h).2.2.2

theorem Reachable.bwf {mode systems s} (h : Reachable mode systems s) {br : Bracket} (hbr : br ∈ s.mgr.brackets) :
    ∃ spec, BWF spec br ∧ br.mode = mode :=
  (List.mem_iff_getElem?.mp hbr).elim fun id hid =>
    (h.inv.mwf.wf id br hid).elim fun spec ⟨_, hb, hm⟩ => ⟨spec, hb, hm.trans h.mode⟩

theorem reachable_run {mode systems s} (h : Reachable mode systems s) (ops : List Op) (hl : LegalRun s ops) :
    Reachable mode systems (s.run ops) := by
  obtain ⟨a, b, s0, ops0, hinit, hl0, rfl⟩ := h
  exact ⟨a, b, s0, ops0 ++ ops, hinit, legalRun_append hl0 hl, List.foldl_append⟩

theorem reachable_next {mode systems s} (h : Reachable mode systems s) (op : Op) (hl : LegalOp s op) :
    Reachable mode systems (s.next op) :=
  reachable_run h [op] ⟨hl, trivial⟩

end SyneTune.Sync
