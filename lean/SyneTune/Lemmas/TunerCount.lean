import SyneTune.Lemmas.TunerFlow
/-
The loop as its counters see it.  The invariants behind the overshoot bounds and the counters of the tuning status
(`JInv`, `OInv`, `GInv`, `EInv`, `NInv`, `LNInv`; also the life-cycle edges, `Trans.edge`) read the tuning status, the
running set, `stop_condition_reached`, the `for` counter `k` and the length of `new_results`.  `CntCase` lists what a
step can do to these, and `Trans.cnt` is the one place where the transitions are gone through for them.
-/
namespace SyneTune.Tuner.Cnt
open SyneTune SyneTune.Tuner

structure Frame (s s' : LState) : Prop where
  status : s'.status = s.status
  running : s'.running = s.running
  sr : s'.stopReached = s.stopReached

theorem Frame.refl (s : LState) : Frame s s := ⟨rfl, rfl, rfl⟩

end SyneTune.Tuner.Cnt

namespace SyneTune.Tuner
open SyneTune Cnt

/-- control points at which a counter is written or tested -/
def cntPc : Pc → Bool
  | .loopHead | .evalStop | .clock | .fetch | .afterUpd | .schedNew | .busy | .startCb | .resumeCb | .finMark => true
  | _ => false

inductive CntCase (s : LState) : LState → Prop
  | same {s'} (hf : Frame s s') (hk : s'.k = s.k) (hres : s'.allRes.length = s.allRes.length)
      (hsrc : cntPc s.pc = false) : CntCase s s'
  | toFin {s'} (hf : Frame s s') (hres : s'.allRes.length = s.allRes.length) (hq : finPc s'.pc = true) : CntCase s s'
  | enterLoop (hp : s.pc = .loopHead) (hg : (!s.stopReached || (s.cfg.wait && !s.running.isEmpty)) = true) :
      CntCase s { s with pc := .loopStart }
  | askClock (hp : s.pc = .evalStop) : CntCase s { s with pc := .clock }
  | evaluated (hp : s.pc = .evalStop ∨ s.pc = .clock) (clk : Rat) :
      CntCase s { s with stopReached := stopCond s clk, pc := .loopHead }
  | polled {s'} (hp : s.pc = .fetch) (hf : Frame s s') (hq : s'.pc = .cbFetch) : CntCase s s'
  | updated (hp : s.pc = .afterUpd) : CntCase s (afterUpdate s)
  | toSleep (hp : s.pc = .schedNew ∨ s.pc = .busy) : CntCase s { s with pc := .sleepSched }
  | askBusy (hp : s.pc = .schedNew) : CntCase s { s with pc := .busy }
  | enterFor (hp : s.pc = .schedNew ∨ s.pc = .busy) (k : Nat) (loc : Option (List Nat)) (hk : k ≤ s.cfg.nWorkers) :
      CntCase s { s with k := k, loc := loc, pc := .suggestNext }
  | scheduled (hp : s.pc = .startCb ∨ s.pc = .resumeCb) : CntCase s (scheduled s s.sId)
  | marked {s'} (hp : s.pc = .finMark) (hst : s'.status = s.status.markStopped) (hsr : s'.stopReached = s.stopReached)
      (hres : s'.allRes.length = s.allRes.length) (hn : s'.nStarted = s.nStarted) (he : s'.err = s.err)
      (hq : s'.pc = .hfOut ∨ s'.pc = .done) : CntCase s s'

variable {s s' : LState} {a : Ans}

theorem Trans.cnt (t : Trans s a s') : CntCase s s' := by
  cases t
  case ctl hc =>
    cases hc
    case enterLoop hpc hg => exact .enterLoop hpc hg
    case leaveLoop => exact .toFin ⟨rfl, rfl, rfl⟩ rfl rfl
    case askClock hpc _ => exact .askClock hpc
    case saturated hpc _ _ => exact .toSleep (.inl hpc)
    case busySaturated hpc _ => exact .toSleep (.inr hpc)
    case askBusy hpc _ => exact .askBusy hpc
    all_goals exact .same ⟨rfl, rfl, rfl⟩ rfl rfl (‹s.pc = _› ▸ rfl)
  case raiseEnv | assertFail | keyError | noMetrics => exact .toFin ⟨rfl, rfl, rfl⟩ rfl rfl
  case evalStop hpc _ => exact .evaluated (.inl hpc) 0
  case clock clk hpc => exact .evaluated (.inr hpc) clk
  case poll hpc => exact .polled hpc ⟨rfl, rfl, rfl⟩ rfl
  -- the scheduler may rewrite a result dict in place: `new_results` keeps its length
  case decidedNew hpc => exact .same ⟨rfl, rfl, rfl⟩ rfl (List.length_map _) (hpc ▸ rfl)
  case updated hpc => exact .updated hpc
  case free hpc _ _ => exact .enterFor (.inl hpc) _ _ (Nat.sub_le _ _)
  case busyFree hpc _ => exact .enterFor (.inr hpc) _ _ (Nat.sub_le _ _)
  case scheduled hpc => rw [← scheduled_eq]; exact .scheduled hpc
  case fin f =>
    cases f
    case markFailed hpc _ _ => exact .marked hpc rfl rfl rfl rfl rfl (.inl rfl)
    case markDone hpc _ => exact .marked hpc rfl rfl rfl rfl rfl (.inr rfl)
    case halt hpc => exact .toFin ⟨rfl, rfl, rfl⟩ rfl (hpc ▸ rfl)
    all_goals exact .toFin ⟨rfl, rfl, rfl⟩ rfl rfl
  case item hpc _ i => cases i <;> exact .same ⟨rfl, rfl, rfl⟩ rfl rfl (hpc ▸ rfl)
  all_goals exact .same ⟨rfl, rfl, rfl⟩ rfl rfl (‹s.pc = _› ▸ rfl)

theorem not_entry {E : List Pc} (hE : ∀ p ∈ E, cntPc p = true) (hsrc : cntPc s.pc = false) : s.pc ∉ E :=
  fun hc => nomatch hsrc.symm.trans (hE _ hc)

end SyneTune.Tuner
