import SyneTune.Props.C14
/- The searcher's data bookkeeping (`SState`) on its own: the observation at a trial and level (`obsAt`; `isLabeled`
is its `isSome`) and the pending list (`dropPending` is `List.erase`) under `label` and `cleanup_pending`; for the
asynchronous composition, `register_pending` for a list of levels (`addPend`) and the calls of one report applied
in order (`feed_result`). -/
namespace SyneTune.C14Comp
open SyneTune SyneTune.C14

/-- the observation stored for trial `t` at level `r` -/
def obsAt (st : SState) (t r : Nat) : Option Rat := (alookup t st.observed).bind (alookup r)

theorem obsAt_congr {st st' : SState} (h : st'.observed = st.observed) (t r : Nat) : obsAt st' t r = obsAt st t r := by
  unfold obsAt; rw [h]

theorem obsWF_congr {st st' : SState} (h : st'.observed = st.observed) (hw : ObsWF st) : ObsWF st' := by
  unfold ObsWF at *; rw [h]; exact hw

theorem obsAt_of_empty {st : SState} (h : st.observed = []) (t r : Nat) : obsAt st t r = none := by
  simp [obsAt, h, alookup]

theorem ObsWF_of_empty {st : SState} (hemp : st.observed = []) : ObsWF st := by
  unfold ObsWF; rw [hemp]; exact ⟨by simp [KeysNodup], by simp⟩

theorem isLabeled_eq (st : SState) (t r : Nat) : st.isLabeled t r = (obsAt st t r).isSome := by
  unfold SState.isLabeled obsAt
  cases alookup t st.observed <;> rfl

theorem lab_iff (st : SState) (t r : Nat) : st.isLabeled t r = true ↔ (obsAt st t r).isSome = true := by
  rw [isLabeled_eq]

theorem lab_false_iff (st : SState) (t r : Nat) : st.isLabeled t r = false ↔ obsAt st t r = none := by
  rw [isLabeled_eq, Option.isSome_eq_false_iff, Option.isNone_iff_eq_none]

theorem obsAt_label (st : SState) (t r : Nat) (x : Rat) (t' r' : Nat) :
    obsAt (st.label t r (st.crit x)) t' r' = if t' = t ∧ r' = r then some (st.crit x) else obsAt st t' r' :=
  observation_value st t r x t' r'

theorem isLabeled_label (st : SState) (t r : Nat) (c : Rat) (t' r' : Nat) :
    (st.label t r c).isLabeled t' r' = (decide (t' = t ∧ r' = r) || st.isLabeled t' r') := by
  rw [isLabeled_eq, isLabeled_eq]
  unfold obsAt
  rw [label_lookup]
  by_cases h : t' = t ∧ r' = r <;> simp [h]

theorem crit_of_mode {st st' : SState} (h : st'.mode = st.mode) (v : Rat) : st'.crit v = st.crit v := by
  unfold SState.crit; rw [h]

theorem apply_mode {st st' : SState} {c : SCall} (h : st.apply c = .ok st') : st'.mode = st.mode := by
  rcases apply_ok h with ⟨hm, _⟩ | ⟨_, _, _, _, rfl⟩ | ⟨_, _, _, _, _, _, rfl⟩
  · exact hm
  · rfl
  · rfl

theorem label_pending (st : SState) (t r : Nat) (c : Rat) :
    (st.label t r c).pending = st.pending.erase (t, r) := dropPending_eq_erase t r st.pending

theorem label_noop (st : SState) (t r : Nat) (c : Rat) (ho : obsAt st t r = some c) (hp : (t, r) ∉ st.pending) :
    st.label t r c = st := by
  unfold obsAt at ho
  cases hl : alookup t st.observed with
  | none => rw [hl] at ho; cases ho
  | some ms =>
    rw [hl] at ho
    simp only [Option.bind_some] at ho
    unfold SState.label
    simp only [hl, dropPending_eq_erase, List.erase_of_not_mem hp, aset_eq_self ho, aset_eq_self hl]

theorem isPending_false (st : SState) (t r : Nat) (h : ∀ p ∈ st.pending, p.1 ≠ t) : st.isPending t r = false := by
  unfold SState.isPending
  rw [List.any_eq_false]
  intro p hp
  simp only [Bool.and_eq_true, beq_iff_eq, not_and]
  intro h1; exact absurd h1 (h p hp)

theorem mem_cleanupPending (st : SState) (t : Nat) (p : Nat × Nat) :
    p ∈ (st.cleanupPending t).pending ↔ p ∈ st.pending ∧ p.1 ≠ t := by
  unfold SState.cleanupPending
  simp [List.mem_filter]

theorem nodup_cleanupPending (st : SState) (t : Nat) (h : st.pending.Nodup) :
    (st.cleanupPending t).pending.Nodup := by
  unfold SState.cleanupPending
  exact h.filter _

theorem apply_pending_new (st : SState) (t r : Nat) (h1 : st.isPending t r = false) (h2 : st.isLabeled t r = false) :
    st.apply (.pending t r) = .ok { st with pending := st.pending ++ [(t, r)] } := by
  simp [SState.apply, h1, h2]

theorem apply_removeCase (st : SState) (t r : Nat) (v : Rat) (h : st.isLabeled t r = true) :
    ∃ st', st.apply (.removeCase t r v) = .ok st' ∧ st'.pending = st.pending ∧
      (∀ t' r', st'.isLabeled t' r' = true → st.isLabeled t' r' = true) ∧
      (∀ t' r', t' ≠ t → st'.isLabeled t' r' = st.isLabeled t' r') := by
  unfold SState.isLabeled at h
  cases hl : alookup t st.observed with
  | none => simp [hl] at h
  | some ms =>
    simp only [hl] at h
    refine ⟨{ st with observed := aset t (adel r ms) st.observed }, ?_, rfl, ?_, ?_⟩
    · simp only [SState.apply, hl]
      have : (alookup r ms).isNone = false := by
        cases hx : alookup r ms with
        | none => simp [hx] at h
        | some x => rfl
      simp [this]
    · intro t' r' h'
      unfold SState.isLabeled at h' ⊢
      simp only at h'
      rw [alookup_aset] at h'
      by_cases ht : t' = t
      · subst ht
        simp only [if_true] at h'
        rw [hl]
        exact isSome_alookup_adel h'
      · simp only [ht, if_false] at h'; exact h'
    · intro t' r' ht
      unfold SState.isLabeled
      simp only
      rw [alookup_aset]
      simp [ht]

theorem applyAll_append (st : SState) (a b : List SCall) :
    st.applyAll (a ++ b) = (match st.applyAll a with | .ok st' => st'.applyAll b | .error e => .error e) := by
  induction a generalizing st with
  | nil => simp [SState.applyAll]
  | cons c cs ih =>
    simp only [List.cons_append, SState.applyAll]
    cases st.apply c with
    | error e => rfl
    | ok s1 => exact ih s1

theorem applyAll_single (st : SState) (c : SCall) : st.applyAll [c] = st.apply c := by
  simp only [SState.applyAll]
  cases st.apply c <;> rfl

/-- pending list after `register_pending(t, r)` for the levels `rs`, in order -/
def addPend (t : Nat) : List Nat → List (Nat × Nat) → List (Nat × Nat)
  | [], P => P
  | r :: rs, P => addPend t rs (if P.any (fun p => p.1 == t && p.2 == r) then P else P ++ [(t, r)])

theorem applyAll_pending (st : SState) (t : Nat) (ls : List Nat)
    (h : ∀ r ∈ ls, st.isLabeled t r = false) :
    st.applyAll (ls.map (SCall.pending t)) = .ok { st with pending := addPend t ls st.pending } := by
  induction ls generalizing st with
  | nil => rfl
  | cons r rs ih =>
    have hr : st.isLabeled t r = false := h r (by simp)
    simp only [List.map_cons, SState.applyAll, SState.apply, SState.isPending, hr]
    by_cases hp : st.pending.any (fun p => p.1 == t && p.2 == r) = true
    · simp only [hp, if_true]
      rw [ih st (fun x hx => h x (List.mem_cons_of_mem _ hx))]
      simp [addPend, hp]
    · simp only [hp, Bool.false_eq_true, if_false]
      rw [ih { st with pending := st.pending ++ [(t, r)] } (fun x hx => h x (List.mem_cons_of_mem _ hx))]
      simp [addPend, hp]

theorem any_pending_iff (P : List (Nat × Nat)) (t r : Nat) :
    P.any (fun p => p.1 == t && p.2 == r) = true ↔ (t, r) ∈ P := by
  simp only [List.any_eq_true, Bool.and_eq_true, beq_iff_eq]
  constructor
  · rintro ⟨⟨a, b⟩, hq, rfl, rfl⟩; exact hq
  · exact fun h => ⟨_, h, rfl, rfl⟩

theorem mem_addPend (t : Nat) (ls : List Nat) (P : List (Nat × Nat)) (p : Nat × Nat) :
    p ∈ addPend t ls P ↔ p ∈ P ∨ (p.1 = t ∧ p.2 ∈ ls) := by
  induction ls generalizing P with
  | nil => simp [addPend]
  | cons r rs ih =>
    have hp : p.1 = t ∧ p.2 = r ↔ p = (t, r) := by rw [Prod.ext_iff]
    rw [addPend, ih, List.mem_cons, and_or_left, hp]
    split
    · rename_i hm
      constructor
      · exact fun h => h.elim Or.inl fun h => Or.inr (Or.inr h)
      · rintro (h | rfl | h)
        · exact Or.inl h
        · exact Or.inl ((any_pending_iff P t r).mp hm)
        · exact Or.inr h
    · rw [List.mem_append, List.mem_singleton, or_assoc]

theorem nodup_addPend (t : Nat) (ls : List Nat) (P : List (Nat × Nat)) (h : P.Nodup) :
    (addPend t ls P).Nodup := by
  induction ls generalizing P with
  | nil => exact h
  | cons r rs ih =>
    rw [addPend]
    apply ih
    split
    · exact h
    · rename_i hm
      exact List.nodup_append.mpr ⟨h, List.pairwise_singleton _ _, fun a ha b hb => by
        rw [List.mem_singleton.mp hb]; rintro rfl; exact hm ((any_pending_iff P t r).mpr ha)⟩

/-- the calls of one report, applied in order: `remove_case` (if any), `register_pending` for
`pend`, then `on_trial_result(update=upd)` -/
theorem feed_result (st0 : SState) (tid r : Nat) (v : Rat) (rem : List SCall) (pend : List Nat) (upd : Bool)
    (hwf : ObsWF st0)
    (hrem : rem = [] ∨ ∃ pr pv, rem = [SCall.removeCase tid pr pv] ∧ st0.isLabeled tid pr = true)
    (hpend : ∀ x ∈ pend, st0.isLabeled tid x = false) :
    ∃ st3, st0.applyAll ((rem ++ pend.map (SCall.pending tid)) ++ [SCall.update tid r v upd]) = .ok st3 ∧
      st3.pending = (if upd then (addPend tid pend st0.pending).erase (tid, r) else addPend tid pend st0.pending) ∧
      ObsWF st3 ∧
      (∀ t r', t ≠ tid → st3.isLabeled t r' = st0.isLabeled t r') ∧
      (∀ r', st3.isLabeled tid r' = true → st0.isLabeled tid r' = true ∨ (upd = true ∧ r' = r)) ∧
      (upd = true → st3.isLabeled tid r = true) := by
  -- after `remove_case`
  have step1 : ∃ st1, st0.applyAll rem = .ok st1 ∧ st1.pending = st0.pending ∧ ObsWF st1 ∧
      (∀ t r', st1.isLabeled t r' = true → st0.isLabeled t r' = true) ∧
      (∀ t r', t ≠ tid → st1.isLabeled t r' = st0.isLabeled t r') := by
    rcases hrem with rfl | ⟨pr, pv, rfl, hl⟩
    · exact ⟨st0, rfl, rfl, hwf, fun _ _ h => h, fun _ _ _ => rfl⟩
    · obtain ⟨st1, a1, a2, a3, a4⟩ := apply_removeCase st0 tid pr pv hl
      exact ⟨st1, by rw [applyAll_single]; exact a1, a2, apply_preserves_wf st0 st1 _ a1 hwf, a3, a4⟩
  obtain ⟨st1, b1, b2, b3, b4, b5⟩ := step1
  have hpend1 : ∀ x ∈ pend, st1.isLabeled tid x = false := by
    intro x hx
    cases hl : st1.isLabeled tid x with
    | false => rfl
    | true => have := b4 tid x hl; rw [hpend x hx] at this; cases this
  have step2 := applyAll_pending st1 tid pend hpend1
  rw [applyAll_append, applyAll_append, b1]
  simp only [step2, applyAll_single]
  cases upd with
  | false =>
    exact ⟨_, rfl, (by simp [b2]), b3, b5, fun r' hl => Or.inl (b4 tid r' hl), fun hx => (by cases hx)⟩
  | true =>
    simp only [SState.apply, if_true]
    have hlab : ∀ t r', (({ st1 with pending := addPend tid pend st1.pending } : SState).label tid r
        (({ st1 with pending := addPend tid pend st1.pending } : SState).crit v)).isLabeled t r'
        = (decide (t = tid ∧ r' = r) || st1.isLabeled t r') := by
      intro t r'; rw [isLabeled_label]; rfl
    refine ⟨_, rfl, (by simp [label_pending, b2]), ?_, ?_, ?_, ?_⟩
    · exact apply_preserves_wf ({ st1 with pending := addPend tid pend st1.pending } : SState) _
        (.update tid r v true) rfl b3
    · intro t r' ht
      rw [hlab, b5 t r' ht]; simp [ht]
    · intro r' hl
      rw [hlab] at hl
      simp only [Bool.or_eq_true, decide_eq_true_eq] at hl
      rcases hl with ⟨_, h2⟩ | hl
      · exact Or.inr ⟨trivial, h2⟩
      · exact Or.inl (b4 tid r' hl)
    · intro _; rw [hlab]; simp

end SyneTune.C14Comp
