import SyneTune.Lemmas.C14SyncState
/- C14 synchronous composition: what an operation within the contract does to the composed
system (`Eff`), that scheduler and searcher accept it, and what follows for one step and for
runs, also from a constructed scheduler: the invariant, the constants, where observations come from. -/
namespace SyneTune.Sync.C14S
open SyneTune.C14 SyneTune.C14Comp

/-- neither the scheduler nor the searcher raises -/
def Accepted (y : SysS) (op : Op) : Prop :=
  ∃ s' o st', y.sched.step op = .ok (s', o) ∧ applyActs y.st (o.calls.map trCall) = .ok st'

theorem sysS_eta (y : SysS) : ({ sched := y.sched, st := y.st, last := y.last } : SysS) = y := rfl

theorem stepCS_remove (y : SysS) (t : Nat) : stepCS y (.remove t) = y := rfl

/-- The effect of an operation within the contract, from a state satisfying the invariant.
* `quiet`: nothing the invariant reads changes (`on_trial_error` of a trial which is not running,
  `_suggest` without a configuration, `on_trial_complete`, `on_trial_remove`,
  `trials_checkpoints_can_be_removed`);
* `stop`: the result of a trial which is not running;
* `report`: a result below the milestone, passed to the searcher iff it lies in the window of the
  run, with `update = (searcher_data == "all")`;
* `milestone`: the milestone result, PAUSE, passed on with `update=True`;
* `failed`: `on_trial_error` of a running trial;
* `registered`: `_suggest` resumes a paused trial, or starts a new one and calls `register_pending`. -/
inductive Eff (y : SysS) : Op → SysS → Prop
  | quiet {op : Op} {s' : Sched} {st' : SState} (hop : ∀ t r v, op ≠ .result t r v) (hv : SameView y.sched s')
      (hp : st'.pending = y.st.pending) (ho : st'.observed = y.st.observed) (hm : st'.mode = y.st.mode) :
      Eff y op ⟨s', st', y.last⟩
  | stop {t : Nat} (r : Nat) (v : Metric) (hn : alookup t y.sched.pending = none) : Eff y (.result t r v) y
  | report {t r id : Nat} {sl : SlotInRung} (v : Metric) (hl : alookup t y.sched.pending = some (id, sl))
      (h1 : y.lastOf t < r) (h2 : r < sl.level) :
      Eff y (.result t r v) ⟨y.sched,
        received y.st t r v (decide (y.sched.prevLvl id sl.rungIndex < r) && y.sched.searcherAll), aset t r y.last⟩
  | milestone {t id : Nat} {sl : SlotInRung} {s' : Sched} (v : Metric) (ha : Answered y.sched s' t id sl v) :
      Eff y (.result t sl.level v) ⟨s', received y.st t sl.level v true, aset t sl.level y.last⟩
  | failed {t id : Nat} {sl : SlotInRung} {s' : Sched} {st' : SState} (ha : Answered y.sched s' t id sl .nan)
      (hp : st'.pending = y.st.pending.filter (fun p => p.1 != t)) (ho : st'.observed = y.st.observed)
      (hm : st'.mode = y.st.mode) : Eff y (.error t) ⟨s', st', y.last⟩
  | registered {tid t id : Nat} {c : Bool} {sl : SlotInRung} {o : Option Nat} {s' : Sched} {st' : SState}
      (hr : Registered y.sched s' t id sl o) (hnd : st'.pending.Nodup)
      (hp : ∀ p, p ∈ st'.pending ↔ p ∈ y.st.pending ∨ (o = none ∧ p = (t, sl.level)))
      (ho : st'.observed = y.st.observed) (hm : st'.mode = y.st.mode) :
      Eff y (.suggest tid c) ⟨s', st', aset t 0 y.last⟩

/-- within the contract `on_trial_complete` leaves the data alone: a finite result is already
there (the state stays the same), a NaN result finds nothing to drop and only marks the trial as
failed -/
theorem received_complete {y : SysS} (h : CInvS y) {t r : Nat} {v : Metric} (hok : CompleteOK y.st t r v) :
    (received y.st t r v true).pending = y.st.pending ∧ (received y.st t r v true).observed = y.st.observed ∧
    ∀ x, v = .val x → received y.st t r v true = y.st := by
  cases v with
  | nan =>
    have hnp : (t, r) ∉ y.st.pending := hok
    exact ⟨by rw [received_pending, if_pos rfl, dropPending_eq_erase, List.erase_of_not_mem hnp], markFailed_observed _ _, nofun⟩
  | val x =>
    have hobs : obsAt y.st t r = some (y.st.crit x) := hok
    have hnp : (t, r) ∉ y.st.pending := fun hp => by
      have := pending_not_labeled h hp
      rw [lab_false_iff, hobs] at this; cases this
    have : received y.st t r (.val x) true = y.st := label_noop _ _ _ _ hobs hnp
    exact ⟨by rw [this], by rw [this], fun _ _ => this⟩

theorem stepCS_complete (y : SysS) (t r : Nat) (v : Metric) :
    stepCS y (.complete t r v) = ⟨y.sched, received y.st t r v true, y.last⟩ :=
  stepCS_ok (o := { calls := [SCall.update t r v true] }) rfl (applyActs_update _ _ _ _ _)

/-- scheduler and searcher accept every operation within the contract, with the effect `Eff` -/
theorem step_eff {y : SysS} (h : CInvS y) (op : Op) (hok : OpOKS y op) : Accepted y op ∧ Eff y op (stepCS y op) := by
  have key : ∀ {s' o st'}, y.sched.step op = .ok (s', o) → applyActs y.st (o.calls.map trCall) = .ok st' →
      Eff y op ⟨s', st', ghostNext y.sched y.last op o⟩ → Accepted y op ∧ Eff y op (stepCS y op) :=
    fun h1 h2 he => ⟨⟨_, _, _, h1, h2⟩, stepCS_ok h1 h2 ▸ he⟩
  -- each case of `SuggestEff` / `ResultEff` / `ErrorEff` is one constructor of `Eff`: resume, start ↦ registered;
  -- noconfig, idle ↦ quiet; continue ↦ report; milestone ↦ milestone; failed ↦ failed; skip is outside the contract
  cases op with
  | suggest tid c =>
    have he := suggest_eff h.inv tid c hok
    generalize hs : y.sched.suggest tid c = res at he
    cases he with
    | @resume _ g1 id _ _ _ t hj hx hnp hI' =>
      exact key (step_suggest hs) rfl (.registered
        (.of_frame h.inv ⟨hI', rfl, hj.sys⟩ hnp rfl (frame_job hj) (hj.slotAt hx)) h.pnd (fun p => by simp) rfl rfl)
    | @start g1 id br rg x hj hx hnp hI' =>
      have hr : Registered y.sched _ tid id { slotOf br rg x with tid := some tid } none :=
        .of_frame h.inv ⟨hI', rfl, hj.sys⟩ hnp rfl (frame_job hj) (hj.slotAt hx)
      -- the searcher accepts `register_pending`: the new trial has neither pending evaluations nor data
      have hnolab : y.st.isLabeled tid rg.level = false := by
        cases hl : y.st.isLabeled tid rg.level with
        | false => rfl
        | true => exact absurd (labeled_known h hl) hok
      have hnopend := no_pending_of_not_running h hnp
      have hap := apply_pending_new y.st tid rg.level (isPending_false _ _ _ hnopend) hnolab
      refine key (step_suggest hs) (st' := { y.st with pending := y.st.pending ++ [(tid, rg.level)] }) ?_
        (.registered hr ?_ (fun p => by simp [slotOf]) rfl rfl)
      · simp only [List.map_cons, List.map_nil, trCall, applyActs_single, applyAct, hap]
      · show (y.st.pending ++ [(tid, rg.level)]).Nodup
        rw [List.nodup_append]
        refine ⟨h.pnd, List.pairwise_singleton _ _, fun a ha b hb hab => ?_⟩
        rw [List.mem_singleton.mp hb] at hab
        exact hnopend a ha (hab ▸ rfl)
    | noconfig hj hx hr hne hI' =>
      exact key (step_suggest hs) rfl (.quiet nofun (sameView_noconfig h.inv hj hx hr hne hI') rfl rfl rfl)
  | result t r v =>
    have hres : ResultOK (alookup t y.sched.pending) (y.lastOf t) r := hok
    have he := result_eff h.inv t r v
    generalize hs : y.sched.onResult t r v = res at he
    cases he with
    | stop hnone =>
      refine key (step_result hs) rfl ?_
      simp only [ghostNext, hnone, Option.isSome_none, Bool.false_eq_true, if_false]
      exact .stop r v hnone
    | @«continue» id sl pv hlook hlt hpv =>
      rw [hlook] at hres
      obtain rfl : pv = y.sched.prevLvl id sl.rungIndex := Except.ok.inj (hpv.symm.trans (pend_level h.inv hlook).2.2)
      refine key (step_result hs)
        (st' := received y.st t r v (decide (y.sched.prevLvl id sl.rungIndex < r) && y.sched.searcherAll)) ?_ ?_
      · by_cases hp : y.sched.prevLvl id sl.rungIndex < r
        · simp only [hp, if_true, decide_true, Bool.true_and]; exact applyActs_update _ _ _ _ _
        · simp only [hp, if_false, decide_false, Bool.false_and]; rfl
      · simp only [ghostNext, hlook, Option.isSome_some, if_true]
        exact .report v hlook hres.1 hlt
    | @milestone id sl pv _ _ hlook hr hpv hrep hI' =>
      subst hr
      obtain ⟨hlv, hplt, hlp⟩ := pend_level h.inv hlook
      obtain rfl : pv = y.sched.prevLvl id sl.rungIndex := Except.ok.inj (hpv.symm.trans hlp)
      -- the milestone lies above `prev_level`, so the result is passed to the searcher
      rw [if_pos (hlv ▸ hplt)] at hs
      refine key (step_result hs) (applyActs_update _ _ _ _ _) ?_
      simp only [ghostNext, hlook, Option.isSome_some, if_true]
      exact .milestone v (hrep.answered h.inv hlook hI')
    | skip hlook hgt =>
      rw [hlook] at hres
      exact absurd hres.2 (Nat.not_le_of_lt hgt)
  | error t =>
    have h2 : applyActs y.st (([SCall.evalFailed t]).map trCall) = .ok (markFailed (y.st.cleanupPending t) t) := by
      simp only [List.map_cons, List.map_nil, trCall, applyActs_single, applyAct, apply_evalFailed]
    have he := error_eff h.inv t
    generalize hs : y.sched.onError t = res at he
    cases he with
    | idle hnone =>
      refine key (step_error hs) h2 (.quiet nofun (.of_eq h.inv rfl rfl rfl) ?_ (markFailed_observed _ _) (markFailed_mode _ _))
      rw [markFailed_pending]
      exact List.filter_eq_self.mpr fun p hp => by simpa using no_pending_of_not_running h hnone p hp
    | failed hlook hrep hI' =>
      exact key (step_error hs) h2 (.failed (hrep.answered h.inv hlook hI') (markFailed_pending _ _)
        (markFailed_observed _ _) (markFailed_mode _ _))
  | complete t r v =>
    obtain ⟨hp, ho, _⟩ := received_complete h (show CompleteOK y.st t r v from hok)
    exact key (o := { calls := [SCall.update t r v true] }) rfl (applyActs_update _ _ _ _ _)
      (.quiet nofun (.of_eq h.inv rfl rfl rfl) hp ho (received_mode _ _ _ _ _))
  | remove t => exact key rfl rfl (.quiet nofun (.of_eq h.inv rfl rfl rfl) rfl rfl rfl)
  | takeRemovable =>
    exact key rfl rfl (.quiet nofun (.of_eq h.inv rfl rfl rfl) rfl rfl rfl)

theorem pending_of_running {y : SysS} (h : CInvS y) {t id : Nat} {sl : SlotInRung}
    (hl : alookup t y.sched.pending = some (id, sl)) {p : Nat × Nat} (hp : p ∈ y.st.pending) (he : p.1 = t) :
    p = (t, sl.level) ∧ y.sched.mgr.SlotAt id sl.rungIndex sl.slotIndex ⟨none, none⟩ := by
  obtain ⟨id', sl', hl', hpl, hs⟩ := h.pend p hp
  rw [he, hl] at hl'; cases hl'
  exact ⟨Prod.ext he hpl, hs⟩

namespace Eff
variable {y y' : SysS} {op : Op}

theorem cinvS (h : CInvS y) (he : Eff y op y') : CInvS y' := by
  cases he with
  | quiet _ hv hp ho hm => exact cinvS_quiet h hv hp ho hm
  | stop => exact h
  | report v hl h1 h2 => exact cinvS_report h hl h1 h2 v (by simp)
  | @milestone t id sl s' v ha =>
    refine cinvS_answered h ha (hwf := received_wf _ _ _ _ _ h.owf) (hmode := received_mode _ _ _ _ _)
      (hnd := ?hnd) (hmem := fun p => ?hmem) (hlast' := fun u hu => ?hlast') (hobs := fun u q => ?hobs)
      (hval := fun x hx => hx ▸ obsAt_received_self _ _ _ x)
    case hnd => rw [received_pending, if_pos rfl, dropPending_eq_erase]; exact h.pnd.erase _
    case hmem =>
      -- among the pending entries `p ≠ (t, milestone)` iff `p.1 ≠ t`: the only pending entry of a running trial is
      -- the one at its milestone (`pending_of_running`)
      rw [received_pending, if_pos rfl, dropPending_eq_erase, h.pnd.mem_erase_iff, and_comm]
      exact and_congr_right fun hp => not_congr ⟨fun he => he ▸ rfl, fun he => (pending_of_running h ha.look hp he).1⟩
    case hlast' => rw [alookup_aset, if_neg hu]; rfl
    case hobs =>
      exact (obsAt_received y.st t sl.level v true u q).imp_right fun ⟨h1, h2, x, _, hv, _⟩ => ⟨h1, h2, x, hv⟩
  | failed ha hp ho hm =>
    exact cinvS_answered h ha (hnd := hp ▸ h.pnd.filter _) (hwf := obsWF_congr ho h.owf) (hmode := hm)
      (hmem := fun p => by rw [hp, List.mem_filter]; simp) (hlast' := fun _ _ => rfl)
      (hobs := fun u q => Or.inl (obsAt_congr ho u q)) (hval := nofun)
  | registered hr hnd hp ho hm => exact cinvS_registered h hr hnd hp ho hm

theorem schedTr (h : CInvS y) (he : Eff y op y') : SchedTr y.sched y'.sched := by
  cases he with
  | quiet _ hv => exact hv.toSchedTr
  | stop => exact ⟨h.inv, rfl, rfl⟩
  | report => exact ⟨h.inv, rfl, rfl⟩
  | milestone _ ha => exact ha.toSchedTr
  | failed ha => exact ha.toSchedTr
  | registered hr => exact hr.toSchedTr

/-- the mode of the searcher is constant; an observation is neither changed nor removed, a new one
is the criterion of the finite value the operation reports for that trial and level -/
theorem obs (h : CInvS y) (he : Eff y op y') :
    y'.st.mode = y.st.mode ∧ ∀ t r, obsAt y'.st t r = obsAt y.st t r ∨
      (obsAt y.st t r = none ∧ ∃ x, op = .result t r (.val x) ∧ obsAt y'.st t r = some (y.st.crit x)) := by
  -- a result received for a level without observation
  have key : ∀ {t r : Nat} (v : Metric) (upd : Bool), (upd = true → y.st.isLabeled t r = false) → ∀ t' r',
      obsAt (received y.st t r v upd) t' r' = obsAt y.st t' r' ∨ (obsAt y.st t' r' = none ∧
        ∃ x, Op.result t r v = .result t' r' (.val x) ∧ obsAt (received y.st t r v upd) t' r' = some (y.st.crit x)) := by
    intro t r v upd hf t' r'
    rcases obsAt_received y.st t r v upd t' r' with he | ⟨rfl, rfl, x, hu, rfl, hx⟩
    · exact Or.inl he
    · exact Or.inr ⟨(lab_false_iff _ _ _).mp (hf hu), x, rfl, hx⟩
  cases he with
  | quiet _ _ _ ho hm => exact ⟨hm, fun t r => Or.inl (obsAt_congr ho t r)⟩
  | stop => exact ⟨rfl, fun _ _ => Or.inl rfl⟩
  | report v hl h1 h2 =>
    refine ⟨received_mode _ _ _ _ _, key v _ fun hu => fresh_level h hl ?_ h1⟩
    simp only [Bool.and_eq_true, decide_eq_true_eq] at hu
    exact hu.1
  | milestone v ha => exact ⟨received_mode _ _ _ _ _, key v true fun _ => fresh_milestone h ha.look⟩
  | failed _ _ ho hm => exact ⟨hm, fun t r => Or.inl (obsAt_congr ho t r)⟩
  | registered _ _ _ ho hm => exact ⟨hm, fun t r => Or.inl (obsAt_congr ho t r)⟩

end Eff

theorem accepted_step {y : SysS} (h : CInvS y) (op : Op) (hok : OpOKS y op) : Accepted y op :=
  (step_eff h op hok).1

theorem cinvS_step' {y : SysS} (h : CInvS y) (op : Op) (hok : OpOKS y op) : CInvS (stepCS y op) :=
  (step_eff h op hok).2.cinvS h

theorem step_stable {y : SysS} (h : CInvS y) (op : Op) (hok : OpOKS y op) :
    (stepCS y op).st.mode = y.st.mode ∧
    ∀ t r c, obsAt y.st t r = some c → obsAt (stepCS y op).st t r = some c := by
  obtain ⟨hm, ho⟩ := (step_eff h op hok).2.obs h
  exact ⟨hm, fun t r _ => obsAt_stays (ho t r)⟩

theorem runCS_cons (y : SysS) (op : Op) (ops : List Op) : runCS y (op :: ops) = runCS (stepCS y op) ops := rfl

theorem runCS_append (y : SysS) (a b : List Op) : runCS y (a ++ b) = runCS (runCS y a) b := by
  simp [runCS, List.foldl_append]

theorem opsOKS_append (y : SysS) (a b : List Op) : OpsOKS y (a ++ b) ↔ OpsOKS y a ∧ OpsOKS (runCS y a) b := by
  induction a generalizing y with
  | nil => simp [OpsOKS, runCS]
  | cons op ops ih =>
    simp only [List.cons_append, OpsOKS, runCS_cons, ih, and_assoc]

theorem run_stable {y : SysS} (h : CInvS y) (ops : List Op) (hok : OpsOKS y ops) :
    (runCS y ops).st.mode = y.st.mode ∧
    ∀ t r c, obsAt y.st t r = some c → obsAt (runCS y ops).st t r = some c := by
  induction ops generalizing y with
  | nil => exact ⟨rfl, fun _ _ _ hc => hc⟩
  | cons op ops ih =>
    obtain ⟨m1, s1⟩ := step_stable h op hok.1
    obtain ⟨m2, s2⟩ := ih (cinvS_step' h op hok.1) hok.2
    exact ⟨m2.trans m1, fun t r c hc => s2 t r c (s1 t r c hc)⟩

theorem run_consts {y : SysS} (h : CInvS y) (ops : List Op) (hok : OpsOKS y ops) :
    (runCS y ops).sched.mgr.bracketRungs = y.sched.mgr.bracketRungs ∧
    (runCS y ops).sched.searcherAll = y.sched.searcherAll := by
  induction ops generalizing y with
  | nil => exact ⟨rfl, rfl⟩
  | cons op ops ih =>
    have hs := (step_eff h op hok.1).2.schedTr h
    obtain ⟨b1, b2⟩ := ih (cinvS_step' h op hok.1) hok.2
    exact ⟨b1.trans hs.sys, b2.trans hs.sa⟩

theorem init_no_slot {mode : Mode} {systems : List (List (Nat × Nat))} {a b : Bool} {s : Sched}
    (h : Sched.init mode systems a b = .ok s) {j k p t : Nat} {m : Option Metric}
    (hs : s.mgr.SlotAt j k p ⟨some t, m⟩) : False := by
  obtain ⟨g, -, rfl⟩ := init_ok_eq h
  cases (init_inv mode systems a b _ h).1.ids t (slotAt_hasId hs rfl)

theorem init_cinvS {mode : Mode} {systems : List (List (Nat × Nat))} {a b : Bool} {s : Sched}
    (h : Sched.init mode systems a b = .ok s) (m : Mode) : CInvS { sched := s, st := { mode := m }, last := [] } := by
  obtain ⟨g, -, rfl⟩ := init_ok_eq h
  exact {
    inv := (init_inv mode systems a b _ h).1, pnd := List.nodup_nil, owf := ObsWF_of_empty rfl, pend := nofun,
    conv := fun t id sl hl => by cases hl
    lastOk := fun t id sl hl => by cases hl
    obs := fun t r hl => by rw [lab_iff, obsAt_of_empty rfl] at hl; cases hl
    fin := fun t id k p x hs => (init_no_slot h hs).elim }

theorem OpOKS.legalOp {y : SysS} {op : Op} (hok : OpOKS y op) : LegalOp y.sched op := by
  cases op with
  | suggest => exact hok
  | _ => trivial

theorem stepCS_sched_next {y : SysS} {op : Op} (ha : Accepted y op) : (stepCS y op).sched = y.sched.next op := by
  obtain ⟨s', o, st', h1, h2⟩ := ha
  rw [stepCS_ok h1 h2]
  simp only [Sched.next, h1]

/-- along a run within the contract the scheduler component is the scheduler run on its own
(`Sched.run`), and the run is legal in the sense of `Lemmas/SyncRun.lean`: started from a state built
by `Sched.init`, its states are `Reachable` -/
theorem sched_run_eq {y : SysS} (h : CInvS y) (ops : List Op) (hok : OpsOKS y ops) :
    (runCS y ops).sched = y.sched.run ops ∧ LegalRun y.sched ops := by
  induction ops generalizing y with
  | nil => exact ⟨rfl, trivial⟩
  | cons op ops ih =>
    have hn := stepCS_sched_next (accepted_step h op hok.1)
    obtain ⟨i1, i2⟩ := ih (cinvS_step' h op hok.1) hok.2
    rw [hn] at i1 i2
    exact ⟨i1, hok.1.legalOp, i2⟩

/-- `(trial, level, metric value)` reported by `on_trial_result` -/
def opReportsS : Op → List (Nat × Nat × Metric)
  | .result t r v => [(t, r, v)]
  | _ => []

theorem run_obs_source {y : SysS} (h : CInvS y) (ops : List Op) (hok : OpsOKS y ops) (t r : Nat) (c : Rat)
    (hc : obsAt (runCS y ops).st t r = some c) :
    obsAt y.st t r = some c ∨ ∃ x, (t, r, Metric.val x) ∈ ops.flatMap opReportsS ∧ c = y.st.crit x := by
  induction ops generalizing y with
  | nil => exact Or.inl hc
  | cons op ops ih =>
    rw [List.flatMap_cons]
    rcases ih (cinvS_step' h op hok.1) hok.2 hc with h1 | ⟨x, hx, hcx⟩
    · rcases ((step_eff h op hok.1).2.obs h).2 t r with he | ⟨_, x, rfl, hx⟩
      · exact Or.inl (he ▸ h1)
      · exact Or.inr ⟨x, List.mem_append_left _ (List.mem_singleton.mpr rfl), Option.some.inj (h1.symm.trans hx)⟩
    · exact Or.inr ⟨x, List.mem_append_right _ hx, by rw [hcx, crit_of_mode (step_stable h op hok.1).1]⟩

theorem result_present {y : SysS} (h : CInvS y) {t r : Nat} {x : Rat} (hok : OpOKS y (.result t r (.val x)))
    {id : Nat} {sl : SlotInRung} (hlook : alookup t y.sched.pending = some (id, sl))
    (hsel : (y.sched.searcherAll = true ∧ y.sched.prevLvl id sl.rungIndex < r) ∨ r = sl.level) :
    obsAt (stepCS y (.result t r (.val x))).st t r = some (y.st.crit x) := by
  generalize hy : stepCS y (.result t r (.val x)) = y'
  have he := hy ▸ (step_eff h _ hok).2
  cases he with
  | quiet hop => exact absurd rfl (hop _ _ _)
  | stop _ _ hn => rw [hn] at hlook; cases hlook
  | report _ hl _ h2 =>
    rw [hlook] at hl; cases hl
    obtain ⟨hsa, hprev⟩ := hsel.resolve_right (Nat.ne_of_lt h2)
    simp only [hprev, hsa, decide_true, Bool.and_self]
    exact obsAt_received_self _ _ _ _
  | milestone => exact obsAt_received_self _ _ _ _

theorem error_no_pending {y : SysS} (h : CInvS y) (t : Nat) : ∀ p ∈ (stepCS y (.error t)).st.pending, p.1 ≠ t := by
  apply no_pending_of_not_running (cinvS_step' h (.error t) trivial)
  rw [stepCS_sched_next (accepted_step h (.error t) trivial)]
  have he := error_eff h.inv t
  generalize hs : y.sched.onError t = res at he
  cases he with
  | idle hnone => rw [next_of_ok (step_error hs)]; exact hnone
  | failed => rw [next_of_ok (step_error hs)]; exact alookup_adel_self h.inv.keys

theorem result_end_no_pending {y : SysS} (h : CInvS y) (t r : Nat) (v : Metric) (hok : OpOKS y (.result t r v))
    {s' : Sched} {d : Decision} {calls : List SCall} (hres : y.sched.onResult t r v = .ok (s', d, calls))
    (hd : d ≠ .continue) : ∀ p ∈ (stepCS y (.result t r v)).st.pending, p.1 ≠ t := by
  apply no_pending_of_not_running (cinvS_step' h _ hok)
  rw [stepCS_sched_next (accepted_step h _ hok), next_of_ok (step_result hres)]
  have he := result_eff h.inv t r v
  rw [hres] at he
  cases he with
  | stop hnone => exact hnone
  | «continue» => exact absurd rfl hd
  | milestone => exact alookup_adel_self h.inv.keys

end SyneTune.Sync.C14S
