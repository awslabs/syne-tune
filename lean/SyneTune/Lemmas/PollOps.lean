import SyneTune.Lemmas.PollTrial
import SyneTune.Lemmas.AssocList
/-
Every operation of the generic poll model preserves the invariant `PInv`; a poll in closed form per trial
(`fetch_spec`), `fetch_completed`.
-/
namespace SyneTune.PollL
open SyneTune SyneTune.Backend

/-- not the `PInv` of the tuning-loop files -/
def PInv (b : Poll) : Prop := ∀ x ∈ b.trials, TInv b.clock x

theorem PInv.get {b : Poll} (h : PInv b) {t : Nat} {x : PTrial} (hx : b.trials[t]? = some x) : TInv b.clock x :=
  h x (List.mem_of_getElem? hx)

theorem PInv.modify {b b' : Poll} (h : PInv b) {t : Nat} {f : PTrial → PTrial} (ht : b'.trials = modifyAt f t b.trials)
    (hc : b.clock ≤ b'.clock) (hf : ∀ x, b.trials[t]? = some x → TInv b'.clock (f x)) : PInv b' := by
  intro y hy
  rw [ht] at hy
  rcases mem_modifyAt f t b.trials y hy with hy | ⟨x, hx, rfl⟩
  · exact (h y hy).mono hc
  · exact hf x hx

theorem PInv.upd {b : Poll} (h : PInv b) (t : Nat) (f : PTrial → PTrial)
    (hf : ∀ x, b.trials[t]? = some x → TInv b.clock (f x)) : PInv (b.upd t f) :=
  h.modify rfl (Nat.le_refl _) hf

theorem upd_get (b : Poll) (t u : Nat) (f : PTrial → PTrial) :
    (b.upd t f).trials[u]? = if u = t then (b.trials[u]?).map f else b.trials[u]? :=
  getElem?_modifyAt f t u b.trials

theorem fetchOne_keeps (x : PTrial) :
    x.fetchOne.1.decided = x.decided ∧ x.fetchOne.1.status = x.status ∧ x.fetchOne.1.dictSt = x.status := by
  by_cases hc : x.out.length > 0 ∧ ¬ x.status.hidden = true
  · rw [fetchOne_pos x hc]; exact ⟨rfl, rfl, rfl⟩
  · rw [fetchOne_neg x hc]; exact ⟨rfl, rfl, rfl⟩

/-- recording the fetched results touches none of the three fields -/
theorem polled_decided (x : PTrial) : (polled x).decided = x.decided := (fetchOne_keeps x).1
theorem polled_status (x : PTrial) : (polled x).status = x.status := (fetchOne_keeps x).2.1
theorem polled_dictSt (x : PTrial) : (polled x).dictSt = x.status := (fetchOne_keeps x).2.2

theorem fetchOne_idem (x : PTrial) : x.fetchOne.1.fetchOne = (x.fetchOne.1, []) := by
  have hst := (fetchOne_keeps x).2.1
  by_cases hc : x.out.length > 0 ∧ ¬ x.status.hidden = true
  · have hc' : x.fetchOne.1.out.length > 0 ∧ ¬ x.fetchOne.1.status.hidden = true := by
      rw [hst, fetchOne_pos x hc]; exact hc
    rw [fetchOne_pos _ hc', hst, fetchOne_pos x hc]
    have h0 : List.drop (x.cursor + (List.drop x.cursor x.out).length) x.out = [] := by
      rw [List.drop_eq_nil_iff, List.length_drop]; omega
    simp only [h0, List.length_nil, Nat.add_zero]
  · have hc' : ¬ (x.fetchOne.1.out.length > 0 ∧ ¬ x.fetchOne.1.status.hidden = true) := by
      rw [hst, fetchOne_neg x hc]; exact hc
    rw [fetchOne_neg _ hc', hst, fetchOne_neg x hc]

theorem batchOf_append (a b : List (Nat × Rep)) (u : Nat) : batchOf (a ++ b) u = batchOf a u ++ batchOf b u := by
  simp [batchOf]

theorem batchOf_pairs (l : List Rep) (t u : Nat) : batchOf (l.map fun r => (t, r)) u = if u = t then l else [] := by
  unfold batchOf
  rw [List.filter_map, List.map_map]
  by_cases h : u = t
  · subst h; simp [Function.comp_def]
  · simp [Function.comp_def, h, Ne.symm h]

/-- the first loop of a poll: every queried trial is polled once (querying it again changes
nothing), and the raw batch holds, per trial, what the poll of that trial returned -/
theorem fetchGo_spec (ids : List Nat) : ∀ (b b' : Poll) (raw : List (Nat × Rep)), fetchGo b ids = .ok (b', raw) →
    b'.clock = b.clock ∧ ∀ u,
      b'.trials[u]? = (b.trials[u]?).map (fun x => if u ∈ ids then x.fetchOne.1 else x) ∧
      batchOf raw u = if u ∈ ids then ((b.trials[u]?).map (·.fetchOne.2)).getD [] else [] := by
  induction ids with
  | nil =>
    intro b b' raw h
    cases h
    exact ⟨rfl, fun u => ⟨by simp, rfl⟩⟩
  | cons t rest ih =>
    intro b b' raw h
    unfold fetchGo at h
    cases hx : b.trials[t]? with
    | none => simp [hx] at h
    | some x =>
      simp only [hx] at h
      cases hgo : fetchGo (b.upd t fun y => y.fetchOne.1) rest with
      | error e => simp [hgo] at h
      | ok res =>
        obtain ⟨b1, more⟩ := res
        simp only [hgo, Except.ok.injEq, Prod.mk.injEq] at h
        obtain ⟨rfl, rfl⟩ := h
        obtain ⟨hc, hu⟩ := ih _ _ _ hgo
        refine ⟨hc, fun u => ?_⟩
        rw [(hu u).1, batchOf_append, batchOf_pairs, (hu u).2, upd_get]
        by_cases hut : u = t
        · subst hut
          by_cases hr : u ∈ rest <;> simp [hx, hr, fetchOne_idem]
        · simp [hut]

theorem record_nil (x : PTrial) : x.record [] = x := by
  simp [PTrial.record]

theorem recordFrom_get (batch : List (Nat × Rep)) (l : List PTrial) (k i : Nat) :
    (recordFrom batch k l)[i]? = (l[i]?).map (fun x => x.record (batchOf batch (k + i))) := by
  induction l generalizing k i with
  | nil => simp [recordFrom]
  | cons x xs ih =>
    cases i with
    | zero => simp [recordFrom]
    | succ i => simp only [recordFrom, List.getElem?_cons_succ, ih]; congr 2; funext y; congr 2; omega

theorem recordFrom_length (batch : List (Nat × Rep)) (l : List PTrial) (k : Nat) :
    (recordFrom batch k l).length = l.length := by
  induction l generalizing k with
  | nil => rfl
  | cons x xs ih => simp [recordFrom, ih]

theorem batchOf_sort (raw : List (Nat × Rep)) (u : Nat)
    (hs : (batchOf raw u).Pairwise (fun a b => a.stamp < b.stamp)) : batchOf (sortByStamp raw) u = batchOf raw u := by
  unfold batchOf at hs ⊢
  rw [List.pairwise_map] at hs
  rw [filter_sortByStamp, sortByStamp_of_sorted _ hs]

theorem fetchOne_snd_sorted {c : Nat} {x : PTrial} (h : TInv c x) :
    x.fetchOne.2.Pairwise (fun a b => a.stamp < b.stamp) := by
  by_cases hc : x.out.length > 0 ∧ ¬ x.status.hidden = true
  · rw [fetchOne_pos x hc]; exact List.Pairwise.sublist (List.drop_sublist _ _) h.stamps
  · rw [fetchOne_neg x hc]; simp

theorem fetch_spec {b b' : Poll} {ids : List Nat} {sts : List (Nat × St)} {batch : List (Nat × Rep)}
    (hinv : PInv b) (h : b.fetch ids = .ok (b', sts, batch)) :
    b'.clock = b.clock ∧
    (∀ u, b'.trials[u]? = (b.trials[u]?).map fun x => if u ∈ ids then polled x else x) ∧
    (∀ u, batchOf batch u = if u ∈ ids then ((b.trials[u]?).map (·.fetchOne.2)).getD [] else []) ∧
    (∀ u, alookup u sts = if u ∈ ids then some ((b.trials[u]?.map (·.status)).getD .inProgress) else none) := by
  unfold Poll.fetch at h
  cases hgo : fetchGo b ids with
  | error e => simp [hgo] at h
  | ok res =>
    obtain ⟨b1, raw⟩ := res
    simp only [hgo, Except.ok.injEq, Prod.mk.injEq] at h
    obtain ⟨rfl, rfl, rfl⟩ := h
    obtain ⟨hc, hu⟩ := fetchGo_spec ids b b1 raw hgo
    have hb : ∀ u, batchOf (sortByStamp raw) u =
        if u ∈ ids then ((b.trials[u]?).map (·.fetchOne.2)).getD [] else [] := by
      intro u
      have hs : (batchOf raw u).Pairwise (fun a b => a.stamp < b.stamp) := by
        rw [(hu u).2]
        split
        · cases hx : b.trials[u]? with
          | none => exact List.Pairwise.nil
          | some x => exact fetchOne_snd_sorted (hinv.get hx)
        · exact List.Pairwise.nil
      rw [batchOf_sort raw u hs, (hu u).2]
    have htr : ∀ u, (recordBatch (sortByStamp raw) b1.trials)[u]? =
        (b.trials[u]?).map fun x => if u ∈ ids then polled x else x := by
      intro u
      simp only [recordBatch, recordFrom_get, Nat.zero_add, (hu u).1, hb u]
      cases b.trials[u]? with
      | none => rfl
      | some x => by_cases hi : u ∈ ids <;> simp [hi, polled, record_nil]
    refine ⟨hc, htr, hb, fun u => ?_⟩
    rw [alookup_map_key]
    by_cases hi : u ∈ ids
    · rw [if_pos hi, if_pos hi, htr u]
      cases b.trials[u]? with
      | none => rfl
      | some x => simp only [Option.map_some, if_pos hi, Option.getD_some, polled_dictSt x]
    · rw [if_neg hi, if_neg hi]

theorem fetch_get {b b' : Poll} {ids : List Nat} {sts : List (Nat × St)} {batch : List (Nat × Rep)} {u : Nat} {y : PTrial}
    (hinv : PInv b) (h : b.fetch ids = .ok (b', sts, batch)) (hy : b'.trials[u]? = some y) :
    ∃ x, b.trials[u]? = some x ∧ y = if u ∈ ids then polled x else x := by
  obtain ⟨x, hx, rfl⟩ := Option.map_eq_some_iff.mp (((fetch_spec hinv h).2.1 u).symm.trans hy)
  exact ⟨x, hx, rfl⟩

theorem PInv.fetch {b b' : Poll} {ids : List Nat} {sts : List (Nat × St)} {batch : List (Nat × Rep)}
    (hinv : PInv b) (h : b.fetch ids = .ok (b', sts, batch)) : PInv b' := by
  intro y hy
  obtain ⟨u, hu⟩ := List.getElem?_of_mem hy
  obtain ⟨x, hx, rfl⟩ := fetch_get hinv h hu
  rw [(fetch_spec hinv h).1]
  split
  · exact (hinv.get hx).polled
  · exact hinv.get hx

theorem PInv.emit {b : Poll} (h : PInv b) (t n : Nat) : PInv (b.emit t n) :=
  h.modify rfl (Nat.le_add_right _ _) fun _ hx => (h.get hx).emit n

theorem PInv.exit {b : Poll} (h : PInv b) (t : Nat) (ok : Bool) : PInv (b.exit t ok) :=
  h.upd t _ (fun _ hx => (h.get hx).exit ok)

theorem PInv.wckpt {b : Poll} (h : PInv b) (t : Nat) : PInv (b.wckpt t) := by
  unfold Poll.wckpt; split <;> exact h

theorem PInv.start {b b' : Poll} {c : Option Nat} {tid : Nat} (h : PInv b) (hs : b.start c = .ok (b', tid)) : PInv b' := by
  have key : ∀ ck, PInv { b with trials := b.trials ++ [{}], ckpt := ck, busyCand := insertNat b.trials.length b.busyCand } := by
    intro ck y hy
    simp only [List.mem_append, List.mem_singleton] at hy
    rcases hy with hy | rfl
    · exact h y hy
    · exact TInv.init _
  unfold Poll.start at hs
  cases c with
  | none =>
    simp only [Except.ok.injEq, Prod.mk.injEq] at hs
    obtain ⟨rfl, _⟩ := hs
    exact key _
  | some src =>
    simp only at hs
    by_cases hm : src ∈ b.ckpt
    · simp only [hm, if_true, Except.ok.injEq, Prod.mk.injEq] at hs
      obtain ⟨rfl, _⟩ := hs
      exact key _
    · simp [hm] at hs

theorem PInv.resume {b b' : Poll} {t : Nat} (h : PInv b) (hs : b.resume t = .ok b') : PInv b' := by
  unfold Poll.resume at hs
  split at hs
  · cases hs
  · split at hs
    · cases hs
    · cases hs
      exact h.upd t _ (fun _ hx => (h.get hx).resume)

theorem PInv.pause {b b' : Poll} {t : Nat} (h : PInv b) (hs : b.pause t = .ok b') : PInv b' := by
  unfold Poll.pause at hs
  split at hs
  · cases hs; exact h.upd t _ (fun _ hx => (h.get hx).pause)
  · cases hs

theorem PInv.stop {b b' : Poll} {t : Nat} (h : PInv b) (hs : b.stop t = .ok b') : PInv b' := by
  unfold Poll.stop at hs
  split at hs
  · cases hs
  · cases hs; exact h.upd t _ (fun _ hx => (h.get hx).stop _)

theorem PInv.stopAllGo {l : List (Nat × St)} : ∀ {b b' : Poll}, PInv b → stopAllGo b l = .ok b' → PInv b' := by
  induction l with
  | nil => intro b b' h hs; cases hs; exact h
  | cons p rest ih =>
    intro b b' h hs
    obtain ⟨t, st⟩ := p
    unfold Backend.stopAllGo at hs
    split at hs
    · cases hst : b.stop t with
      | error e => simp [hst] at hs
      | ok b1 => simp only [hst] at hs; exact ih (h.stop hst) hs
    · exact ih h hs

theorem PInv.stopAll {b b' : Poll} (h : PInv b) (hs : b.stopAll = .ok b') : PInv b' := by
  unfold Poll.stopAll at hs
  cases hg : Backend.stopAllGo b b.statuses with
  | error e => simp [hg] at hs
  | ok b1 =>
    simp only [hg, Except.ok.injEq] at hs
    have := PInv.stopAllGo h hg
    subst hs
    split <;> exact this

/-- invariant of `loopGo`: the rest of the batch holds results of a decided trial only if the trial is in
`done` (`skip`: they will be filtered out), and a trial polled as `Completed` is drained (`compl`) -/
structure LoopOK (b : Poll) (statusOf : Nat → St) (done : List (Nat × St)) (rest : List (Nat × Rep)) : Prop where
  inv : PInv b
  skip : ∀ t x, b.trials[t]? = some x → x.decided = true → ∀ r, (t, r) ∈ rest → (alookup t done).isSome = true
  compl : ∀ t x, b.trials[t]? = some x → statusOf t = .completed → Drained x

/-- the state change of one trial caused by a decision -/
def cmdT (delayed : Bool) (polled : St) (d : Decision) (x : PTrial) : PTrial :=
  match d with
  | .continue => x
  | .stop => if polled ≠ .completed then PTrial.stop delayed x else x
  | .pause => x.pause

theorem command_spec {b b' : Poll} {t : Nat} {polled : St} {d : Decision} (h : b.command t polled d = .ok b') :
    b'.trials = modifyAt (cmdT b.delayedStop polled d) t b.trials ∧ b'.clock = b.clock := by
  unfold Poll.command at h
  cases d with
  | «continue» => cases h; exact ⟨(modifyAt_id t _).symm, rfl⟩
  | stop =>
    simp only at h
    by_cases hp : polled ≠ .completed
    · rw [if_pos hp] at h
      unfold Poll.stop at h
      split at h
      · cases h
      · cases h
        refine ⟨?_, rfl⟩
        show _ = modifyAt (fun x => if polled ≠ .completed then PTrial.stop b.delayedStop x else x) t b.trials
        simp only [if_pos hp]
        rfl
    · rw [if_neg hp] at h
      cases h
      refine ⟨?_, rfl⟩
      show _ = modifyAt (fun x => if polled ≠ .completed then PTrial.stop b.delayedStop x else x) t b.trials
      simp only [if_neg hp, modifyAt_id]
  | pause =>
    simp only at h
    unfold Poll.pause at h
    split at h
    · cases h; exact ⟨rfl, rfl⟩
    · cases h

theorem TInv.cmdT {c : Nat} {x : PTrial} (h : TInv c x) (delayed : Bool) (polled : St) (d : Decision) :
    TInv c (cmdT delayed polled d x) := by
  unfold PollL.cmdT
  cases d with
  | «continue» => exact h
  | stop => simp only; split; exact h.stop _; exact h
  | pause => exact h.pause

/-- after the command of a STOP / PAUSE decision the trial is hidden, or it had completed
and everything it wrote has been seen -/
theorem cmdT_quiet (delayed : Bool) (polled : St) (d : Decision) (x : PTrial) (hd : d ≠ .continue)
    (hc : polled = .completed → Drained x) : Quiet (cmdT delayed polled d x) := by
  unfold cmdT
  cases d with
  | «continue» => exact absurd rfl hd
  | stop =>
    simp only
    split
    · exact Or.inl (hidden_stop _ _)
    · exact Or.inr (hc (Decidable.of_not_not ‹_›))
  | pause => exact Or.inl (hidden_of_pauseFile _ rfl)

theorem kill_decided (x : PTrial) : x.kill.decided = x.decided := by
  unfold PTrial.kill; split <;> rfl

theorem kill_of_drained {x : PTrial} (h : Drained x) : x.kill = x := by
  unfold PTrial.kill
  split
  · exact absurd ‹_› h.1
  · rfl

theorem cmdT_decided (delayed : Bool) (polled : St) (d : Decision) (x : PTrial) :
    (cmdT delayed polled d x).decided = x.decided := by
  unfold cmdT
  cases d with
  | «continue» => rfl
  | stop =>
    simp only
    split
    · unfold PTrial.stop
      cases delayed with
      | false => exact kill_decided x
      | true => simp only [if_true]; split <;> rfl
    · rfl
  | pause => exact kill_decided x

/-- the command for a trial polled as completed (a pause: no stop is issued) leaves it drained -/
theorem cmdT_drained (delayed : Bool) (d : Decision) {x : PTrial} (h : Drained x) : Drained (cmdT delayed .completed d x) := by
  cases d with
  | «continue» => exact h
  | stop => exact h
  | pause => show Drained { x.kill with pauseFile := true, dictSt := .paused }; rw [kill_of_drained h]; exact h

/-- the body of `loopGo` in phases: `stepB2` hands the result over and lets the worker write, the command
follows, `stepB4` sets the ghost mark, `stepDone` is the new `done` -/
def stepB2 (b : Poll) (t : Nat) (r : Rep) (n : Nat) : Poll :=
  (Poll.upd { b with loop := { b.loop with lastSeen := insertNat t b.loop.lastSeen } } t (fun x => x.hand r)).emit t n

def stepDone (done : List (Nat × St)) (t : Nat) (polled : St) (d : Decision) : List (Nat × St) :=
  match d with
  | .continue => done
  | .stop => aset t (if polled = .completed then polled else St.stopped) done
  | .pause => aset t St.paused done

def stepB4 (b3 : Poll) (t : Nat) (d : Decision) : Poll :=
  if d = .stop then
    { (b3.upd t (PTrial.markDecided d)) with
      loop := { (b3.upd t (PTrial.markDecided d)).loop with
                schedStopped := insertNat t (b3.upd t (PTrial.markDecided d)).loop.schedStopped } }
  else b3.upd t (PTrial.markDecided d)

/-- one iteration of `loopGo`, with the phases of its body named -/
theorem loopGo_cons (b : Poll) (statusOf : Nat → St) (done : List (Nat × St)) (t : Nat) (r : Rep)
    (rest : List (Nat × Rep)) (script : List ScriptEntry) :
    loopGo b statusOf done ((t, r) :: rest) script =
      if (alookup t done).isSome then loopGo b statusOf done rest script else
      match (stepB2 b t r (script.headD ⟨.continue, 0⟩).emit).command t (statusOf t) (script.headD ⟨.continue, 0⟩).decision with
      | .error err => .error err
      | .ok b3 =>
        match loopGo (stepB4 b3 t (script.headD ⟨.continue, 0⟩).decision) statusOf
            (stepDone done t (statusOf t) (script.headD ⟨.continue, 0⟩).decision) rest script.tail with
        | .error err => .error err
        | .ok (b', d', hs) => .ok (b', d', ⟨t, r, (script.headD ⟨.continue, 0⟩).decision⟩ :: hs) := by
  rw [loopGo]
  rfl

/-- effect of one loop body on trial `t`: hand-over, worker output in the window, the command,
the ghost mark -/
def bodyT (b : Poll) (r : Rep) (polled : St) (e : ScriptEntry) (x : PTrial) : PTrial :=
  PTrial.markDecided e.decision (cmdT b.delayedStop polled e.decision ((x.hand r).emit b.clock e.emit))

theorem body_spec {b b3 : Poll} {t : Nat} {r : Rep} {polled : St} {e : ScriptEntry}
    (hcmd : (stepB2 b t r e.emit).command t polled e.decision = .ok b3) :
    (stepB4 b3 t e.decision).trials = modifyAt (bodyT b r polled e) t b.trials ∧
    (stepB4 b3 t e.decision).clock = b.clock + e.emit := by
  obtain ⟨h1, h2⟩ := command_spec hcmd
  have h4 : (stepB4 b3 t e.decision).trials = modifyAt (PTrial.markDecided e.decision) t b3.trials ∧
      (stepB4 b3 t e.decision).clock = b3.clock := by
    unfold stepB4; split <;> exact ⟨rfl, rfl⟩
  rw [h4.1, h4.2, h1, h2]
  refine ⟨?_, rfl⟩
  simp only [stepB2, Poll.emit, Poll.upd, modifyAt_modifyAt]
  rfl

theorem bodyT_decided (b : Poll) (r : Rep) (polled : St) (e : ScriptEntry) (x : PTrial) :
    (bodyT b r polled e x).decided = (x.decided || decide (e.decision ≠ .continue)) := by
  show ((cmdT _ _ _ _).decided || _) = _
  rw [cmdT_decided]
  unfold PTrial.emit
  split <;> rfl

theorem bodyT_drained (b : Poll) (r : Rep) (e : ScriptEntry) {x : PTrial} (h : Drained x) :
    Drained (bodyT b r .completed e x) := by
  have h' : Drained ((x.hand r).emit b.clock e.emit) := by
    rw [emit_of_not_running (x := x.hand r) h.1]; exact h
  exact cmdT_drained _ _ h'

theorem stepDone_isSome {done : List (Nat × St)} {t u : Nat} (polled : St) {d : Decision}
    (h : (alookup u done).isSome = true ∨ (u = t ∧ d ≠ .continue)) :
    (alookup u (stepDone done t polled d)).isSome = true := by
  cases d with
  | «continue» => exact h.elim id fun h' => absurd rfl h'.2
  | stop => rw [stepDone, alookup_aset]; split; rfl; exact h.elim id fun h' => absurd h'.1 ‹_›
  | pause => rw [stepDone, alookup_aset]; split; rfl; exact h.elim id fun h' => absurd h'.1 ‹_›

theorem loopGo_inv (rest : List (Nat × Rep)) : ∀ (b : Poll) (statusOf : Nat → St) (done : List (Nat × St))
    (script : List ScriptEntry) (b' : Poll) (done' : List (Nat × St)) (hs : List Handed),
    LoopOK b statusOf done rest → loopGo b statusOf done rest script = .ok (b', done', hs) → PInv b' := by
  induction rest with
  | nil =>
    intro b statusOf done script b' done' hs hok h
    cases h
    exact hok.inv
  | cons p rest ih =>
    intro b statusOf done script b' done' hs hok h
    obtain ⟨t, r⟩ := p
    rw [loopGo_cons] at h
    by_cases hdone : (alookup t done).isSome = true
    · rw [if_pos hdone] at h
      exact ih b statusOf done script b' done' hs
        ⟨hok.inv, fun u x hx hd r' hr' => hok.skip u x hx hd r' (List.mem_cons_of_mem _ hr'), hok.compl⟩ h
    · rw [if_neg hdone] at h
      generalize script.headD ⟨.continue, 0⟩ = e at h
      cases hcmd : (stepB2 b t r e.emit).command t (statusOf t) e.decision with
      | error err => rw [hcmd] at h; cases h
      | ok b3 =>
        rw [hcmd] at h
        simp only at h
        cases hgo : loopGo (stepB4 b3 t e.decision) statusOf (stepDone done t (statusOf t) e.decision) rest script.tail with
        | error err => rw [hgo] at h; cases h
        | ok res =>
          obtain ⟨bb, dd, hh⟩ := res
          rw [hgo] at h
          simp only [Except.ok.injEq, Prod.mk.injEq] at h
          obtain ⟨rfl, _, _⟩ := h
          refine ih _ statusOf _ script.tail bb dd hh ?_ hgo
          obtain ⟨htr, hcl⟩ := body_spec hcmd
          -- trial `t` is not decided yet: its result was not skipped
          have hnd : ∀ x, b.trials[t]? = some x → x.decided = false := by
            intro x hx
            cases hdx : x.decided with
            | false => rfl
            | true => exact absurd (hok.skip t x hx hdx r List.mem_cons_self) hdone
          refine ⟨hok.inv.modify htr (hcl ▸ Nat.le_add_right _ _) fun x hx => ?_, ?_, ?_⟩
          · rw [hcl]
            refine ((((hok.inv.get hx).hand r (hnd x hx)).emit e.emit).cmdT _ _ _).markDecided _ fun hd => ?_
            refine cmdT_quiet _ _ _ _ hd fun hpc => ?_
            rw [emit_of_not_running (x := x.hand r) (hok.compl t x hx hpc).1]
            exact hok.compl t x hx hpc
          · intro u y hy hdy r' hr'
            rw [htr] at hy
            obtain ⟨x, hx, ⟨_, rfl⟩ | ⟨rfl, rfl⟩⟩ := getElem?_modifyAt_some hy
            · exact stepDone_isSome _ (Or.inl (hok.skip u x hx hdy r' (List.mem_cons_of_mem _ hr')))
            · rw [bodyT_decided, hnd x hx] at hdy
              exact stepDone_isSome _ (Or.inr ⟨rfl, by simpa using hdy⟩)
          · intro u y hy hcu
            rw [htr] at hy
            obtain ⟨x, hx, ⟨_, rfl⟩ | ⟨rfl, rfl⟩⟩ := getElem?_modifyAt_some hy
            · exact hok.compl u x hx hcu
            · exact hcu ▸ bodyT_drained b r e (hok.compl u x hx hcu)

theorem fetchOne_decided {c : Nat} {x : PTrial} (h : TInv c x) (hd : x.decided = true) : x.fetchOne.2 = [] := by
  by_cases hc : x.out.length > 0 ∧ ¬ x.status.hidden = true
  · rw [fetchOne_pos x hc]
    rcases h.quiet hd with hq | hq
    · exact absurd hq hc.2
    · simp [hq.2]
  · rw [fetchOne_neg x hc]

/-- a poll that shows `Completed` has seen everything the trial wrote -/
theorem polled_completed {c : Nat} {x : PTrial} (h : TInv c x) (hs : x.status = .completed) : Drained (polled x) := by
  have hp : x.proc ≠ .running := by
    intro hp
    unfold PTrial.status at hs
    simp only [hp] at hs
    cases h1 : x.stopFile <;> cases h2 : x.pauseFile <;> cases h3 : x.stopReq <;> simp [h1, h2, h3] at hs
  have hnh : ¬ x.status.hidden = true := by rw [hs]; simp [St.hidden]
  have hle := h.cursor_le
  unfold polled
  by_cases hl : x.out.length > 0
  · rw [fetchOne_pos x ⟨hl, hnh⟩]
    exact ⟨hp, cursor_after hle⟩
  · rw [fetchOne_neg x (fun hc => hl hc.1)]
    exact ⟨hp, show x.cursor = x.out.length by omega⟩

theorem mem_batchOf {batch : List (Nat × Rep)} {t : Nat} {r : Rep} (h : (t, r) ∈ batch) : r ∈ batchOf batch t := by
  unfold batchOf
  simp only [List.mem_map, List.mem_filter]
  exact ⟨(t, r), ⟨h, by simp⟩, rfl⟩

theorem LoopOK.of_fetch {b b' : Poll} {ids : List Nat} {sts : List (Nat × St)} {batch : List (Nat × Rep)}
    (hinv : PInv b) (h : b.fetch ids = .ok (b', sts, batch)) : LoopOK b' (statusIn sts) [] batch := by
  obtain ⟨_, _, hb, hsts⟩ := fetch_spec hinv h
  refine ⟨hinv.fetch h, ?_, ?_⟩
  · -- a decided trial yields nothing at a poll
    intro t y hy hd r hr
    have hmem := mem_batchOf hr
    obtain ⟨x, hx, rfl⟩ := fetch_get hinv h hy
    rw [hb t, hx] at hmem
    by_cases hu : t ∈ ids
    · simp only [if_pos hu, polled_decided x] at hd
      rw [if_pos hu, Option.map_some, Option.getD_some, fetchOne_decided (hinv.get hx) hd] at hmem
      cases hmem
    · rw [if_neg hu] at hmem; cases hmem
  · intro t y hy hc
    unfold statusIn at hc
    rw [hsts] at hc
    by_cases hu : t ∈ ids
    · obtain ⟨x, hx, rfl⟩ := fetch_get hinv h hy
      rw [if_pos hu, hx] at hc
      rw [if_pos hu]
      exact polled_completed (hinv.get hx) hc
    · rw [if_neg hu] at hc; cases hc

theorem fetch_completed {b b' : Poll} {ids : List Nat} {sts : List (Nat × St)} {batch : List (Nat × Rep)} {t : Nat}
    {x' : PTrial} (hinv : PInv b) (hf : b.fetch ids = .ok (b', sts, batch)) (ht : t ∈ ids)
    (hx : b'.trials[t]? = some x') (hc : x'.status = .completed) :
    Drained x' ∧ alookup t sts = some .completed := by
  obtain ⟨_, _, _, hsts⟩ := fetch_spec hinv hf
  obtain ⟨x, hx0, rfl⟩ := fetch_get hinv hf hx
  rw [if_pos ht] at hc ⊢
  have hst : x.status = .completed := (polled_status x).symm.trans hc
  exact ⟨polled_completed (hinv.get hx0) hst, by rw [hsts, if_pos ht, hx0]; exact congrArg some hst⟩

theorem PInv.loopStep {b b' : Poll} {ids : List Nat} {script : List ScriptEntry} {o : LoopOut}
    (hinv : PInv b) (h : b.loopStep ids script = .ok (b', o)) : PInv b' := by
  unfold Poll.loopStep at h
  cases hf : b.fetch ids with
  | error e => rw [hf] at h; cases h
  | ok res =>
    obtain ⟨b1, sts, batch⟩ := res
    rw [hf] at h
    simp only at h
    cases hg : loopGo b1 (statusIn sts) [] batch script with
    | error e => rw [hg] at h; cases h
    | ok res2 =>
      obtain ⟨b2, done, hs⟩ := res2
      rw [hg] at h
      simp only [Except.ok.injEq, Prod.mk.injEq] at h
      obtain ⟨rfl, _⟩ := h
      exact loopGo_inv batch b1 _ [] script _ done hs (LoopOK.of_fetch hinv hf) hg

theorem PInv.step {b b' : Poll} {op : POp} (hinv : PInv b) (h : b.step op = .ok b') : PInv b' := by
  cases op with
  | start c =>
    simp only [Poll.step] at h
    cases hs : b.start c with
    | error e => rw [hs] at h; cases h
    | ok r => obtain ⟨b1, tid⟩ := r; rw [hs] at h; cases h; exact hinv.start hs
  | emit t n => cases h; exact hinv.emit t n
  | exit t ok => cases h; exact hinv.exit t ok
  | wckpt t => cases h; exact hinv.wckpt t
  | fetch ids =>
    simp only [Poll.step] at h
    cases hs : b.fetch ids with
    | error e => rw [hs] at h; cases h
    | ok r => obtain ⟨b1, sts, batch⟩ := r; rw [hs] at h; cases h; exact hinv.fetch hs
  | pause t => exact hinv.pause h
  | stop t => exact hinv.stop h
  | resume t => exact hinv.resume h
  | stopAll => exact hinv.stopAll h
  | busy => cases h; exact hinv
  | loop ids script =>
    simp only [Poll.step] at h
    cases hs : b.loopStep ids script with
    | error e => rw [hs] at h; cases h
    | ok r => obtain ⟨b1, o⟩ := r; rw [hs] at h; cases h; exact hinv.loopStep hs

theorem PInv.run (ops : List POp) : ∀ {b : Poll}, PInv b → PInv (b.run ops) := by
  induction ops with
  | nil => intro b h; exact h
  | cons op ops ih =>
    intro b h
    unfold Poll.run
    cases hs : b.step op with
    | error e => exact ih h
    | ok b1 => exact ih (h.step hs)

theorem PInv.init (dc ds : Bool) : PInv (Poll.init dc ds) := by
  intro y hy; simp [Poll.init] at hy

end SyneTune.PollL
