import SyneTune.Model.PBT
import SyneTune.Lemmas.AssocList
import Mathlib.Data.List.Sort
import Mathlib.Data.Rat.Floor
/-
`_quantiles()` of the PBT model (`Model/PBT.lean`): the candidates sorted by score, Python slices,
`num_trials_in_quantile`.  Both quantiles are parts of the sorted candidate list; the upper one is a
suffix (hence dominates everything outside it); for a non-negative fraction they are a prefix and a
suffix of the same length `k ≤ n / 2`, except that `k = 0` makes the upper one the whole list.
-/
namespace SyneTune.PBT

def keys {β} (l : List (Nat × β)) : List Nat := l.map (·.1)

theorem mem_keys_of_alookup {β} {k : Nat} {v : β} {l : List (Nat × β)} (h : alookup k l = some v) : k ∈ keys l :=
  SyneTune.mem_keys_of_alookup h

theorem insScore_eq_orderedInsert : insScore = List.orderedInsert (fun a b : Nat × Rat => a.2 ≤ b.2) := by
  funext x l
  induction l with
  | nil => rfl
  | cons y ys ih => rw [insScore, List.orderedInsert_cons, ih]

theorem sortScore_eq (l : List (Nat × Rat)) : sortScore l = l.insertionSort (fun a b => a.2 ≤ b.2) := by
  rw [sortScore, insScore_eq_orderedInsert]; rfl

theorem sortScore_perm (l : List (Nat × Rat)) : (sortScore l).Perm l :=
  sortScore_eq l ▸ List.perm_insertionSort _ l

theorem sortScore_sorted (l : List (Nat × Rat)) : (sortScore l).Pairwise (fun a b => a.2 ≤ b.2) := by
  have : Std.Total (fun a b : Nat × Rat => a.2 ≤ b.2) := ⟨fun a b => le_total a.2 b.2⟩
  have : IsTrans (Nat × Rat) (fun a b => a.2 ≤ b.2) := ⟨fun _ _ _ => le_trans⟩
  exact sortScore_eq l ▸ List.pairwise_insertionSort _ l

theorem mem_cands {tr : List (Nat × TState)} {t : Nat} {sc : Rat} :
    (t, sc) ∈ cands tr ↔ ∃ st, (t, st) ∈ tr ∧ st.stopped = false ∧ st.lastScore = some sc := by
  unfold cands
  rw [List.mem_filterMap]
  constructor
  · rintro ⟨⟨t', st⟩, hm, he⟩
    cases hs : st.stopped
    · simp only [hs, Bool.false_eq_true, if_false, Option.map_eq_some_iff, Prod.mk.injEq] at he
      obtain ⟨sc', h1, rfl, rfl⟩ := he
      exact ⟨st, hm, hs, h1⟩
    · simp [hs] at he
  · rintro ⟨st, hm, hs, hsc⟩
    exact ⟨(t, st), hm, by simp [hs, hsc]⟩

theorem cands_keys_sublist (tr : List (Nat × TState)) : ((cands tr).map (·.1)).Sublist (keys tr) := by
  induction tr with
  | nil => exact .slnil
  | cons x xs ih =>
    obtain ⟨t, st⟩ := x
    unfold cands at ih ⊢
    rw [List.filterMap_cons]
    cases st.stopped
    · cases st.lastScore
      · exact ih.cons _
      · exact ih.cons_cons _
    · exact ih.cons _

/-- well-formed state: `_trial_state` is a dict, every trial id is a key once -/
def WF (s : State) : Prop := (keys s.trials).Nodup

theorem sortedIds_perm (s : State) : (sortedIds s).Perm ((cands s.trials).map (·.1)) :=
  (sortScore_perm _).map _

theorem sortedIds_nodup {s : State} (hw : WF s) : (sortedIds s).Nodup :=
  (sortedIds_perm s).nodup_iff.mpr ((cands_keys_sublist s.trials).nodup hw)

/-- the score a trial is sorted by: non-stopped, with a score -/
def Scored (s : State) (t : Nat) (sc : Rat) : Prop :=
  ∃ st, alookup t s.trials = some st ∧ st.stopped = false ∧ st.lastScore = some sc

theorem mem_sorted_iff {s : State} (hw : WF s) {t : Nat} {sc : Rat} :
    (t, sc) ∈ sortScore (cands s.trials) ↔ Scored s t sc := by
  rw [(sortScore_perm _).mem_iff, mem_cands]
  exact ⟨fun ⟨st, hm, h⟩ => ⟨st, alookup_of_mem hw hm, h⟩, fun ⟨st, hm, h⟩ => ⟨st, mem_of_alookup hm, h⟩⟩

theorem mem_sortedIds {s : State} (hw : WF s) {t : Nat} : t ∈ sortedIds s ↔ ∃ sc, Scored s t sc := by
  unfold sortedIds
  rw [List.mem_map]
  exact ⟨fun ⟨⟨_, sc⟩, hm, he⟩ => ⟨sc, he ▸ (mem_sorted_iff hw).mp hm⟩,
    fun ⟨sc, h⟩ => ⟨(t, sc), (mem_sorted_iff hw).mpr h, rfl⟩⟩

theorem Scored.unique {s : State} {t : Nat} {a b : Rat} (ha : Scored s t a) (hb : Scored s t b) : a = b := by
  obtain ⟨st, h1, _, h2⟩ := ha
  obtain ⟨st', h1', _, h2'⟩ := hb
  rw [h1] at h1'
  cases h1'
  rw [h2] at h2'
  exact Option.some.inj h2'

/-- `sortedIds s` is ordered by score, so cut at any `m` the tail holds the best -/
theorem drop_dominates {s : State} (hw : WF s) (m : Nat) {a b : Nat} {sa sb : Rat}
    (ha : a ∉ (sortedIds s).drop m) (hb : b ∈ (sortedIds s).drop m)
    (hsa : Scored s a sa) (hsb : Scored s b sb) : sa ≤ sb := by
  have ha' := (mem_sortedIds hw).2 ⟨sa, hsa⟩
  rw [← List.take_append_drop m (sortedIds s), List.mem_append] at ha'
  replace ha' := ha'.resolve_right ha
  unfold sortedIds at ha' hb
  rw [← List.map_take] at ha'
  rw [← List.map_drop] at hb
  obtain ⟨⟨a', sa'⟩, hma, rfl⟩ := List.mem_map.mp ha'
  obtain ⟨⟨b', sb'⟩, hmb, rfl⟩ := List.mem_map.mp hb
  cases ((mem_sorted_iff hw).mp (List.mem_of_mem_take hma)).unique hsa
  cases ((mem_sorted_iff hw).mp (List.mem_of_mem_drop hmb)).unique hsb
  -- elaborated without the goal: against `sa ≤ sb` Lean looks for the relation by unfolding `≤` on `Rat`, which is slow
  have := (sortScore_sorted (cands s.trials)).rel_of_mem_take_of_mem_drop hma hmb
  exact this

theorem sliceTo_natCast {α} (l : List α) (k : ℕ) : sliceTo l (k : ℤ) = l.take k := by
  simp [sliceTo]

/-- `l[-0:]` is the whole list -/
theorem sliceLast_zero {α} (l : List α) : sliceLast l 0 = l := rfl

theorem sliceLast_natCast {α} (l : List α) {k : ℕ} (hk : 0 < k) : sliceLast l (k : ℤ) = l.drop (l.length - k) := by
  simp [sliceLast, hk]

theorem sliceLast_eq_drop {α} (l : List α) (k : Int) : ∃ m, sliceLast l k = l.drop m := by
  unfold sliceLast
  split <;> exact ⟨_, rfl⟩

theorem sliceTo_sublist {α} (l : List α) (k : Int) : (sliceTo l k).Sublist l := by
  unfold sliceTo
  split <;> exact List.take_sublist _ _

theorem ceilInt_eq (x : ℚ) : ceilInt x = ⌈x⌉ := by
  show -⌊-x⌋ = ⌈x⌉
  rw [Int.floor_neg, neg_neg]

theorem ceilFree_spec {x : ℚ} (h : ceilFree x = true) : (⌊x⌋ : ℚ) < x ∧ ⌊x⌋ ≠ 0 := by
  simp only [ceilFree, Bool.and_eq_true] at h
  exact ⟨lt_of_le_of_ne (Int.floor_le x) (Ne.symm (of_decide_eq_true h.1.1)), of_decide_eq_true h.1.2⟩

/-- the `let k` of `numInQuantile` (`Model/PBT.lean`) under a name: the ceiling as the implementation computed it, the
exact one, or one less where that is free -/
def hintedCeil (x : ℚ) (kh : Option ℤ) : ℤ :=
  if ceilFree x = true ∧ kh = some (ceilInt x - 1) then ceilInt x - 1 else ceilInt x

theorem hintedCeil_cases (x : ℚ) (kh : Option ℤ) :
    hintedCeil x kh = ⌈x⌉ ∨ (hintedCeil x kh = ⌊x⌋ ∧ ⌊x⌋ ≠ 0) := by
  unfold hintedCeil
  split
  · next h =>
    obtain ⟨hlt, hne⟩ := ceilFree_spec h.1
    have := Int.lt_ceil.mpr hlt
    have := Int.ceil_le_floor_add_one x
    exact .inr ⟨by rw [ceilInt_eq]; omega, hne⟩
  · exact .inl (ceilInt_eq x)

theorem hintedCeil_nonneg {x : ℚ} (hx : 0 ≤ x) (kh : Option ℤ) : 0 ≤ hintedCeil x kh := by
  rcases hintedCeil_cases x kh with h | ⟨h, _⟩ <;> rw [h]
  · exact Int.ceil_nonneg hx
  · exact Int.floor_nonneg.mpr hx

theorem hintedCeil_pos {x : ℚ} (hx : 0 < x) (kh : Option ℤ) : 1 ≤ hintedCeil x kh := by
  rcases hintedCeil_cases x kh with h | ⟨h, h0⟩ <;> rw [h]
  · exact Int.one_le_ceil_iff.mpr hx
  · exact lt_of_le_of_ne (Int.floor_nonneg.mpr hx.le) (Ne.symm h0)

theorem hintedCeil_zero (kh : Option ℤ) : hintedCeil 0 kh = 0 := by
  rcases hintedCeil_cases 0 kh with h | ⟨h, _⟩ <;> rw [h]
  · exact Int.ceil_zero
  · exact Int.floor_zero

/-- the guard `> len(trials) / 2` makes the number the smaller of the ceiling and `len // 2` -/
theorem numInQuantile_eq_min (f : ℚ) (n : ℕ) (kh : Option ℤ) :
    numInQuantile f n kh = min (hintedCeil ((n : ℚ) * f) kh) ((n / 2 : ℕ) : ℤ) := by
  have hlt : (n : ℚ) / 2 < ((hintedCeil ((n : ℚ) * f) kh : ℤ) : ℚ) ↔ (n : ℤ) < hintedCeil ((n : ℚ) * f) kh * 2 := by
    rw [div_lt_iff₀ two_pos, ← Int.cast_natCast, ← Int.cast_ofNat, ← Int.cast_mul, Int.cast_lt]
  show (if (n : ℚ) / 2 < ((hintedCeil ((n : ℚ) * f) kh : ℤ) : ℚ) then ((n / 2 : ℕ) : ℤ)
    else hintedCeil ((n : ℚ) * f) kh) = _
  split
  · next h => have := hlt.1 h; omega
  · next h => have := mt hlt.2 h; omega

theorem numInQuantile_le_half (f : ℚ) (n : ℕ) (kh : Option ℤ) : 2 * numInQuantile f n kh ≤ (n : ℤ) := by
  have := min_le_right (hintedCeil ((n : ℚ) * f) kh) ((n / 2 : ℕ) : ℤ)
  rw [numInQuantile_eq_min]; omega

theorem numInQuantile_nonneg {f : ℚ} (hf : 0 ≤ f) (n : ℕ) (kh : Option ℤ) : 0 ≤ numInQuantile f n kh :=
  numInQuantile_eq_min f n kh ▸
    le_min (hintedCeil_nonneg (mul_nonneg n.cast_nonneg hf) kh) (Int.natCast_nonneg _)

theorem numInQuantile_pos {f : ℚ} (hf : 0 < f) {n : ℕ} (hn : 2 ≤ n) (kh : Option ℤ) : 1 ≤ numInQuantile f n kh :=
  numInQuantile_eq_min f n kh ▸
    le_min (hintedCeil_pos (mul_pos (Nat.cast_pos.mpr (by omega)) hf) kh) (by omega)

theorem numInQuantile_zero (n : ℕ) (kh : Option ℤ) : numInQuantile 0 n kh = 0 := by
  rw [numInQuantile_eq_min, mul_zero, hintedCeil_zero]
  exact min_eq_left (Int.natCast_nonneg _)

theorem quantiles_short {p : Params} {s : State} (kh : Option ℤ) (h : (sortedIds s).length ≤ 1) :
    quantiles p s kh = ([], []) := if_pos h

theorem quantiles_long {p : Params} {s : State} (kh : Option ℤ) (h : ¬ (sortedIds s).length ≤ 1) :
    quantiles p s kh = (sliceTo (sortedIds s) (numInQuantile p.frac (sortedIds s).length kh),
                        sliceLast (sortedIds s) (numInQuantile p.frac (sortedIds s).length kh)) := if_neg h

/-- the upper quantile is a suffix of the candidates sorted by score -/
theorem upper_eq_drop (p : Params) (s : State) (kh : Option ℤ) : ∃ m, (quantiles p s kh).2 = (sortedIds s).drop m := by
  by_cases hl : (sortedIds s).length ≤ 1
  · rw [quantiles_short kh hl]; exact ⟨_, List.drop_length.symm⟩
  · rw [quantiles_long kh hl]; exact sliceLast_eq_drop _ _

theorem lower_sub (p : Params) (s : State) (kh : Option ℤ) {t : Nat} (h : t ∈ (quantiles p s kh).1) :
    t ∈ sortedIds s := by
  by_cases hl : (sortedIds s).length ≤ 1
  · rw [quantiles_short kh hl] at h; cases h
  · rw [quantiles_long kh hl] at h; exact (sliceTo_sublist _ _).subset h

theorem upper_sub (p : Params) (s : State) (kh : Option ℤ) {t : Nat} (h : t ∈ (quantiles p s kh).2) :
    t ∈ sortedIds s := by
  obtain ⟨m, hm⟩ := upper_eq_drop p s kh
  exact List.mem_of_mem_drop (hm ▸ h)

/-- a member of the upper quantile scores no worse than any candidate outside it -/
theorem upper_dominates {p : Params} {s : State} (hw : WF s) (kh : Option ℤ) {src t : Nat} {v w : Rat}
    (hsrc : src ∈ (quantiles p s kh).2) (hv : Scored s src v)
    (ht : t ∉ (quantiles p s kh).2) (hwt : Scored s t w) : w ≤ v := by
  obtain ⟨m, hm⟩ := upper_eq_drop p s kh
  rw [hm] at hsrc ht
  exact drop_dominates hw m ht hsrc hwt hv

theorem quantiles_shape {p : Params} {s : State} (kh : Option ℤ) (hf : 0 ≤ p.frac) :
    ∃ k : ℕ, 2 * k ≤ (sortedIds s).length ∧
      (¬ (sortedIds s).length ≤ 1 → numInQuantile p.frac (sortedIds s).length kh = (k : ℤ)) ∧
      (quantiles p s kh).1 = (sortedIds s).take k ∧
      ((quantiles p s kh).2 = (sortedIds s).drop ((sortedIds s).length - k) ∨
        (k = 0 ∧ (quantiles p s kh).2 = sortedIds s)) := by
  by_cases hl : (sortedIds s).length ≤ 1
  · exact ⟨0, Nat.zero_le _, absurd hl, by rw [quantiles_short kh hl]; rfl,
      .inl (by rw [quantiles_short kh hl]; exact List.drop_length.symm)⟩
  · obtain ⟨k, hk⟩ := Int.eq_ofNat_of_zero_le (numInQuantile_nonneg hf (sortedIds s).length kh)
    have h2 := numInQuantile_le_half p.frac (sortedIds s).length kh
    rw [quantiles_long kh hl, hk]
    refine ⟨k, by omega, fun _ => rfl, sliceTo_natCast _ k, ?_⟩
    rcases Nat.eq_zero_or_pos k with rfl | hk0
    · exact .inr ⟨rfl, sliceLast_zero _⟩
    · exact .inl (sliceLast_natCast _ hk0)

/-- with `quantile_fraction = 0` the lower quantile is empty: nobody is ever replaced -/
theorem lower_empty_of_frac_zero {p : Params} {s : State} (kh : Option ℤ) (hf : p.frac = 0) :
    (quantiles p s kh).1 = [] := by
  by_cases hl : (sortedIds s).length ≤ 1
  · rw [quantiles_short kh hl]
  · rw [quantiles_long kh hl, hf, numInQuantile_zero]; rfl

end SyneTune.PBT
