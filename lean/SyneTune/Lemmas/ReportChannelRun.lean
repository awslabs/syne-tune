import SyneTune.Lemmas.ReportChannel
/-
Helper lemmas for C18, writer side: `Val.norm`, `normKw`, one `Reporter.__call__`,
invariants over histories.
-/
namespace SyneTune.Report

mutual
theorem Val.norm_none_iff : ∀ v : Val, v.norm = none ↔ v.bad = true
  | .leaf _ => by simp [Val.norm, Val.bad]
  | .np item => by simp only [Val.norm, Val.bad]; exact Val.norm_none_iff item
  | .other => by simp [Val.norm, Val.bad]
  | .list xs => by
    simp only [Val.norm, Val.bad, Option.map_eq_none_iff]; exact normList_none_iff xs
  | .dict kvs => by
    simp only [Val.norm, Val.bad, Option.map_eq_none_iff]; exact normKvs_none_iff kvs

theorem normList_none_iff : ∀ xs : List Val, normList xs = none ↔ badList xs = true
  | [] => by simp [normList, badList]
  | x :: xs => by
    simp only [normList, badList, Bool.or_eq_true, ← Val.norm_none_iff x, ← normList_none_iff xs]
    cases x.norm <;> simp

theorem normKvs_none_iff : ∀ kvs : List (DKey × Val), normKvs kvs = none ↔ badKvs kvs = true
  | [] => by simp [normKvs, badKvs]
  | (k, v) :: rest => by
    simp only [normKvs, badKvs, Bool.or_eq_true, ← Val.norm_none_iff v, ← normKvs_none_iff rest]
    cases k.text <;> cases v.norm <;> simp
end

theorem normKw_append (a b : List (List Nat × Val)) :
    normKw (a ++ b) = (normKw a).bind fun da => (normKw b).map (da ++ ·) := by
  induction a with
  | nil => simp [normKw]
  | cons kv a ih =>
    obtain ⟨k, v⟩ := kv
    simp only [List.cons_append, normKw, ih]
    cases v.norm with
    | none => rfl
    | some x => cases normKw a <;> cases normKw b <;> rfl

theorem normKw_leaves (es : List (List Nat × Leaf)) :
    normKw (es.map fun e => (e.1, Val.leaf e.2)) = some (es.map fun e => (e.1, Plain.leaf e.2)) := by
  induction es with
  | nil => simp [normKw]
  | cons e es ih => simp [normKw, Val.norm, ih]

theorem normKw_keys {kw : List (List Nat × Val)} {d : PDict} (h : normKw kw = some d) :
    d.map (·.1) = kw.map (·.1) := by
  induction kw generalizing d with
  | nil => cases h; rfl
  | cons kv kw ih =>
    obtain ⟨k, v⟩ := kv
    simp only [normKw] at h
    cases hv : v.norm <;> cases hr : normKw kw <;> simp [hv, hr] at h
    subst h; simp [ih hr]

theorem normKw_none_iff (kw : List (List Nat × Val)) :
    normKw kw = none ↔ ∃ kv ∈ kw, kv.2.bad = true := by
  induction kw with
  | nil => simp [normKw]
  | cons kv kw ih =>
    obtain ⟨k, v⟩ := kv
    simp only [normKw, List.mem_cons, exists_eq_or_imp, ← Val.norm_none_iff v, ← ih]
    cases v.norm <;> simp

theorem normKw_none_of_mem {kw : List (List Nat × Val)} {k : List Nat} {v : Val}
    (hmem : (k, v) ∈ kw) (hv : v.norm = none) : normKw kw = none :=
  (normKw_none_iff kw).mpr ⟨(k, v), hmem, (Val.norm_none_iff v).mp hv⟩

/-- the augmented dictionary is serialisable iff the keyword arguments are; its
normalised form is the normalised keywords followed by the added entries -/
theorem normKw_augment (c : Cfg) (st : St) (kw : List (List Nat × Val)) (now perf : Rat) (i : Nat) :
    normKw (augment c st kw now perf i) =
      (normKw kw).map (· ++ (extras c st now perf i).map fun e => (e.1, Plain.leaf e.2)) := by
  rw [augment, normKw_append, normKw_leaves]
  cases normKw kw <;> rfl

theorem normKw_keys_not_reserved {kw : List (List Nat × Val)} {dkw : PDict} (h1 : hasReserved kw = false)
    (h : normKw kw = some dkw) : ∀ k, reservedPrefix <+: k → k ∉ dkw.map (·.1) := by
  intro k hk hmem
  rw [normKw_keys h] at hmem
  obtain ⟨kv, hkv, rfl⟩ := List.mem_map.mp hmem
  exact absurd (List.isPrefixOf_iff_prefix.mpr hk) (by simpa using List.any_eq_false.mp h1 kv hkv)

/-- one delivered line; `i` is the counter value its call found -/
structure Sent where
  i : Nat
  now : Rat
  perf : Rat
  dkw : PDict

/-- `sentDict` reads of the reporter only the counter and `start` -/
def Sent.dict (c : Cfg) (start : Rat) (e : Sent) : PDict :=
  sentDict c { iter := e.i, start := start, segs := [], cur := [] } e.dkw e.now e.perf

/-- holds of keywords that have passed `__call__` (`normKw_keys_not_reserved`) -/
def Sent.OK (e : Sent) : Prop := ∀ k, reservedPrefix <+: k → k ∉ e.dkw.map (·.1)

section call
variable (c : Cfg) (enc : PDict → List Char) (st : St) (kw : List (List Nat × Val)) (now perf : Rat)

theorem call_none (h : hasNone kw = true) : st.call c enc kw now perf = (st, some .noneValue) := by
  simp [St.call, h]

theorem call_reserved (h0 : hasNone kw = false) (h : hasReserved kw = true) :
    st.call c enc kw now perf = (st, some .reserved) := by
  simp [St.call, h0, h]

theorem call_type (h0 : hasNone kw = false) (h1 : hasReserved kw = false) (h : normKw kw = none) :
    st.call c enc kw now perf =
      ({ st with iter := st.iter + 1, cur := st.cur ++ diagType }, some .typeError) := by
  simp [St.call, h0, h1, emit, normKw_augment, h]

theorem call_large (dkw : PDict) (h0 : hasNone kw = false) (h1 : hasReserved kw = false)
    (h : normKw kw = some dkw)
    (hs : ¬ c.overhead + (enc (sentDict c st dkw now perf)).length < sizeLimit) :
    st.call c enc kw now perf =
      ({ st with iter := st.iter + 1, cur := st.cur ++ diagSize }, some .tooLarge) := by
  unfold sentDict at hs
  simp [St.call, h0, h1, emit, normKw_augment, h, hs]

theorem call_ok (dkw : PDict) (h0 : hasNone kw = false) (h1 : hasReserved kw = false)
    (h : normKw kw = some dkw)
    (hs : c.overhead + (enc (sentDict c st dkw now perf)).length < sizeLimit) :
    st.call c enc kw now perf =
      ({ st with iter := st.iter + 1, segs := st.segs ++ [(st.cur, sentDict c st dkw now perf)], cur := [] },
        none) := by
  unfold sentDict at hs
  simp [St.call, h0, h1, emit, normKw_augment, h, hs, sentDict]

/-- the ways `Reporter.__call__` can end -/
inductive CallCase : St × Option Err → Prop
  | noneValue : CallCase (st, some .noneValue)
  | reserved : CallCase (st, some .reserved)
  | typeError (h : normKw kw = none) :
      CallCase ({ st with iter := st.iter + 1, cur := st.cur ++ diagType }, some .typeError)
  | tooLarge : CallCase ({ st with iter := st.iter + 1, cur := st.cur ++ diagSize }, some .tooLarge)
  | sent (dkw : PDict) (hok : Sent.OK ⟨st.iter, now, perf, dkw⟩) : CallCase
      ({ st with iter := st.iter + 1, segs := st.segs ++ [(st.cur, sentDict c st dkw now perf)], cur := [] }, none)

theorem call_cases : CallCase c st kw now perf (st.call c enc kw now perf) := by
  cases h0 : hasNone kw with
  | true => rw [call_none c enc st kw now perf h0]; exact .noneValue
  | false =>
    cases h1 : hasReserved kw with
    | true => rw [call_reserved c enc st kw now perf h0 h1]; exact .reserved
    | false =>
      cases h : normKw kw with
      | none => rw [call_type c enc st kw now perf h0 h1 h]; exact .typeError h
      | some dkw =>
        by_cases hs : c.overhead + (enc (sentDict c st dkw now perf)).length < sizeLimit
        · rw [call_ok c enc st kw now perf dkw h0 h1 h hs]; exact .sent dkw (normKw_keys_not_reserved h1 h)
        · rw [call_large c enc st kw now perf dkw h0 h1 h hs]; exact .tooLarge

/-- a call delivers at most one line, and consumes a counter value when it does -/
theorem call_segs :
    ((st.call c enc kw now perf).1.segs = st.segs ∧ st.iter ≤ (st.call c enc kw now perf).1.iter) ∨
    ∃ dkw, Sent.OK ⟨st.iter, now, perf, dkw⟩ ∧ (st.call c enc kw now perf).1.iter = st.iter + 1 ∧
      (st.call c enc kw now perf).1.segs = st.segs ++ [(st.cur, sentDict c st dkw now perf)] := by
  have hc := call_cases c enc st kw now perf
  generalize st.call c enc kw now perf = r at hc ⊢
  cases hc with
  | noneValue | reserved => exact .inl ⟨rfl, Nat.le_refl _⟩
  | typeError | tooLarge => exact .inl ⟨rfl, Nat.le_succ _⟩
  | sent dkw hok => exact .inr ⟨dkw, hok, rfl, rfl⟩

end call

theorem pget_append_of_not_mem {k : List Nat} {a b : PDict} (h : k ∉ a.map (·.1)) :
    pget k (a ++ b) = pget k b := by
  induction a with
  | nil => rfl
  | cons kv a ih =>
    rw [List.map_cons, List.mem_cons, not_or] at h
    simp only [List.cons_append, pget, h.1, if_false, ih h.2]

theorem iterOf_sent (c : Cfg) (hc : CfgOK c) (start : Rat) {e : Sent} (he : e.OK) :
    iterOf c (e.dict c start) = some (e.i : Int) := by
  have ht : c.kIter ∉ ((timeEntries c ⟨e.i, start, [], []⟩ e.perf).map fun e => (e.1, Plain.leaf e.2)).map (·.1) := by
    have h1 := hc.iter_time
    have h2 := hc.iter_cost
    unfold timeEntries
    cases c.addTime <;> cases c.dollarCost <;> simp [h1, h2]
  -- skip the keywords (no reserved key), the time stamp (`iter_ts`) and the time entries (`ht`): the counter is next
  rw [iterOf, Sent.dict, sentDict, extras, pget_append_of_not_mem (he _ hc.iter), List.map_cons,
    List.map_append, pget, if_neg hc.iter_ts, pget_append_of_not_mem ht]
  simp [pget]

theorem tsOf_sent (c : Cfg) (hc : CfgOK c) (start : Rat) {e : Sent} (he : e.OK) :
    tsOf c (e.dict c start) = some e.now := by
  rw [tsOf, Sent.dict, sentDict, extras, pget_append_of_not_mem (he _ hc.ts)]
  simp [pget]

theorem timeOf_sent (c : Cfg) (hc : CfgOK c) (hat : c.addTime = true) (start : Rat) {e : Sent} (he : e.OK) :
    timeOf c (e.dict c start) = some (e.perf - start) := by
  rw [timeOf, Sent.dict, sentDict, extras, timeEntries, pget_append_of_not_mem (he _ hc.time)]
  simp [pget, hc.time_ts, hat]

theorem run_cons (c : Cfg) (enc : PDict → List Char) (st : St) (op : Op) (ops : List Op) :
    St.run c enc st (op :: ops) = St.run c enc (St.step c enc st op) ops := rfl

theorem step_start (c : Cfg) (enc : PDict → List Char) (st : St) (op : Op) :
    (St.step c enc st op).start = st.start := by
  cases op with
  | noise n => rfl
  | report kw now perf =>
    have hc := call_cases c enc st kw now perf
    rw [St.step]
    generalize st.call c enc kw now perf = r at hc ⊢
    cases hc <;> rfl

/-- what a history delivers: every line is the dictionary of one report call, the calls are taken in order, and
each line carries the counter value its call found -/
theorem run_sent (c : Cfg) (enc : PDict → List Char) (ops : List Op) : ∀ st, ∃ D : List Sent,
    (St.run c enc st ops).segs.map (·.2) = st.segs.map (·.2) ++ D.map (Sent.dict c st.start) ∧
    st.iter ≤ (St.run c enc st ops).iter ∧
    (∀ e ∈ D, e.OK ∧ st.iter ≤ e.i ∧ e.i < (St.run c enc st ops).iter) ∧
    (D.map (·.i)).Pairwise (· < ·) ∧
    (D.map (·.now)).Sublist (nows ops) ∧ (D.map (·.perf)).Sublist (perfs ops) := by
  induction ops with
  | nil => exact fun st => ⟨[], (List.append_nil _).symm, Nat.le_refl _, nofun, .nil, .slnil, .slnil⟩
  | cons op ops ih =>
    intro st
    obtain ⟨D, h1, h2, h3, h4, h5, h6⟩ := ih (St.step c enc st op)
    rw [run_cons, h1, step_start]
    cases op with
    | noise n => exact ⟨D, rfl, h2, h3, h4, h5, h6⟩
    | report kw now perf =>
      rcases call_segs c enc st kw now perf with ⟨hs, hi⟩ | ⟨dkw, hok, hi, hs⟩
      · exact ⟨D, by rw [St.step, hs], Nat.le_trans hi h2,
          fun e he => ⟨(h3 e he).1, Nat.le_trans hi (h3 e he).2.1, (h3 e he).2.2⟩, h4, h5.cons _, h6.cons _⟩
      · rw [St.step, hi] at h2 h3
        have hD : ∀ e ∈ (⟨st.iter, now, perf, dkw⟩ :: D : List Sent),
            e.OK ∧ st.iter ≤ e.i ∧ e.i < (St.run c enc (st.call c enc kw now perf).1 ops).iter := by
          rintro e (_ | ⟨_, he⟩)
          · exact ⟨hok, Nat.le_refl _, h2⟩
          · exact ⟨(h3 e he).1, Nat.le_of_succ_le (h3 e he).2.1, (h3 e he).2.2⟩
        have hlt : ∀ i ∈ D.map (·.i), st.iter < i := fun i hi' => by
          obtain ⟨e, he, rfl⟩ := List.mem_map.mp hi'
          exact (h3 e he).2.1
        exact ⟨⟨st.iter, now, perf, dkw⟩ :: D, by rw [St.step, hs, List.map_append, List.append_assoc]; rfl,
          Nat.le_of_succ_le h2, hD, List.pairwise_cons.mpr ⟨hlt, h4⟩, h5.cons_cons _, h6.cons_cons _⟩

theorem map_sent {α γ} {c : Cfg} {start : Rat} {segs : List (List Char × PDict)} {D : List Sent}
    (h : segs.map (·.2) = D.map (Sent.dict c start)) (f : PDict → γ) (g : Sent → α) (k : α → γ)
    (hfg : ∀ e ∈ D, f (e.dict c start) = k (g e)) : segs.map (fun s => f s.2) = (D.map g).map k := by
  rw [List.map_map, ← List.map_congr_left (g := k ∘ g) hfg]
  have := congrArg (List.map f) h
  rw [List.map_map, List.map_map] at this
  exact this

/-- the delivered lines carry `st_worker_iter` = 0, 1, …, `iter - 1`; holds as long as no serialisation has failed -/
def ContigInv (c : Cfg) (st : St) : Prop :=
  st.segs.map (fun s => iterOf c s.2) = (List.range st.iter).map (fun i : Nat => some (i : Int))

theorem contig_run (c : Cfg) (hc : CfgOK c) (enc : PDict → List Char) (ops : List Op) :
    ∀ st, ContigInv c st → serialOK c enc st ops = true → ContigInv c (St.run c enc st ops) := by
  induction ops with
  | nil => intro st h _; exact h
  | cons op ops ih =>
    intro st h hs
    cases op with
    | noise n => exact ih (st.noise n) h (by simpa [serialOK] using hs)
    | report kw now perf =>
      simp only [serialOK, Bool.and_eq_true, bne_iff_ne, ne_eq] at hs
      obtain ⟨⟨hs1, hs2⟩, hs3⟩ := hs
      refine ih (st.call c enc kw now perf).1 ?_ hs3
      have hcc := call_cases c enc st kw now perf
      generalize st.call c enc kw now perf = r at hcc hs1 hs2 ⊢
      cases hcc with
      | noneValue | reserved => exact h
      | typeError => exact absurd rfl hs1
      | tooLarge => exact absurd rfl hs2
      | sent dkw hok =>
        unfold ContigInv at h ⊢
        have : iterOf c (sentDict c st dkw now perf) = some (st.iter : Int) :=
          iterOf_sent c hc st.start hok
        simp [h, this, List.range_succ]

theorem diagType_shape : diagType.head? = some 'T' ∧ '[' ∉ diagType := by decide +kernel

theorem diagSize_shape : diagSize.head? = some 'T' ∧ '[' ∉ diagSize := by decide +kernel

theorem diagOK_of_B {tag : List Char} (h : diagOKB tag = true) : DiagOK tag := by
  unfold diagOKB at h
  simp only [Bool.and_eq_true, Bool.not_eq_true', List.contains_eq_mem, decide_eq_false_iff_not,
    decide_eq_true_eq] at h
  exact ⟨h.1.1.1, h.1.1.2, h.1.2, h.2⟩

/-- a text that begins with a character foreign to `p` and is `p`-free behind it cannot
complete an occurrence of `p` -/
theorem free_append {p a d : List Char} {ch : Char} (hd : d.head? = some ch) (hc : ch ∉ p)
    (ht : ¬ p <:+: d.tail) (h : ¬ p <:+: a) : ¬ p <:+: a ++ d := by
  obtain ⟨t, rfl⟩ := List.head?_eq_some_iff.mp hd
  exact fun hi => (infix_split_of_not_mem hc a t hi).elim h ht

/-- the marker occurs neither in the noise in front of a delivered line nor in the output since the last one -/
def FreeInv (tag : List Char) (st : St) : Prop :=
  (∀ s ∈ st.segs, ¬ marker tag <:+: s.1) ∧ ¬ marker tag <:+: st.cur

/-- every occurrence of the marker begins with a `'['` -/
theorem marker_not_infix {tag t : List Char} (h : '[' ∉ t) : ¬ marker tag <:+: t :=
  fun hi => h (hi.subset (by simp [marker]))

theorem free_run (c : Cfg) (hd : DiagOK c.tag) (enc : PDict → List Char) (ops : List Op) :
    ∀ st, FreeInv c.tag st → cleanRun c enc st ops → FreeInv c.tag (St.run c enc st ops) := by
  induction ops with
  | nil => intro st h _; exact h
  | cons op ops ih =>
    intro st h hc
    cases op with
    | noise n => exact ih _ ⟨h.1, hc.1⟩ hc.2
    | report kw now perf =>
      refine ih (st.call c enc kw now perf).1 ?_ hc
      have hcc := call_cases c enc st kw now perf
      generalize st.call c enc kw now perf = r at hcc ⊢
      cases hcc with
      | noneValue | reserved => exact h
      | typeError => exact ⟨h.1, free_append diagType_shape.1 hd.noT hd.typeTail h.2⟩
      | tooLarge => exact ⟨h.1, free_append diagSize_shape.1 hd.noT hd.sizeTail h.2⟩
      | sent dkw _ =>
        refine ⟨fun s hs => ?_, marker_not_infix List.not_mem_nil⟩
        rcases List.mem_append.mp hs with hs | hs
        · exact h.1 s hs
        · exact List.mem_singleton.mp hs ▸ h.2

theorem retrieve_out (c : Cfg) (hm : MarkerOK c.tag) (enc : PDict → List Char) (henc : ∀ d, PayloadOK (enc d))
    (st : St) (h : FreeInv c.tag st) :
    retrieve c.tag (localRead (st.out c enc)) = st.segs.map (fun s => enc s.2) := by
  unfold St.out localRead univ
  rw [retrieve_readlines (marker_nl hm.nl), findall_univAux_streamText hm _ _ ?_ ?_ h.2, List.map_map]
  · rfl
  · rintro _ hs; obtain ⟨s, -, rfl⟩ := List.mem_map.mp hs; exact henc _
  · rintro _ hs; obtain ⟨s, hs', rfl⟩ := List.mem_map.mp hs; exact h.1 s hs'

end SyneTune.Report
