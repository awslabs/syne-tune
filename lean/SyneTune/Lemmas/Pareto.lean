import SyneTune.Model.Pareto
import Mathlib.Algebra.Order.Field.Rat
import Mathlib.Data.List.Perm.Basic
/- Helper lemmas for C19: dominance, the Pareto mask, the non-dominated sort.

Vocabulary of the statements in `Props/C19.lean`, defined here where it is first needed: `Rect` (the input is an
`[N, d]` array), `EpsOK` (contract of the ε-net oracle), `specLayers` (the layers the sort must return).
`takeLayers`, their truncation to `max_items`, is proof-side: what the loop returns (`sortLoop_spec`), from which
`sort_prefix` follows. -/
namespace SyneTune

/-- a numpy array of shape `[N, d]` -/
def Rect (X : List Point) (d : Nat) : Prop := ∀ x ∈ X, x.length = d

theorem anyLt_irrefl (a : Point) : anyLt a a = false := by
  induction a with
  | nil => rfl
  | cons x xs ih => simp [anyLt, ih]

theorem allLe_anyLt_trans (a b c : Point) (h1 : a.length = b.length)
    (hab : allLe a b = true) (hbc : allLe b c = true) :
    allLe a c = true ∧ (anyLt b c = true → anyLt a c = true) := by
  induction a generalizing b c with
  | nil =>
    obtain rfl := List.eq_nil_of_length_eq_zero h1.symm
    simp [allLe, anyLt]
  | cons x xs ih =>
    obtain _ | ⟨y, ys⟩ := b
    · cases h1
    obtain _ | ⟨z, zs⟩ := c
    · simp [allLe, anyLt]
    simp only [anyLt, allLe, Bool.or_eq_true, Bool.and_eq_true, decide_eq_true_eq] at hab hbc ⊢
    obtain ⟨hle, hlt⟩ := ih ys zs (Nat.succ.inj h1) hab.2 hbc.2
    exact ⟨⟨le_trans hab.1 hbc.1, hle⟩,
      fun h => h.elim (fun h => .inl (lt_of_le_of_lt hab.1 h)) fun h => .inr (hlt h)⟩

theorem anyLt_of_le_lt : ∀ (a b c : Point), a.length = b.length → b.length = c.length →
    allLe a b = true → anyLt b c = true → allLe b c = true → anyLt a c = true :=
  fun a b c h1 _ hab hbc hle => (allLe_anyLt_trans a b c h1 hab hle).2 hbc

theorem dominates_trans' (a b c : Point) (h1 : a.length = b.length)
    (hab : dominates a b = true) (hbc : dominates b c = true) : dominates a c = true := by
  simp only [dominates, Bool.and_eq_true] at *
  have := allLe_anyLt_trans a b c h1 hab.1 hbc.1
  exact ⟨this.1, this.2 hbc.2⟩

theorem sum_lt_of_dominates (a b : Point) (h : a.length = b.length) (hab : allLe a b = true) :
    a.sum ≤ b.sum ∧ (anyLt a b = true → a.sum < b.sum) := by
  induction a generalizing b with
  | nil =>
    obtain rfl := List.eq_nil_of_length_eq_zero h.symm
    simp [anyLt]
  | cons x xs ih =>
    obtain _ | ⟨y, ys⟩ := b
    · cases h
    simp only [allLe, anyLt, Bool.and_eq_true, Bool.or_eq_true, decide_eq_true_eq, List.sum_cons] at hab ⊢
    obtain ⟨hle, hlt⟩ := ih ys (Nat.succ.inj h) hab.2
    exact ⟨add_le_add hab.1 hle, fun h => h.elim (add_lt_add_of_lt_of_le · hle)
      fun h => add_lt_add_of_le_of_lt hab.1 (hlt h)⟩

/-- the mask `m` switches off exactly the points that one of the first `k` dominates: the state of the `for i`
loop of `pareto_efficient` after `k` iterations (`maskInv_fold`, read off the closed form `maskAfter`) -/
structure MaskInv (X : List Point) (k : Nat) (m : List Bool) : Prop where
  len : m.length = X.length
  sound : ∀ (j : Nat) (xj : Point), X[j]? = some xj → m[j]? = some false →
    ∃ (l : Nat) (a : Point), l < k ∧ X[l]? = some a ∧ dominates a xj = true
  complete : ∀ (l : Nat) (a : Point) (j : Nat) (xj : Point), l < k → X[l]? = some a →
    X[j]? = some xj → dominates a xj = true → m[j]? = some false

/-- the mask after `k` iterations of the loop: the points that none of the first `k` dominates -/
def maskAfter (X : List Point) (k : Nat) : List Bool :=
  X.map (fun x => !(X.take k).any (fun a => dominates a x))

theorem paretoStep_maskAfter (X : List Point) (d : Nat) (hX : Rect X d) (k : Nat) (hk : k < X.length) :
    paretoStep X (maskAfter X k) k = maskAfter X (k + 1) := by
  have hmk : (maskAfter X k)[k]? = some (!(X.take k).any (fun a => dominates a X[k])) := by
    rw [maskAfter, List.getElem?_map, List.getElem?_eq_getElem hk]; rfl
  have hnext : maskAfter X (k + 1) =
      X.map (fun x => !((X.take k).any (fun a => dominates a x) || dominates X[k] x)) := by
    rw [maskAfter, List.take_add_one, List.getElem?_eq_getElem hk]
    simp only [Option.toList_some, List.any_append, List.any_cons, List.any_nil, Bool.or_false]
  rw [hnext, paretoStep, hmk, List.getElem?_eq_getElem hk]
  cases hb : (X.take k).any (fun a => dominates a X[k]) with
  | false =>
    -- `X[k]` is kept: whatever it dominates is struck out
    simp only [Bool.not_false, maskAfter, List.zipWith_map_right, List.zipWith_self, Bool.not_or]
  | true =>
    -- `X[k]` is dominated by an earlier `a`, which dominates all that `X[k]` dominates
    obtain ⟨a, ha, hd⟩ := List.any_eq_true.mp hb
    have hlen : ∀ x ∈ X, a.length = x.length := fun x hx =>
      (hX a (List.mem_of_mem_take ha)).trans (hX x hx).symm
    refine List.map_congr_left fun x hx => ?_
    cases hdx : dominates X[k] x with
    | false => rw [Bool.or_false]
    | true =>
      rw [Bool.or_true, Bool.not_true, Bool.not_eq_false', List.any_eq_true]
      exact ⟨a, ha, dominates_trans' a X[k] x (hlen _ (List.getElem_mem hk)) hd hdx⟩

theorem foldl_paretoStep (X : List Point) (d : Nat) (hX : Rect X d) (k : Nat) (hk : k ≤ X.length) :
    (List.range k).foldl (paretoStep X) (List.replicate X.length true) = maskAfter X k := by
  induction k with
  | zero => simp [maskAfter, List.map_const']
  | succ k ih =>
    rw [List.range_succ, List.foldl_append, ih (Nat.le_of_succ_le hk)]
    exact paretoStep_maskAfter X d hX k hk

theorem paretoEfficient_eq_brute (X : List Point) (d : Nat) (hX : Rect X d) :
    paretoEfficient X = X.map (fun x => !X.any (fun a => dominates a x)) := by
  rw [paretoEfficient, foldl_paretoStep X d hX X.length (Nat.le_refl _), maskAfter, List.take_length]

theorem maskInv_fold (X : List Point) (d : Nat) (hX : Rect X d) (k : Nat) (hk : k ≤ X.length) :
    MaskInv X k ((List.range k).foldl (paretoStep X) (List.replicate X.length true)) := by
  rw [foldl_paretoStep X d hX k hk]
  have key : ∀ (j : Nat) (xj : Point), X[j]? = some xj →
      (maskAfter X k)[j]? = some (!(X.take k).any (fun a => dominates a xj)) := fun j xj hj => by
    rw [maskAfter, List.getElem?_map, hj]; rfl
  refine ⟨List.length_map _, fun j xj hj hf => ?_, fun l a j xj hl hla hj hd => ?_⟩
  · rw [key j xj hj, Option.some.injEq, Bool.not_eq_false', List.any_eq_true] at hf
    obtain ⟨a, ha, hd⟩ := hf
    obtain ⟨l, hl, rfl⟩ := List.mem_take_iff_getElem.mp ha
    exact ⟨l, _, (Nat.lt_min.mp hl).1, List.getElem?_eq_getElem (Nat.lt_min.mp hl).2, hd⟩
  · obtain ⟨hlX, rfl⟩ := List.getElem?_eq_some_iff.mp hla
    rw [key j xj hj, Option.some.injEq, Bool.not_eq_false', List.any_eq_true]
    exact ⟨X[l], List.mem_take_iff_getElem.mpr ⟨l, Nat.lt_min.mpr ⟨hl, hlX⟩, rfl⟩, hd⟩

def RectI (R : List IPoint) (d : Nat) : Prop := Rect (R.map (·.2)) d

/-- `q` is not dominated by any point of `R` -/
def isMinimal (R : List IPoint) (q : IPoint) : Bool := !R.any (fun p => dominates p.2 q.2)

/-- the Pareto front of `R` by the O(n²) definition (order of `R` kept) -/
def specFront (R : List IPoint) : List IPoint := R.filter (isMinimal R)

/-- the points of `R` dominated by some point of `R` -/
def specRest (R : List IPoint) : List IPoint := R.filter (fun q => !isMinimal R q)

theorem maskFilter_map {α} (l : List α) (f : α → Bool) : maskFilter l (l.map f) = l.filter f := by
  induction l with
  | nil => rfl
  | cons x xs ih => simp only [List.map_cons, maskFilter, List.filter_cons, ih]

theorem mask_eq_isMinimal (R : List IPoint) (d : Nat) (h : RectI R d) :
    paretoEfficient (R.map (·.2)) = R.map (isMinimal R) := by
  rw [paretoEfficient_eq_brute _ d h, List.map_map]
  exact List.map_congr_left fun q _ => by simp [isMinimal, List.any_map, Function.comp_def]

theorem frontOf_eq (R : List IPoint) (d : Nat) (h : RectI R d) : frontOf R = specFront R := by
  rw [frontOf, specFront, mask_eq_isMinimal R d h, maskFilter_map]

theorem restOf_eq (R : List IPoint) (d : Nat) (h : RectI R d) : restOf R = specRest R := by
  rw [restOf, specRest, mask_eq_isMinimal R d h, List.map_map, maskFilter_map]
  rfl

theorem rectI_specRest (R : List IPoint) (d : Nat) (h : RectI R d) : RectI (specRest R) d :=
  fun x hx => h x ((List.filter_sublist.map _).subset hx)

theorem front_rest_perm (R : List IPoint) : (specFront R ++ specRest R).Perm R :=
  List.filter_append_perm _ R

theorem exists_min_sum : ∀ (R : List IPoint), R ≠ [] → ∃ q ∈ R, ∀ p ∈ R, q.2.sum ≤ p.2.sum
  | [], h => absurd rfl h
  | [q], _ => ⟨q, by simp, by simp⟩
  | q :: q' :: rest, _ => by
    obtain ⟨m, hm, hmin⟩ := exists_min_sum (q' :: rest) (List.cons_ne_nil _ _)
    rcases le_total q.2.sum m.2.sum with hq | hq
    · exact ⟨q, List.mem_cons_self, List.forall_mem_cons.mpr ⟨le_refl _, fun p hp => le_trans hq (hmin p hp)⟩⟩
    · exact ⟨m, List.mem_cons_of_mem _ hm, List.forall_mem_cons.mpr ⟨hq, hmin⟩⟩

/-- a non-empty set of vectors has a non-dominated element: one of least coordinate sum -/
theorem specFront_ne_nil (R : List IPoint) (d : Nat) (hR : RectI R d) (h : R ≠ []) :
    specFront R ≠ [] := by
  obtain ⟨q, hq, hmin⟩ := exists_min_sum R h
  refine List.ne_nil_of_mem (a := q) (List.mem_filter.mpr ⟨hq, ?_⟩)
  simp only [isMinimal, Bool.not_eq_true', List.any_eq_false]
  intro p hp hd
  rw [dominates, Bool.and_eq_true] at hd
  exact absurd (hmin p hp)
    (not_le.mpr ((sum_lt_of_dominates p.2 q.2
      ((hR _ (List.mem_map_of_mem hp)).trans (hR _ (List.mem_map_of_mem hq)).symm) hd.1).2 hd.2))

theorem specRest_length_lt (R : List IPoint) (d : Nat) (hR : RectI R d) (h : R ≠ []) :
    (specRest R).length < R.length := by
  have h1 := (front_rest_perm R).length_eq
  have h2 := List.length_pos_iff.mpr (specFront_ne_nil R d hR h)
  rw [List.length_append] at h1
  exact h1 ▸ Nat.lt_add_of_pos_left h2

/-- contract of `compute_epsilon_net`: the returned vector is a permutation of `range(len(P))` -/
def EpsOK (eps : Nat → List Point → List Nat) : Prop := ∀ k P, (eps k P).Perm (List.range P.length)

theorem takeIdx_of_lt (front : List Nat) : ∀ (order : List Nat), (∀ r ∈ order, r < front.length) →
    takeIdx front order = some (order.map (fun r => front.getD r 0))
  | [], _ => rfl
  | r :: rs, h => by
    rw [List.forall_mem_cons] at h
    simp only [takeIdx, takeIdx_of_lt front rs h.2, List.getElem?_eq_getElem h.1, List.map_cons,
      List.getD_eq_getElem?_getD, Option.getD_some]

theorem takeIdx_perm (front order : List Nat) (h : order.Perm (List.range front.length)) :
    ∃ l, takeIdx front order = some l ∧ l.Perm front := by
  refine ⟨_, takeIdx_of_lt front order fun r hr => List.mem_range.mp (h.mem_iff.mp hr), ?_⟩
  have e : (List.range front.length).map (fun r => front.getD r 0) = front :=
    List.ext_getElem (by simp) fun i _ h2 => by simp [List.getElem?_eq_getElem h2]
  have := h.map (fun r => front.getD r 0)
  rwa [e] at this

/-- Pareto layers of `R` (as lists of indices): repeatedly split off the non-dominated points -/
def specLayers : Nat → List IPoint → List (List Nat)
  | 0, _ => []
  | fuel + 1, R => if R.isEmpty then [] else (specFront R).map (·.1) :: specLayers fuel (specRest R)

/-- the first layers of `L` until `b` items are reached (`b` = items still wanted) -/
def takeLayers : Nat → List (List Nat) → List (List Nat)
  | _, [] => []
  | b, l :: ls => if b = 0 then [] else l :: takeLayers (b - l.length) ls

theorem sortLoop_stop (eps : Nat → List Point → List Nat) (mx : Option Nat) (fuel k : Nat)
    (R : List IPoint) (n : Nat) (hc : loopCond mx R n = false) :
    sortLoop eps mx fuel k R n = .ok [] := by
  cases fuel <;> simp [sortLoop, hc]

/-- One lap of the loop peels the Pareto front off `R`.  The layers `L` found without
`max_items` are, up to the order inside each, the layers of the O(n²) definition; with
`max_items = m` the loop stops as soon as `m` items are reached, on the same layers. -/
theorem sortLoop_spec (eps : Nat → List Point → List Nat) (hε : EpsOK eps) (d : Nat) :
    ∀ (fuel k : Nat) (R : List IPoint), RectI R d → R.length ≤ fuel →
      ∃ L, List.Forall₂ List.Perm L (specLayers fuel R) ∧
        (∀ n, sortLoop eps none fuel k R n = .ok L) ∧
        ∀ m n, sortLoop eps (some m) fuel k R n = .ok (takeLayers (m - n) L) := by
  intro fuel
  induction fuel with
  | zero =>
    intro k R _ hlen
    obtain rfl := List.eq_nil_of_length_eq_zero (Nat.le_zero.mp hlen)
    exact ⟨[], .nil, fun _ => rfl, fun _ _ => rfl⟩
  | succ fuel ih =>
    intro k R hR hlen
    cases R with
    | nil => exact ⟨[], .nil, fun _ => rfl, fun _ _ => rfl⟩
    | cons q qs =>
      obtain ⟨layer, htake, hperm⟩ := takeIdx_perm ((specFront (q :: qs)).map (·.1))
        (eps k ((specFront (q :: qs)).map (·.2)))
        (by have := hε k ((specFront (q :: qs)).map (·.2)); rwa [List.length_map] at this ⊢)
      obtain ⟨ls, hfor, hnone, hsome⟩ := ih (k + 1) (specRest (q :: qs)) (rectI_specRest _ d hR)
        (Nat.le_of_lt_succ (Nat.lt_of_lt_of_le (specRest_length_lt _ d hR (List.cons_ne_nil q qs)) hlen))
      have step : ∀ mx n, loopCond mx (q :: qs) n = true → sortLoop eps mx (fuel + 1) k (q :: qs) n =
          match sortLoop eps mx fuel (k + 1) (specRest (q :: qs)) (n + (specFront (q :: qs)).length) with
          | .error e => .error e
          | .ok ls => .ok (layer :: ls) := fun mx n hc => by
        simp only [sortLoop, hc, if_true, frontOf_eq _ d hR, restOf_eq _ d hR, htake]
        rfl
      refine ⟨layer :: ls, .cons hperm hfor, fun n => by rw [step none n rfl, hnone], fun m n => ?_⟩
      by_cases hnm : n < m
      · rw [step (some m) n (by simp [loopCond, hnm]), hsome, Nat.sub_add_eq, takeLayers,
          if_neg (Nat.sub_ne_zero_of_lt hnm), hperm.length_eq, List.length_map]
      · rw [sortLoop_stop _ _ _ _ _ _ (by simp [loopCond, hnm]), takeLayers,
          if_pos (Nat.sub_eq_zero_of_le (Nat.le_of_not_lt hnm))]

theorem enumFrom_map_fst : ∀ (s : Nat) (X : List Point), (enumFrom s X).map (·.1) = List.range' s X.length
  | _, [] => rfl
  | s, x :: xs => by simp [enumFrom, enumFrom_map_fst (s + 1) xs, List.range'_succ]

theorem enumFrom_map_snd : ∀ (s : Nat) (X : List Point), (enumFrom s X).map (·.2) = X
  | _, [] => rfl
  | s, x :: xs => by simp [enumFrom, enumFrom_map_snd (s + 1) xs]

theorem enumFrom_length (s : Nat) (X : List Point) : (enumFrom s X).length = X.length := by
  simpa using congrArg List.length (enumFrom_map_snd s X)

theorem rectI_enumFrom (s : Nat) (X : List Point) (d : Nat) (h : Rect X d) : RectI (enumFrom s X) d :=
  show Rect _ d from (enumFrom_map_snd s X).symm ▸ h

theorem mem_enumFrom (s : Nat) (X : List Point) (i : Nat) (x : Point) (h : X[i]? = some x) :
    (i + s, x) ∈ enumFrom s X := by
  induction X generalizing s i with
  | nil => cases h
  | cons y ys ih =>
    cases i with
    | zero => cases h; rw [Nat.zero_add]; exact List.mem_cons_self
    | succ i => exact List.mem_cons_of_mem _ (Nat.add_right_comm i 1 s ▸ ih (s + 1) i h)

/-- from left to right; `forall₂_getElem?` is the converse direction -/
theorem forall₂_getElem?' {L S : List (List Nat)} (h : List.Forall₂ List.Perm L S) :
    ∀ (a : Nat) (la : List Nat), L[a]? = some la → ∃ la', S[a]? = some la' ∧ la.Perm la' := by
  induction h with
  | nil => intro a la h; simp at h
  | cons hp _ ih =>
    intro a la h
    cases a with
    | zero => cases h; exact ⟨_, rfl, hp⟩
    | succ a => exact ih a la h

theorem forall₂_getElem? {L S : List (List Nat)} (h : List.Forall₂ List.Perm L S)
    (a : Nat) (la : List Nat) (ha : S[a]? = some la) : ∃ la', L[a]? = some la' ∧ la'.Perm la :=
  (forall₂_getElem?' (h.imp (S := flip List.Perm) fun _ _ hp => hp.symm).flip a la ha).imp fun _ h => ⟨h.1, h.2.symm⟩

theorem sumLengths_eq (L : List (List Nat)) : sumLengths L = L.flatten.length := by
  rw [sumLengths, List.length_flatten]

theorem forall₂_sumLengths_take {L S : List (List Nat)} (h : List.Forall₂ List.Perm L S) (b : Nat) :
    sumLengths (L.take b) = sumLengths (S.take b) := by
  rw [sumLengths_eq, sumLengths_eq]
  exact (List.Perm.flatten_congr (List.forall₂_take b h)).length_eq

theorem specLayers_flatten_perm (d : Nat) : ∀ (fuel : Nat) (R : List IPoint), R.length ≤ fuel →
    RectI R d → (specLayers fuel R).flatten.Perm (R.map (·.1))
  | 0, R, h, _ => by
    obtain rfl := List.eq_nil_of_length_eq_zero (Nat.le_zero.mp h)
    exact .refl _
  | fuel + 1, [], _, _ => .refl _
  | fuel + 1, q :: qs, h, hR => by
    have hlt := specRest_length_lt (q :: qs) d hR (List.cons_ne_nil q qs)
    have ih := specLayers_flatten_perm d fuel (specRest (q :: qs))
      (Nat.le_of_lt_succ (Nat.lt_of_lt_of_le hlt h)) (rectI_specRest _ d hR)
    rw [specLayers, List.isEmpty_cons, if_neg Bool.false_ne_true, List.flatten_cons]
    exact ((List.Perm.append_left _ ih).trans (.of_eq List.map_append.symm)).trans
      ((front_rest_perm (q :: qs)).map _)

theorem specLayers_enum_perm (X : List Point) (d : Nat) (hX : Rect X d) :
    (specLayers X.length (enumFrom 0 X)).flatten.Perm (List.range X.length) := by
  have := specLayers_flatten_perm d X.length (enumFrom 0 X) (by rw [enumFrom_length])
    (rectI_enumFrom 0 X d hX)
  rwa [enumFrom_map_fst, ← List.range_eq_range'] at this

theorem lt_of_mem_specLayers (X : List Point) (d : Nat) (hX : Rect X d) {a i : Nat} {la : List Nat}
    (ha : (specLayers X.length (enumFrom 0 X))[a]? = some la) (hi : i ∈ la) : i < X.length :=
  List.mem_range.mp ((specLayers_enum_perm X d hX).mem_iff.mp
    (List.mem_flatten.mpr ⟨la, List.mem_of_getElem? ha, hi⟩))

theorem sortLayersRaw_spec (X : List Point) (d : Nat) (hX : Rect X d)
    (eps : Nat → List Point → List Nat) (hε : EpsOK eps) :
    ∃ L, List.Forall₂ List.Perm L (specLayers X.length (enumFrom 0 X)) ∧
      sortLayersRaw X eps none = .ok L ∧ ∀ m, sortLayersRaw X eps (some m) = .ok (takeLayers m L) := by
  obtain ⟨L, hfor, hnone, hsome⟩ := sortLoop_spec eps hε d X.length 0 (enumFrom 0 X)
    (rectI_enumFrom 0 X d hX) (by rw [enumFrom_length])
  exact ⟨L, hfor, hnone 0, fun m => hsome m 0⟩

theorem nondominatedSort_of_layers {X : List Point} {eps : Nat → List Point → List Nat}
    {mx : Option Nat} {L : List (List Nat)} (h : nondominatedSortLayers X eps mx = .ok L) :
    nondominatedSort X eps mx = .ok L.flatten := by
  rw [nondominatedSort, h]

theorem takeLayers_eq_nil (b : Nat) (L : List (List Nat)) : takeLayers b L = [] ↔ L = [] ∨ b = 0 := by
  cases L with
  | nil => simp [takeLayers]
  | cons l ls => by_cases hb : b = 0 <;> simp [takeLayers, hb]

theorem sumLengths_cons (l : List Nat) (D : List (List Nat)) : sumLengths (l :: D) = l.length + sumLengths D := by
  simp [sumLengths]

theorem takeLayers_flatten_take (L : List (List Nat)) (b : Nat) (hb : 0 < b) (last : List Nat)
    (hlast : (takeLayers b L).getLast? = some last) :
    (takeLayers b L).dropLast.flatten ++ last.take (b - sumLengths (takeLayers b L).dropLast)
      = L.flatten.take b := by
  induction L generalizing b with
  | nil => cases hlast
  | cons l ls ih =>
    simp only [takeLayers, if_neg (Nat.ne_of_gt hb)] at hlast ⊢
    by_cases hT : takeLayers (b - l.length) ls = []
    · -- `l` is the last layer taken: the budget is used up, or there is no further layer
      rw [hT] at hlast ⊢
      obtain rfl : l = last := by simpa using hlast
      rw [List.flatten_cons, List.take_append]
      rcases (takeLayers_eq_nil _ _).mp hT with h | h <;> simp [h, sumLengths]
    · have hb' : 0 < b - l.length :=
        Nat.pos_of_ne_zero fun h => hT ((takeLayers_eq_nil _ _).mpr (.inr h))
      -- `l` is taken whole because `l.length < b`; the budget left for `ls` is `b - l.length`
      rw [List.getLast?_cons_of_ne_nil hT] at hlast
      rw [List.dropLast_cons_of_ne_nil hT, List.flatten_cons, sumLengths_cons, List.flatten_cons,
        List.take_append, List.append_assoc, Nat.sub_add_eq, ih (b - l.length) hb' hlast,
        List.take_of_length_le (Nat.le_of_lt (Nat.lt_of_sub_pos hb'))]

theorem truncateLayers_takeLayers (m : Nat) (L : List (List Nat)) (hm : 0 < m) (hL : L ≠ []) :
    ∃ T, truncateLayers (some m) (takeLayers m L) = .ok T ∧ T.flatten = L.flatten.take m := by
  have hne : takeLayers m L ≠ [] := fun h =>
    ((takeLayers_eq_nil _ _).mp h).elim hL (Nat.ne_of_gt hm)
  have hlast := List.getLast?_eq_some_getLast hne
  have key := takeLayers_flatten_take L m hm _ hlast
  simp only [truncateLayers, hlast]
  split
  · rename_i hnil
    exact ⟨_, rfl, by rw [← key, hnil, List.append_nil]⟩
  · exact ⟨_, rfl, by rw [← key]; simp⟩

theorem flatten_eq_of_getElem? {L : List (List Nat)} {b : Nat} {lb : List Nat} (hb : L[b]? = some lb) :
    L.flatten = (L.take b).flatten ++ (lb ++ (L.drop (b + 1)).flatten) := by
  obtain ⟨h, rfl⟩ := List.getElem?_eq_some_iff.mp hb
  calc L.flatten = (L.take b ++ L.drop b).flatten := by rw [List.take_append_drop]
    _ = _ := by rw [← List.getElem_cons_drop h, List.flatten_append, List.flatten_cons]

theorem idxOf_flatten_eq (L : List (List Nat)) (hnd : L.flatten.Nodup) (b : Nat) (lb : List Nat)
    (hb : L[b]? = some lb) (i : Nat) (hi : i ∈ lb) :
    L.flatten.idxOf i = sumLengths (L.take b) + lb.idxOf i := by
  rw [flatten_eq_of_getElem? hb] at hnd ⊢
  have hdis := (List.nodup_append.mp hnd).2.2
  rw [List.idxOf_append, if_neg fun h => hdis i h i (List.mem_append_left _ hi) rfl,
    List.idxOf_append, if_pos hi, sumLengths_eq, Nat.add_comm]

theorem sumLengths_take_mono {S : List (List Nat)} {a b : Nat} {la : List Nat} (hab : a < b)
    (ha : S[a]? = some la) : sumLengths (S.take a) + la.length ≤ sumLengths (S.take b) := by
  have h : (S.take b)[a]? = some la := by rw [List.getElem?_take, if_pos hab, ha]
  rw [sumLengths_eq, sumLengths_eq, flatten_eq_of_getElem? h,
    List.take_take, Nat.min_eq_left (Nat.le_of_lt hab), List.length_append, List.length_append, ← Nat.add_assoc]
  exact Nat.le_add_right _ _

theorem mem_specLayers (fuel : Nat) (R : List IPoint) (d : Nat) (hR : RectI R d) (hlen : R.length ≤ fuel)
    (q : IPoint) (hq : q ∈ R) : ∃ (b : Nat) (lb : List Nat), (specLayers fuel R)[b]? = some lb ∧ q.1 ∈ lb := by
  have := (specLayers_flatten_perm d fuel R hlen hR).mem_iff.mpr (List.mem_map_of_mem hq)
  obtain ⟨lb, hlb, hq'⟩ := List.mem_flatten.mp this
  obtain ⟨b, hb, rfl⟩ := List.getElem_of_mem hlb
  exact ⟨b, _, List.getElem?_eq_getElem hb, hq'⟩

/-- a dominating point lies in a strictly earlier layer -/
theorem specLayers_dominated (fuel : Nat) (R : List IPoint) (d : Nat) (hR : RectI R d)
    (hlen : R.length ≤ fuel) (p q : IPoint) (hp : p ∈ R) (hq : q ∈ R) (hd : dominates p.2 q.2 = true) :
    ∃ (a b : Nat) (la lb : List Nat), a < b ∧ (specLayers fuel R)[a]? = some la ∧
      (specLayers fuel R)[b]? = some lb ∧ p.1 ∈ la ∧ q.1 ∈ lb := by
  induction fuel generalizing R with
  | zero =>
    obtain rfl := List.eq_nil_of_length_eq_zero (Nat.le_zero.mp hlen)
    cases hp
  | succ fuel ih =>
    have hnil : R ≠ [] := List.ne_nil_of_mem hp
    have hle := Nat.le_of_lt_succ (Nat.lt_of_lt_of_le (specRest_length_lt R d hR hnil) hlen)
    have hR' := rectI_specRest R d hR
    -- `q` is dominated, so it is not in the front
    have hqr : q ∈ specRest R := List.mem_filter.mpr
      ⟨hq, by rw [isMinimal, Bool.not_not, List.any_eq_true]; exact ⟨p, hp, hd⟩⟩
    rw [specLayers, if_neg (by rwa [List.isEmpty_iff])]
    cases hpf : isMinimal R p with
    | true =>
      obtain ⟨b, lb, hb, hqb⟩ := mem_specLayers fuel (specRest R) d hR' hle q hqr
      exact ⟨0, b + 1, _, lb, Nat.succ_pos b, rfl, hb,
        List.mem_map_of_mem (List.mem_filter.mpr ⟨hp, hpf⟩), hqb⟩
    | false =>
      obtain ⟨a, b, la, lb, hab, ha, hb, hpa, hqb⟩ := ih (specRest R) hR' hle
        (List.mem_filter.mpr ⟨hp, by rw [hpf]; rfl⟩) hqr
      exact ⟨a + 1, b + 1, la, lb, Nat.succ_lt_succ hab, ha, hb, hpa, hqb⟩

theorem scatter_getElem? (order : List Nat) (prio : List Nat) (pos i : Nat) (hnd : order.Nodup) :
    (scatter prio order pos)[i]? =
      if i ∈ order then (prio[i]?).map (fun _ => pos + order.idxOf i) else prio[i]? := by
  induction order generalizing prio pos with
  | nil => rfl
  | cons i0 rest ih =>
    obtain ⟨hi0, hnd'⟩ := List.nodup_cons.mp hnd
    rw [scatter, ih (prio.set i0 pos) (pos + 1) hnd']
    simp only [List.getElem?_set, List.idxOf_cons, List.mem_cons]
    by_cases h0 : i0 = i
    · subst h0
      by_cases hl : i0 < prio.length <;> simp [hi0, hl]
    · have hne : i ≠ i0 := fun h => h0 h.symm
      by_cases hir : i ∈ rest <;> simp [h0, hne, hir, beq_false_of_ne h0, Nat.add_assoc, Nat.add_comm 1]

theorem scatter_length : ∀ (order : List Nat) (prio : List Nat) (pos : Nat),
    (scatter prio order pos).length = prio.length
  | [], _, _ => rfl
  | i0 :: rest, prio, pos => by rw [scatter, scatter_length rest]; simp

/-- with `prio` initialised to `len(order)` the scatter yields the position of every index in
`order` (`List.idxOf` is `order.length` for an absent index) -/
theorem scatter_eq_idxOf (order : List Nat) (N : Nat) (hnd : order.Nodup) :
    scatter (List.replicate N order.length) order 0 = (List.range N).map (fun i => order.idxOf i) := by
  refine List.ext_getElem? fun i => ?_
  rw [scatter_getElem? order _ 0 i hnd, List.getElem?_replicate, List.getElem?_map]
  by_cases hi : i < N
  · rw [if_pos hi, List.getElem?_range hi, Option.map_some, Option.map_some, Nat.zero_add]
    split
    · rfl
    · rename_i h; rw [List.idxOf_eq_length h]
  · rw [if_neg hi, List.getElem?_eq_none (by simpa using hi)]
    simp

theorem getElem?_map_idxOf (order : List Nat) {N i : Nat} (hi : i < N) :
    ((List.range N).map (fun i => order.idxOf i))[i]? = some (order.idxOf i) := by
  rw [List.getElem?_map, List.getElem?_range hi]; rfl

/-- in a duplicate-free list exactly `min v (length)` elements sit at a position `< v` -/
theorem countP_idxOf_lt (l : List Nat) (hnd : l.Nodup) (v : Nat) :
    l.countP (fun i => decide (l.idxOf i < v)) = min v l.length := by
  induction l generalizing v with
  | nil => rw [List.countP_nil, List.length_nil, Nat.min_zero]
  | cons x xs ih =>
    obtain ⟨hx, hnd'⟩ := List.nodup_cons.mp hnd
    have hrest : xs.countP (fun i => decide ((x :: xs).idxOf i < v)) =
        xs.countP (fun i => decide (xs.idxOf i < v - 1)) :=
      List.countP_congr fun i hi => by
        rw [List.idxOf_cons, beq_false_of_ne fun h : x = i => hx (h ▸ hi), cond_false,
          decide_eq_true_eq, decide_eq_true_eq]
        exact Nat.lt_sub_iff_add_lt.symm
    rw [List.countP_cons, hrest, ih hnd' (v - 1), List.idxOf_cons_self, List.length_cons]
    rcases v with _ | v
    · rw [Nat.zero_min, Nat.zero_min]; rfl
    · rw [if_pos (decide_eq_true (Nat.succ_pos v)), Nat.add_sub_cancel, Nat.succ_min_succ]

/-- among the indices `0 … k` arranged in `order`, those placed before `k` are as many as the
position of `k` -/
theorem countP_before (order : List Nat) (k : Nat) (hperm : order.Perm (List.range (k + 1))) :
    (List.range k).countP (fun i => decide (order.idxOf i < order.idxOf k)) = order.idxOf k := by
  have hnd : order.Nodup := hperm.nodup_iff.mpr List.nodup_range
  have := countP_idxOf_lt order hnd (order.idxOf k)
  rw [hperm.countP_eq, List.range_succ, List.countP_append, Nat.min_eq_left List.idxOf_le_length] at this
  simpa using this

end SyneTune
