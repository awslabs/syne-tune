import SyneTune.Lemmas.HBEffect
/-
What each operation of the bracket manager and the scheduler does, case by case: for the functions of
`Model/HB.lean` at these two levels that can fail or branch, one lemma that reads a successful call backwards
(those of the rung systems are in `HBPromotion`: `RungSys.taskAdd_ok`, `promoReport_ok`, `pashaReport_cases`,
`promoReached_spec`); then what no operation changes (`Manager.const`).  The later files read the manager's
`on_task_report` / `on_task_schedule` through `MgrReportEff` / `MgrSchedEff` (`Manager.taskReport_eff`,
`Manager.taskSchedule_eff`) and the tails of `_suggest` / `on_trial_result` through `Sched.afterSchedule`, `Sched.live`.
-/
namespace SyneTune

/-- `on_task_report` by scheduler type: a stopping system answers by `stopReport` (RUSH: `rushStopReport`), a
promotion system by `promoReport`, after which PASHA updates its own fields -/
theorem Manager.sysReport_ok {g : Manager} {s s' : RungSys} {tid r : Nat} {v : Rat} {skip : Nat}
    {hint : Bool} {cost eps : Rat} {o : RepOut}
    (h : g.sysReport s tid r v skip hint cost eps = .ok (s', o)) :
    (g.type.pauseResume = false ∧ (s.stopReport g.mode tid r v skip hint = (s', o) ∨
        s.rushStopReport g.mode tid r v skip hint = (s', o))) ∨
    (g.type.pauseResume = true ∧ ∃ c s1, s.promoReport g.mode tid r v c = .ok (s1, o) ∧
        (s' = s1 ∨ ∃ ci cm, s' = { s1 with epsilon := eps, curIdx := ci, curMaxT := cm })) := by
  unfold Manager.sysReport at h
  split at h <;> rename_i hty
  · exact .inl ⟨by rw [hty]; rfl, .inl (Except.ok.inj h)⟩
  · exact .inl ⟨by rw [hty]; rfl, .inr (Except.ok.inj h)⟩
  · exact .inr ⟨by rw [hty]; rfl, 0, s', h, .inl rfl⟩
  · exact .inr ⟨by rw [hty]; rfl, 0, s', h, .inl rfl⟩
  · exact .inr ⟨by rw [hty]; rfl, cost, s', h, .inl rfl⟩
  · obtain ⟨s1, h1, rfl | ⟨_, rfl⟩ | ⟨l, _, _, rfl⟩⟩ := RungSys.pashaReport_cases h <;>
      exact .inr ⟨by rw [hty]; rfl, 0, s1, h1, .inr ⟨_, _, rfl⟩⟩

theorem Manager.sysReport_eff {g : Manager} {s s' : RungSys} {tid r : Nat} {v : Rat} {skip : Nat}
    {hint : Bool} {cost eps : Rat} {o : RepOut}
    (h : g.sysReport s tid r v skip hint cost eps = .ok (s', o)) : ReportEff g.mode s s' tid r o := by
  rcases Manager.sysReport_ok h with ⟨_, hs | hs⟩ | ⟨_, c, s1, h1, rfl | ⟨ci, cm, rfl⟩⟩
  · have e := s.stopReport_eff g.mode tid r v skip hint
    rwa [hs] at e
  · have e := s.rushStopReport_eff g.mode tid r v skip hint
    rwa [hs] at e
  · exact RungSys.promoReport_eff h1
  · -- PASHA's own fields are none of those `ReportEff` looks at
    have e := RungSys.promoReport_eff h1
    exact ⟨e.running, e.maxT, e.rungs⟩

theorem Manager.taskAdd_ok {g g' : Manager} {tid b : Nat} {resume : Option (Nat × Nat)} {first : Nat}
    (h : g.taskAdd tid b resume = .ok (g', first)) :
    ∃ s s', g.systems[(g.sysFor b).1]? = some s ∧
      s.taskAdd g.type.pauseResume tid (g.sysFor b).2 resume = .ok s' ∧
      g' = ({ g with taskInfo := aset tid b g.taskInfo } : Manager).setSys (g.sysFor b).1 s' ∧
      first = s'.firstOfList (g.sysFor b).2 g.maxT := by
  unfold Manager.taskAdd at h
  split at h
  · cases h
  · rename_i s hs
    split at h
    · cases h
    · rename_i s' hs'
      cases h; exact ⟨s, s', hs, hs', rfl, rfl⟩

/-- `on_task_add` of a promoted trial in a pause-and-resume manager: the system of its bracket records
`(milestone, resume_from)`, and `resume_from < milestone` was checked -/
theorem taskAdd_resume (g g2 : Manager) (t b m f first : Nat) (sys : RungSys)
    (h : g.taskAdd t b (some (m, f)) = .ok (g2, first)) (hpr : g.type.pauseResume = true)
    (hs : g.systems[(g.sysFor b).1]? = some sys) :
    f < m ∧ g2.systems[(g.sysFor b).1]? = some { sys with running := aset t (m, some f) sys.running } := by
  obtain ⟨sys0, sys', hs0, ha, rfl, _⟩ := Manager.taskAdd_ok h
  cases hs.symm.trans hs0
  rcases RungSys.taskAdd_ok ha with ⟨hpr', _⟩ | ⟨_, ms, rf, rfl, hlt, _, hs'⟩
  · rw [hpr] at hpr'; cases hpr'
  · obtain ⟨rfl, rfl⟩ := hs' _ rfl
    exact ⟨hlt _ rfl, getElem?_set_self' _ _ sys _ hs⟩

/-- `on_task_report` at manager level -/
def MgrReportEff (g g' : Manager) (tid r : Nat) (v : Rat) (hint : Bool) (o : RepOut) : Prop :=
  (g.maxT ≤ r ∧ g' = g ∧ o = { continues := false, reached := true, next := none }) ∨
  ∃ b sys sys' o1, r < g.maxT ∧ alookup tid g.taskInfo = some b ∧ g.systems[(g.sysFor b).1]? = some sys ∧
    g' = g.setSys (g.sysFor b).1 sys' ∧ o = fixNext g.maxT o1 ∧ ReportEff g.mode sys sys' tid r o1 ∧
    ((g.type.pauseResume = false ∧ (o1 = (sys.stopReport g.mode tid r v (g.sysFor b).2 hint).2 ∨
        o1 = (sys.rushStopReport g.mode tid r v (g.sysFor b).2 hint).2)) ∨
     (g.type.pauseResume = true ∧ PromoAns sys tid r o1))

theorem Manager.taskReport_eff {g g' : Manager} {tid r : Nat} {v : Rat} {hint : Bool} {cost eps : Rat}
    {o : RepOut} (h : g.taskReport tid r v hint cost eps = .ok (g', o)) : MgrReportEff g g' tid r v hint o := by
  unfold Manager.taskReport at h
  split at h
  · cases h
  · rename_i b hb
    split at h
    · cases h
    · rename_i s hs
      split at h
      · rename_i hr
        split at h
        · cases h
        · rename_i res hres
          cases h
          refine .inr ⟨b, s, res.1, res.2, hr, hb, hs, rfl, rfl, Manager.sysReport_eff hres, ?_⟩
          rcases Manager.sysReport_ok hres with ⟨hty, h1 | h1⟩ | ⟨hty, c, s1, h1, _⟩
          · exact .inl ⟨hty, .inl (congrArg Prod.snd h1).symm⟩
          · exact .inl ⟨hty, .inr (congrArg Prod.snd h1).symm⟩
          · exact .inr ⟨hty, RungSys.promoReport_ans h1⟩
      · rename_i hr
        cases h; exact .inl ⟨Nat.le_of_not_lt hr, rfl, rfl⟩

theorem Manager.taskReport_at_max {g g' : Manager} {tid r : Nat} {v : Rat} {hint : Bool} {cost eps : Rat}
    {o : RepOut} (h : g.taskReport tid r v hint cost eps = .ok (g', o)) (hr : g.maxT ≤ r) :
    g' = g ∧ o = { continues := false, reached := true, next := none } := by
  rcases Manager.taskReport_eff h with ⟨_, hg, ho⟩ | ⟨_, _, _, _, hlt, _⟩
  · exact ⟨hg, ho⟩
  · omega

theorem fixNext_eq (maxT : Nat) (o : RepOut) :
    fixNext maxT o = { o with next := if o.continues ∧ o.reached ∧ o.next = none then some maxT else o.next } := by
  unfold fixNext; split <;> rfl

theorem Manager.taskSchedule_ok {g g' : Manager} {b : Nat} {hint : Option Nat} {so : Option SchedOut}
    {ms : Nat} {fr : Bool} (h : g.taskSchedule b hint = .ok (g', so, ms, fr)) :
    ∃ s, g.systems[(g.sysFor b).1]? = some s ∧
      ((g.type.pauseResume = false ∧ g' = g ∧ so = none) ∨
       (g.type.pauseResume = true ∧ g' = g.setSys (g.sysFor b).1 (s.promoSchedule g.type g.mode hint).1 ∧
          so = (s.promoSchedule g.type g.mode hint).2.1)) := by
  unfold Manager.taskSchedule at h
  split at h
  · cases h
  · rename_i s hs
    refine ⟨s, hs, ?_⟩
    split at h
    · rename_i hp
      cases h; exact .inl ⟨Bool.not_eq_true _ ▸ hp, rfl, rfl⟩
    · rename_i hp
      split at h
      · rename_i o ho
        cases h; exact .inr ⟨not_not.mp hp, rfl, ho.symm⟩
      · rename_i ho
        cases h; exact .inr ⟨not_not.mp hp, rfl, ho.symm⟩

theorem Manager.taskRemove_eq (g : Manager) (tid : Nat) :
    g.taskRemove tid = g ∨ ∃ i, g.taskRemove tid =
      { g with systems := delRunningAt g.systems i tid, taskInfo := adel tid g.taskInfo } := by
  unfold Manager.taskRemove
  split
  · exact .inl rfl
  · exact .inr ⟨_, rfl⟩

theorem delRunningAt_eq (ss : List RungSys) (i tid : Nat) :
    delRunningAt ss i tid = ss ∨
    ∃ s, ss[i]? = some s ∧ delRunningAt ss i tid = ss.set i { s with running := adel tid s.running } := by
  unfold delRunningAt
  split
  · exact .inr ⟨_, ‹_›, rfl⟩
  · exact .inl rfl

theorem delRunningAt_rungs (ss : List RungSys) (i tid : Nat) :
    (delRunningAt ss i tid).map (·.rungs) = ss.map (·.rungs) := by
  rcases delRunningAt_eq ss i tid with h | ⟨s, hs, h⟩ <;> rw [h]
  exact map_set_same _ ss i s _ hs rfl

/-- what `_suggest` does after the rung system answered `(g, so)`: `_on_config_suggest` for "no
promotion", `_promote_trial` for a promoted trial -/
def Sched.afterSchedule (s : Sched) (g : Manager) (so : Option SchedOut) (newTid bracket ms : Nat) (fr : Bool) :
    Except Err (Sched × Suggestion × List SCall × Bool) :=
  match so with
  | none => s.suggestStart g newTid bracket ms fr
  | some o => s.suggestResume g bracket o fr

theorem Sched.suggest_eq (s : Sched) (newTid bracket : Nat) (hint : Option Nat) :
    s.suggest newTid bracket hint =
      match s.mgr.taskSchedule bracket hint with
      | .error e => .error e
      | .ok res => s.afterSchedule res.1 res.2.1 newTid bracket res.2.2.1 res.2.2.2 := by
  unfold Sched.suggest Sched.afterSchedule
  cases s.mgr.taskSchedule bracket hint with
  | error e => rfl
  | ok res => obtain ⟨g, so, ms, fr⟩ := res; cases so <;> rfl

theorem Sched.suggest_ok {s s' : Sched} {n b : Nat} {hint : Option Nat} {sg : Suggestion}
    {calls : List SCall} {fr : Bool} (h : s.suggest n b hint = .ok (s', sg, calls, fr)) :
    ∃ g so ms fr0, s.mgr.taskSchedule b hint = .ok (g, so, ms, fr0) ∧
      s.afterSchedule g so n b ms fr0 = .ok (s', sg, calls, fr) := by
  rw [Sched.suggest_eq] at h
  split at h
  · cases h
  · rename_i res hres
    exact ⟨_, _, _, _, hres, h⟩

theorem mem_rangeIncl {a b x : Nat} (h : x ∈ rangeIncl a b) : a ≤ x ∧ x ≤ b := by
  simp only [rangeIncl, List.mem_map, List.mem_range] at h
  obtain ⟨i, hi, rfl⟩ := h
  omega

theorem mem_pendingResume {s : Sched} {o : SchedOut} {r : Nat} (hr : r ∈ s.pendingResume o)
    (h : o.resumeFrom < o.milestone) :
    o.resumeFrom < r ∧ r ≤ o.milestone ∧ (s.searcherData = .rungs → r = o.milestone) := by
  unfold Sched.pendingResume at hr
  split at hr
  · rw [List.mem_singleton.mp hr]; exact ⟨h, Nat.le_refl _, fun _ => rfl⟩
  · rename_i hsd
    refine ⟨?_, ?_, fun hx => absurd hx hsd⟩ <;> split at hr
    · rw [List.mem_singleton.mp hr]; omega
    · exact (mem_rangeIncl hr).1
    · rw [List.mem_singleton.mp hr]; omega
    · exact (mem_rangeIncl hr).2

theorem Sched.afterSchedule_ok {s s' : Sched} {g : Manager} {so : Option SchedOut} {n b ms : Nat} {fr0 : Bool}
    {sg : Suggestion} {calls : List SCall} {fr : Bool}
    (h : s.afterSchedule g so n b ms fr0 = .ok (s', sg, calls, fr)) :
    ∃ g2 first,
      (so = none ∧ alookup n s.active = none ∧ g.taskAdd n b none = .ok (g2, first) ∧
        s' = { s with mgr := g2, active := aset n { bracket := b } s.active } ∧
        calls = (s.pendingNew first).map (SCall.pending n) ∧ sg = .start n b ms) ∨
      (∃ o rec, so = some o ∧ g.taskAdd o.trial b (some (o.milestone, o.resumeFrom)) = .ok (g2, first) ∧
        alookup o.trial s.active = some rec ∧ rec.decision ≠ .continue ∧
        s' = { s with mgr := g2, active := aset o.trial { rec with decision := .continue } s.active } ∧
        calls = (s.pendingResume o).map (SCall.pending o.trial) ∧
        sg = .resume o.trial o.resumeFrom o.milestone) := by
  unfold Sched.afterSchedule at h
  split at h
  · unfold Sched.suggestStart at h
    split at h
    · cases h
    · rename_i hex
      split at h
      · cases h
      · rename_i r2 hr2
        cases h
        exact ⟨r2.1, r2.2, .inl ⟨rfl, Option.not_isSome_iff_eq_none.mp hex, hr2, rfl, rfl, rfl⟩⟩
  · rename_i o
    unfold Sched.suggestResume at h
    split at h
    · cases h
    · rename_i r2 hr2
      split at h
      · cases h
      · rename_i rec hrec
        split at h
        · cases h
        · rename_i hd
          cases h
          exact ⟨r2.1, r2.2, .inr ⟨o, rec, rfl, hr2, hrec, hd, rfl, rfl, rfl⟩⟩

theorem Sched.afterSchedule_calls {s s' : Sched} {g1 : Manager} {so : Option SchedOut} {newTid bracket ms : Nat}
    {fr0 : Bool} {sg : Suggestion} {calls : List SCall} {fr : Bool}
    (h : s.afterSchedule g1 so newTid bracket ms fr0 = .ok (s', sg, calls, fr)) :
    ∃ (t : Nat) (ls : List Nat), calls = ls.map (SCall.pending t) := by
  obtain ⟨_, _, ⟨_, _, _, _, hc, _⟩ | ⟨_, _, _, _, _, _, _, hc, _⟩⟩ := Sched.afterSchedule_ok h <;> exact ⟨_, _, hc⟩

/-- scheduler state after a report which is taken into account: the trial's record is updated and, unless
the trial continues, `_cleanup_trial` records the decision -/
def Sched.live (s : Sched) (tid r : Nat) (v : Rat) (rec : TrialInfo) (o : RepOut) : Sched :=
  if o.continues then { s with active := aset tid (rec.afterReport r v o (s.updateSearcher tid r v o rec).1).2 s.active }
  else ({ s with active := aset tid (rec.afterReport r v o (s.updateSearcher tid r v o rec).1).2 s.active } : Sched).cleanup
    tid (s.decisionFor r o)

theorem Sched.onResultLive_ok {s s' : Sched} {tid r : Nat} {v : Rat} {rec : TrialInfo} {o : RepOut}
    {out : ResOut} (h : s.onResultLive tid r v rec o = .ok (s', out)) :
    ¬ ((s.updateSearcher tid r v o rec).1 = true ∧ ¬ rec.lastUpdate r ≤ r) ∧ s' = s.live tid r v rec o ∧
    out = { decision := s.decisionFor r o, free := o.free,
            calls := (s.updateSearcher tid r v o rec).2 ++
              [SCall.update tid r v (rec.afterReport r v o (s.updateSearcher tid r v o rec).1).1] } := by
  unfold Sched.onResultLive at h
  dsimp only at h
  split at h
  · cases h
  · rename_i hassert
    cases h
    exact ⟨hassert, rfl, rfl⟩

theorem afterReport_decision_keeps (rec : TrialInfo) (r : Nat) (v : Rat) (o : RepOut) (b : Bool) :
    (rec.afterReport r v o b).2.decision = rec.decision := by
  unfold TrialInfo.afterReport
  split
  · split <;> rfl
  · rfl

theorem decisionFor_continue (s : Sched) (r : Nat) (o : RepOut) :
    s.decisionFor r o = .continue ↔ o.continues = true := by
  unfold Sched.decisionFor
  by_cases hc : o.continues = true
  · simp [hc]
  · simp only [hc, Bool.false_eq_true, if_false, iff_false]
    split <;> simp

theorem Sched.cleanup_active (s : Sched) (tid : Nat) (d : Decision) (t : Nat) :
    alookup t (s.cleanup tid d).active =
      if t = tid then (alookup tid s.active).map fun rec => { rec with decision := d } else alookup t s.active := by
  unfold Sched.cleanup
  cases hl : alookup tid s.active with
  | none => by_cases he : t = tid <;> simp [he, hl]
  | some rec => simp only [Option.map_some]; rw [alookup_aset]

theorem Sched.live_mgr (s : Sched) (tid r : Nat) (v : Rat) (rec : TrialInfo) (o : RepOut) :
    (s.live tid r v rec o).mgr = if o.continues then s.mgr else s.mgr.taskRemove tid := by
  unfold Sched.live; split <;> rfl

theorem Sched.live_active (s : Sched) (tid r : Nat) (v : Rat) (rec : TrialInfo) (o : RepOut)
    (hcont : rec.decision = .continue) (t : Nat) :
    alookup t (s.live tid r v rec o).active =
      if t = tid then some { (rec.afterReport r v o (s.updateSearcher tid r v o rec).1).2 with decision := s.decisionFor r o }
      else alookup t s.active := by
  have hAd := (afterReport_decision_keeps rec r v o (s.updateSearcher tid r v o rec).1).trans hcont
  unfold Sched.live
  generalize (rec.afterReport r v o (s.updateSearcher tid r v o rec).1).2 = recA at hAd ⊢
  by_cases hc : o.continues = true
  · simp only [hc, if_true]
    rw [(decisionFor_continue s r o).mpr hc, alookup_aset]
    have : ({ recA with decision := .continue } : TrialInfo) = recA := by
      cases recA; simp only at hAd; subst hAd; rfl
    rw [this]
  · simp only [hc, Bool.false_eq_true, if_false]
    rw [Sched.cleanup_active]
    by_cases he : t = tid
    · simp [he, alookup_aset_self]
    · simp only [he, if_false]; exact alookup_aset_ne he _ _

/-- the cases of `on_trial_result`. `co` is the cost offsets after the report; no proof looks at them, so they
are left unspecified -/
theorem Sched.onResult_ok {s s' : Sched} {tid r : Nat} {v : Rat} {hint : Bool} {cost eps : Rat}
    {out : ResOut} (h : s.onResult tid r v hint cost eps = .ok (s', out)) :
    ∃ rec, alookup tid s.active = some rec ∧
      ((rec.decision ≠ .continue ∧ s' = s ∧
          out = { decision := rec.decision, free := false, calls := [SCall.update tid r v false] }) ∨
       (rec.decision = .continue ∧ ∃ g o co,
          s.mgr.taskReport tid r v hint (s.totalCost tid cost) eps = .ok (g, o) ∧
          ((o.ignoreData = true ∧ s' = { s with mgr := g, costOffset := co } ∧
              out = { decision := .continue, free := o.free, calls := [] }) ∨
           (o.ignoreData = false ∧ ∃ s1 : Sched, s1 = { s with mgr := g, costOffset := co } ∧
            ¬ ((s1.updateSearcher tid r v o rec).1 = true ∧ ¬ rec.lastUpdate r ≤ r) ∧ s' = s1.live tid r v rec o ∧
            out = { decision := s1.decisionFor r o, free := o.free,
                    calls := (s1.updateSearcher tid r v o rec).2 ++
                      [SCall.update tid r v (rec.afterReport r v o (s1.updateSearcher tid r v o rec).1).1] })))) := by
  unfold Sched.onResult at h
  split at h
  · cases h
  · rename_i rec hrec
    refine ⟨rec, hrec, ?_⟩
    split at h
    · rename_i hd
      cases h; exact .inl ⟨hd, rfl, rfl⟩
    · rename_i hd
      refine .inr ⟨not_not.mp hd, ?_⟩
      split at h
      · cases h
      · rename_i res hres
        unfold Sched.afterReport at h
        split at h
        · cases h
        · rename_i co hco
          refine ⟨res.1, res.2, co, hres, ?_⟩
          split at h
          · rename_i hig
            cases h; exact .inl ⟨hig, rfl, rfl⟩
          · rename_i hig
            exact .inr ⟨Bool.not_eq_true _ ▸ hig, _, rfl, Sched.onResultLive_ok h⟩

theorem Sched.onComplete_ok {s s' : Sched} {tid r : Nat} {v : Rat} {calls : List SCall}
    (h : s.onComplete tid r v = .ok (s', calls)) : s' = s.cleanup tid .stop := by
  unfold Sched.onComplete at h
  split at h
  · cases h
  · cases h; rfl

def RungSys.const (s : RungSys) : Nat × List (Nat × Rat) := (s.maxT, s.rungs.map fun rg => (rg.level, rg.q))

structure Manager.Const where
  type : HBType
  mode : Mode
  maxT : Nat
  rungLevels : List Nat
  numBrackets : Nat
  perBracket : Bool
  systems : List (Nat × List (Nat × Rat))

def Manager.const (g : Manager) : Manager.Const :=
  ⟨g.type, g.mode, g.maxT, g.rungLevels, g.numBrackets, g.perBracket, g.systems.map RungSys.const⟩

theorem RungSys.const_eq {m : Mode} {s s' : RungSys} (hm : s'.maxT = s.maxT)
    (h : RungSteps m s.rungs s'.rungs) : s'.const = s.const :=
  Prod.ext hm h.const

theorem Manager.setSys_const (g : Manager) {i : Nat} {s s' : RungSys} (h : g.systems[i]? = some s)
    (hc : s'.const = s.const) : (g.setSys i s').const = g.const := by
  simp only [Manager.const, Manager.setSys, Manager.Const.mk.injEq, true_and]
  exact map_set_same _ _ _ s _ h hc

theorem Manager.taskAdd_const {g g' : Manager} {tid b : Nat} {resume : Option (Nat × Nat)} {first : Nat}
    (h : g.taskAdd tid b resume = .ok (g', first)) : g'.const = g.const := by
  obtain ⟨s, s', hs, hs', rfl, _⟩ := Manager.taskAdd_ok h
  refine (Manager.setSys_const (g := { g with taskInfo := aset tid b g.taskInfo }) hs ?_)
  rcases RungSys.taskAdd_ok hs' with ⟨_, rfl⟩ | ⟨_, _, _, rfl, _⟩ <;> rfl

theorem MgrReportEff.const {g g' : Manager} {tid r : Nat} {v : Rat} {hint : Bool} {o : RepOut}
    (h : MgrReportEff g g' tid r v hint o) : g'.const = g.const := by
  rcases h with ⟨_, rfl, _⟩ | ⟨b, sys, sys', o1, _, _, hs, rfl, _, e, _⟩
  · rfl
  · exact g.setSys_const hs (RungSys.const_eq e.maxT e.steps)

/-- `on_task_schedule` at manager level, for `taskSchedule` and DyHPO's `taskScheduleDy` alike -/
def MgrSchedEff (g g' : Manager) (so : Option SchedOut) : Prop :=
  (g' = g ∧ so = none) ∨ ∃ i sys sys', g.type.pauseResume = true ∧ g.systems[i]? = some sys ∧ g' = g.setSys i sys' ∧
    SchedEff g.mode sys sys' so

theorem Manager.taskSchedule_eff {g g' : Manager} {b : Nat} {hint : Option Nat} {so : Option SchedOut}
    {ms : Nat} {fr : Bool} (h : g.taskSchedule b hint = .ok (g', so, ms, fr)) : MgrSchedEff g g' so := by
  obtain ⟨sys, hs, ⟨_, rfl, rfl⟩ | ⟨hpr, rfl, rfl⟩⟩ := Manager.taskSchedule_ok h
  · exact .inl ⟨rfl, rfl⟩
  · exact .inr ⟨_, sys, _, hpr, hs, rfl, promoSchedule_eff sys g.type g.mode hint⟩

theorem MgrSchedEff.const {g g' : Manager} {so : Option SchedOut} (h : MgrSchedEff g g' so) : g'.const = g.const := by
  rcases h with ⟨rfl, rfl⟩ | ⟨i, sys, sys', hpr, hs, rfl, eff⟩
  · rfl
  · exact g.setSys_const hs (RungSys.const_eq eff.maxT eff.steps)

theorem Manager.taskRemove_const (g : Manager) (tid : Nat) : (g.taskRemove tid).const = g.const := by
  rcases g.taskRemove_eq tid with h | ⟨i, h⟩ <;> rw [h]
  rcases delRunningAt_eq g.systems i tid with h' | ⟨s0, hs0, h'⟩ <;> rw [h']
  · rfl
  · exact Manager.setSys_const (g := { g with taskInfo := adel tid g.taskInfo }) hs0 rfl

theorem Sched.afterSchedule_const {s s' : Sched} {g : Manager} {so : Option SchedOut} {n b ms : Nat} {fr0 : Bool}
    {sg : Suggestion} {calls : List SCall} {fr : Bool} (hc : g.const = s.mgr.const)
    (h : s.afterSchedule g so n b ms fr0 = .ok (s', sg, calls, fr)) : s'.mgr.const = s.mgr.const := by
  obtain ⟨g2, first, ⟨_, _, hta, rfl, _⟩ | ⟨o, rec, _, hta, _, _, rfl, _⟩⟩ := Sched.afterSchedule_ok h <;>
    exact (Manager.taskAdd_const hta).trans hc

theorem Sched.suggest_const {s s' : Sched} {n b : Nat} {hint : Option Nat} {sg : Suggestion}
    {calls : List SCall} {fr : Bool} (h : s.suggest n b hint = .ok (s', sg, calls, fr)) :
    s'.mgr.const = s.mgr.const := by
  obtain ⟨g, so, ms, fr0, hts, ha⟩ := Sched.suggest_ok h
  exact Sched.afterSchedule_const (Manager.taskSchedule_eff hts).const ha

theorem Sched.onResult_const {s s' : Sched} {tid r : Nat} {v : Rat} {hint : Bool} {cost eps : Rat}
    {out : ResOut} (h : s.onResult tid r v hint cost eps = .ok (s', out)) : s'.mgr.const = s.mgr.const := by
  obtain ⟨rec, _, ⟨_, rfl, _⟩ | ⟨_, g, o, co, hrep, ⟨_, rfl, _⟩ | ⟨_, _, rfl, _, rfl, _⟩⟩⟩ := Sched.onResult_ok h
  · rfl
  · exact (Manager.taskReport_eff hrep).const
  · unfold Sched.live
    split
    · exact (Manager.taskReport_eff hrep).const
    · exact (g.taskRemove_const tid).trans (Manager.taskReport_eff hrep).const

end SyneTune
