import SyneTune.Lemmas.RandomRestrict
import SyneTune.Lemmas.AssocList
/-
The random searcher, with or without `restrict_configurations`, over arbitrary histories
(`Model/RandomRestrict.lean`): one induction principle (`XState.run_induction`), and as its
instances the exclusion set, no repeats, the list and its accounting; initial configurations
first; the caller's list object.  Then the plain searcher (`Model/RandomSearcher.lean`) as
the model without a list, which is how `Props/C06.lean` and `Props/C16.lean` read this file.
Core Lean only.
-/
namespace SyneTune.Srch

variable {imm : RImm} {dc : Nat → Config} {di : Nat → Nat}

theorem XState.run_eq (imm : RImm) (dc : Nat → Config) (di : Nat → Nat) (s : XState) (ops : List ROp) :
    XState.run imm dc di s ops = foldRun (XState.step imm dc di) s ops := by
  fun_induction XState.run imm dc di s ops with
  | case1 => rfl
  | case2 _ _ _ _ h1 => simp only [foldRun, h1]
  | case3 _ _ _ _ h1 _ h2 ih => simp only [foldRun, h1, ← ih, h2]
  | case4 _ _ _ _ h1 _ h2 ih => simp only [foldRun, h1, ← ih, h2]

/-- Induction over a history that starts between two calls.  `P` relates the state to the
configurations answered so far. -/
theorem XState.run_induction {P : XState → List Config → Prop}
    (frame : ∀ s s1 R, P s R → XState.Quiet imm s s1 → P s1 R)
    (answer : ∀ s R s1 c dc di, P s R → XState.Got imm dc di s s1 (some c) → P s1 (R ++ [c]))
    {ops : List ROp} {s s' : XState} {R : List Config} {outs : List (Option Config)}
    (h : XState.run imm dc di s ops = .ok (s', outs)) (hpos : s.pos = []) (hP : P s R) :
    s'.pos = [] ∧ P s' (R ++ outs.filterMap id) := by
  rw [XState.run_eq] at h
  have := foldRun_invariant (P := fun s Q => s.pos = [] ∧ P s (R ++ Q.filterMap id)) ?_ ops s [] s' outs
    ⟨hpos, by simpa using hP⟩ h
  · simpa using this
  · rintro s Q op s1 o ⟨hpos, hP⟩ h1
    obtain ⟨hpos1, ⟨o1, rfl, hg⟩ | ⟨rfl, hq⟩⟩ := XState.step_cases hpos h1
    · refine ⟨hpos1, ?_⟩
      cases o1 with
      | some c => simpa using answer s _ s1 c _ _ hP hg
      | none =>
        cases hg with
        | nothing => simpa using frame s _ _ hP (.advance imm s _)
    · exact ⟨hpos1, by simpa using frame s _ _ hP hq⟩

theorem xrun_excl_nodup {ops : List ROp} {s s' : XState} {outs : List (Option Config)}
    (h : XState.run imm dc di s ops = .ok (s', outs)) (hpos : s.pos = []) :
    s.base.excl.Nodup → s'.base.excl.Nodup :=
  (XState.run_induction (R := []) (P := fun t _ => s.base.excl.Nodup → t.base.excl.Nodup)
    (fun _ _ _ hP ⟨_, _, _, e, hex, _⟩ hn => e ▸ hex.nodup (hP hn))
    (fun _ _ _ _ _ _ hP hg hn => hg.grown.nodup (hP hn))
    h hpos id).2

/-- from position `k` on, every configuration differs in its match string from all before it -/
def FreshFrom (mk : MK) (k : Nat) (L : List Config) : Prop :=
  ∀ (j : Nat) (c : Config), k ≤ j → L[j]? = some c →
    ∀ (i : Nat) (c' : Config), i < j → L[i]? = some c' → mk c' ≠ mk c

theorem FreshFrom.nil (mk : MK) (k : Nat) : FreshFrom mk k [] := fun _ _ _ h => by simp at h

theorem FreshFrom.snoc {mk : MK} {k : Nat} {L : List Config} {c : Config} (h : FreshFrom mk k L)
    (hc : k ≤ L.length → ∀ c' ∈ L, mk c' ≠ mk c) : FreshFrom mk k (L ++ [c]) := by
  intro j d hj hd i d' hij hd'
  rcases Nat.lt_or_ge j L.length with hlt | hge
  · rw [List.getElem?_append_left hlt] at hd
    rw [List.getElem?_append_left (Nat.lt_trans hij hlt)] at hd'
    exact h j d hj hd i d' hij hd'
  · have hjl := (List.getElem?_eq_some_iff.1 hd).1
    rw [List.length_append, List.length_singleton] at hjl
    obtain rfl : j = L.length := Nat.le_antisymm (Nat.le_of_lt_succ hjl) hge
    rw [List.getElem?_append_left hij] at hd'
    rw [List.getElem?_concat_length] at hd
    exact Option.some.inj hd ▸ hc hj d' (List.mem_of_getElem? hd')

/-- `R` are the configurations returned so far: their match strings are excluded, they and
the initial configurations still to come are pairwise different, and from position `k` on
each has a fresh match string.  `k` is the number of initial configurations at the start:
they may share match strings, so freshness is claimed only behind them, and `early` keeps
`fresh` vacuous for as long as they are served. -/
structure NoRepeat (imm : RImm) (k : Nat) (s : XState) (R : List Config) : Prop where
  tracked : Tracked imm.mkf s.base.excl R
  nodup : (R ++ s.base.p2e).Nodup
  fresh : FreshFrom imm.mkf k R
  early : s.base.p2e ≠ [] → R.length + s.base.p2e.length ≤ k

theorem xrun_norepeat (hnd : imm.allowDup = false) {k : Nat} {ops : List ROp} {s s' : XState}
    {R : List Config} {outs : List (Option Config)} (h : XState.run imm dc di s ops = .ok (s', outs))
    (hpos : s.pos = []) (hP : NoRepeat imm k s R) : NoRepeat imm k s' (R ++ outs.filterMap id) := by
  refine (XState.run_induction (P := NoRepeat imm k) ?_ ?_ h hpos hP).2
  · rintro s _ R hP ⟨ex, cf, rng, rfl, hex, -⟩
    exact ⟨hP.tracked.mono fun _ => hex.subset, hP.nodup, hP.fresh, hP.early⟩
  · rintro s R s1 c dc di ⟨ht, hn, hf, he⟩ hg
    cases hg with
    | @initial _ rest ex hp hex =>
      obtain ⟨m, hm, rfl⟩ := hex.of_noDup hnd
      rw [hp] at hn he
      have hlen : R.length + (rest.length + 1) ≤ k := he (List.cons_ne_nil _ _)
      exact ⟨ht.snoc hm, by simpa using hn, hf.snoc fun hk => absurd hk (by omega),
        fun _ => by simp only [List.length_append, List.length_singleton]; omega⟩
    | drawn hp _ _ hm hne _ hex =>
      obtain ⟨m', hm', rfl⟩ := hex.of_noDup hnd
      obtain rfl : m' = _ := Except.ok.inj (hm'.symm.trans hm)
      have hfr := ht.fresh hm hne
      rw [hp, List.append_nil] at hn
      refine ⟨ht.snoc hm, ?_, hf.snoc fun _ => hfr, fun h => (h hp).elim⟩
      rw [show _ ++ s.base.p2e = _ from hp ▸ List.append_nil _]
      exact List.nodup_append.2 ⟨hn, List.pairwise_singleton _ _, fun a ha b hb e =>
        hfr a ha (by rw [e, List.mem_singleton.1 hb])⟩

theorem xrun_norepeat_start (hnd : imm.allowDup = false) {ops : List ROp} {s s' : XState}
    {outs : List (Option Config)} (h : XState.run imm dc di s ops = .ok (s', outs)) (hpos : s.pos = [])
    (hn : s.base.p2e.Nodup) :
    (outs.filterMap id).Nodup ∧ Tracked imm.mkf s'.base.excl (outs.filterMap id) ∧
      FreshFrom imm.mkf s.base.p2e.length (outs.filterMap id) := by
  have := xrun_norepeat hnd (k := s.base.p2e.length) (R := []) h hpos
    ⟨List.forall_mem_nil _, hn, .nil _ _, fun _ => Nat.le_of_eq (Nat.zero_add _)⟩
  rw [List.nil_append] at this
  exact ⟨(List.nodup_append.1 this.nodup).1, this.tracked, this.fresh⟩

/-- the searcher's list only shrinks, and not at all if duplicates are allowed;
`_rc_returned_pos` is empty between calls -/
theorem xrun_list {ops : List ROp} {s s' : XState} {l : List Config} {outs : List (Option Config)}
    (h : XState.run imm dc di s ops = .ok (s', outs)) (hpos : s.pos = []) (hrc : s.rc = some l) :
    s'.pos = [] ∧ ∃ l', s'.rc = some l' ∧ l'.Sublist l ∧ (imm.allowDup = true → l' = l) := by
  refine XState.run_induction (R := [])
    (P := fun s _ => ∃ l', s.rc = some l' ∧ l'.Sublist l ∧ (imm.allowDup = true → l' = l)) ?_ ?_ h hpos
    ⟨l, hrc, List.Sublist.refl l, fun _ => rfl⟩
  · rintro s _ R hP ⟨ex, cf, rng, rfl, -⟩
    exact hP
  · rintro s R s1 c dc di ⟨l', hl', hsub, hd⟩ hg
    cases hg with
    | initial => exact ⟨l', hl', hsub, hd⟩
    | @drawn _ _ n =>
      cases hd' : imm.allowDup with
      | true => exact ⟨l', by simp [hl'], hsub, fun _ => hd hd'⟩
      | false =>
        exact ⟨l'.eraseIdx (di n), by simp [hl'], (List.eraseIdx_sublist l' _).trans hsub, fun h => by simp at h⟩

theorem xrun_accounting (hnd : imm.allowDup = false) {ops : List ROp} {s s' : XState} {l : List Config}
    {outs : List (Option Config)} (h : XState.run imm dc di s ops = .ok (s', outs)) (hrc : s.rc = some l)
    (hpos : s.pos = []) (hp : s.base.p2e = []) :
    ∃ l', s'.rc = some l' ∧ (outs.filterMap id ++ l').Perm l := by
  have := (XState.run_induction (R := [])
    (P := fun s R => s.base.p2e = [] ∧ ∃ l', s.rc = some l' ∧ (R ++ l').Perm l) ?_ ?_ h hpos
    ⟨hp, l, hrc, .refl _⟩).2
  · simpa using this.2
  · rintro s _ R hP ⟨ex, cf, rng, rfl, -⟩
    exact hP
  · rintro s R s1 c dc di ⟨hp, l', hl', hperm⟩ hg
    cases hg with
    | initial hp' => rw [hp] at hp'; cases hp'
    | @drawn _ _ n _ _ _ hc =>
      refine ⟨hp, l'.eraseIdx (di n), by simp [hnd, hl'], ?_⟩
      rw [XState.cand_some hl'] at hc
      rw [List.append_assoc]
      exact (List.Perm.append_left R (perm_cons_eraseIdx hc)).trans hperm

/-- where a drawn configuration comes from: the sampler's tape, or the list -/
def XState.Origin (s : XState) (dc : Nat → Config) (c : Config) : Prop :=
  match s.rc with
  | none => ∃ j, c = dc j
  | some l => c ∈ l

theorem XState.Origin.of_cand {s : XState} {k n : Nat} {c : Config} :
    s.cand (fun i => dc (k + i)) di n = some c → s.Origin dc c := by
  unfold XState.cand XState.Origin
  cases s.rc with
  | none => exact fun h => ⟨_, (Option.some.inj h).symm⟩
  | some l => exact List.mem_of_getElem?

/-- the list only loses entries: what can be drawn after a `get_config` could be drawn before -/
theorem XState.Got.origin {dc' : Nat → Config} {s s' : XState} {o : Option Config}
    (h : XState.Got imm dc' di s s' o) {c : Config} : s'.Origin dc c → s.Origin dc c := by
  cases h with
  | initial => exact id
  | nothing => exact id
  | drawn =>
    unfold XState.Origin
    cases s.rc with
    | none => cases imm.allowDup <;> exact id
    | some l =>
      cases imm.allowDup with
      | true => exact id
      | false => exact fun h => (List.eraseIdx_sublist l _).subset h

theorem xrun_served {ops : List ROp} {s s' : XState} {outs : List (Option Config)}
    (h : XState.run imm dc di s ops = .ok (s', outs)) (hpos : s.pos = []) :
    Served s.base.p2e (fun c => s.Origin dc c ∧ ¬ Excluded imm.mkf s.base.excl c) outs := by
  rw [XState.run_eq] at h
  refine foldRun_forward (I := fun s => s.pos = [])
    (Q := fun s _ outs => Served s.base.p2e (fun c => s.Origin dc c ∧ ¬ Excluded imm.mkf s.base.excl c) outs)
    (fun s op s1 o hpos h1 => (XState.step_cases hpos h1).1) (fun _ _ => .nil) ?_ ops s s' outs hpos h
  intro s op _ s1 o os hpos h1 hQ
  obtain ⟨-, ⟨o1, rfl, hg⟩ | ⟨rfl, ex, cf, rng, rfl, hex, -⟩⟩ := XState.step_cases hpos h1
  · -- a later answer is drawn from the state after this call, whose list is part of the present one
    have hQ := hQ.imp (B := fun c => s.Origin dc c ∧ ¬ Excluded imm.mkf s.base.excl c) fun _ hA =>
      ⟨hg.origin hA.1, fun he => hA.2 (he.mono fun _ => hg.grown.subset)⟩
    cases hg with
    | initial hp => exact hQ.cons hp
    | nothing hp => exact hQ.extra hp hp nofun
    | drawn hp _ hc hm fresh =>
      exact hQ.extra hp hp fun _ e => Option.some.inj e ▸
        ⟨.of_cand hc, fun ⟨m', hm', hin⟩ => fresh (Except.ok.inj (hm.symm.trans hm') ▸ hin)⟩
  · exact hQ.imp fun _ hA => ⟨hA.1, fun he => hA.2 (he.mono fun _ => hex.subset)⟩

/-- a match string that is excluded stays excluded and is not the match string of any later
drawn configuration -/
theorem xrun_excluded_never_drawn {m : String} {ops : List ROp} {s s' : XState}
    {outs : List (Option Config)} (h : XState.run imm dc di s ops = .ok (s', outs)) (hpos : s.pos = [])
    (hp : s.base.p2e = []) (hm : m ∈ s.base.excl) :
    m ∈ s'.base.excl ∧ ∀ c ∈ outs.filterMap id, imm.mkf c ≠ .ok m := by
  refine ⟨(XState.run_induction (R := []) (P := fun t _ => m ∈ t.base.excl)
    (fun _ _ _ hP ⟨_, _, _, e, hex, _⟩ => e ▸ hex.subset hP) (fun _ _ _ _ _ _ hP hg => hg.grown.subset hP)
    h hpos hm).2, fun c hc e => ?_⟩
  rcases (xrun_served h hpos).mem (by simpa using hc) with hin | ⟨-, hne⟩
  · rw [hp] at hin; cases hin
  · exact hne ⟨m, e, hm⟩

/-- the invariant that holds when the caller's list has pairwise different match strings
and duplicates are not allowed: no remaining entry is excluded, none has the match string
of an initial configuration still to come, and the remaining entries have pairwise
different match strings -/
structure XState.Clean (imm : RImm) (s : XState) (l : List Config) : Prop where
  rc : s.rc = some l
  pos : s.pos = []
  fresh : ∀ r ∈ l, ∃ m, imm.mkf r = .ok m ∧ m ∉ s.base.excl
  apart : ∀ c ∈ s.base.p2e, ∀ r ∈ l, imm.mkf r ≠ imm.mkf c
  distinct : l.Pairwise (fun a b => imm.mkf a ≠ imm.mkf b)

/-- no draw on a clean state meets an excluded entry: there is none -/
theorem XState.Clean.not_hit {s : XState} {l : List Config} (hc : XState.Clean imm s l) (i : Nat) :
    ¬ s.Hit imm dc di i := by
  rintro ⟨c, h1, m, hm, hin⟩
  rw [XState.cand_some hc.rc] at h1
  obtain ⟨m', hm', hne⟩ := hc.fresh c (List.mem_of_getElem? h1)
  exact hne (Except.ok.inj (hm'.symm.trans hm) ▸ hin)

/-- one `get_config` of a clean state: `None` exactly when no initial configuration and no
list entry is left; otherwise a configuration after at most one draw; the state stays clean -/
theorem xget_clean (hnd : imm.allowDup = false) (hmr : 0 < imm.maxRetries) {s s' : XState}
    {l : List Config} {o : Option Config} (hc : XState.Clean imm s l) (hg : XState.Got imm dc di s s' o) :
    (o = none ↔ s.base.p2e = [] ∧ l = []) ∧ s'.base.rng ≤ s.base.rng + 1 ∧ ∃ l', XState.Clean imm s' l' := by
  cases hg with
  | @initial c rest ex hp hex =>
    obtain ⟨m0, hm0, rfl⟩ := hex.of_noDup hnd
    refine ⟨⟨nofun, fun h => by simp [hp] at h⟩, Nat.le_succ _, l,
      { rc := hc.rc, pos := hc.pos, distinct := hc.distinct
        apart := fun c' hc' => hc.apart c' (hp ▸ List.mem_cons_of_mem _ hc')
        fresh := fun r hr => ?_ }⟩
    obtain ⟨m, hm, hne⟩ := hc.fresh r hr
    refine ⟨m, hm, fun hin => ?_⟩
    rcases mem_exclAdd.1 hin with rfl | hin
    · exact hc.apart c (hp ▸ List.mem_cons_self) r hr (hm.trans hm0.symm)
    · exact hne hin
  | @nothing n hp why =>
    obtain ⟨rfl, hl⟩ : n = 0 ∧ l = [] := by
      rcases why with ⟨rfl, h | h⟩ | ⟨rfl, -, h⟩
      · exact ⟨rfl, by simpa [hc.rc] using h⟩
      · simp [hc.rc] at h
      · exact (hc.not_hit 0 (h 0 hmr)).elim
    exact ⟨⟨fun _ => ⟨hp, hl⟩, fun _ => rfl⟩, Nat.le_succ _, l, hc⟩
  | @drawn c m n ex hp hn hcd hm hne hb hex =>
    obtain ⟨m', hm', rfl⟩ := hex.of_noDup hnd
    obtain rfl : m' = m := Except.ok.inj (hm'.symm.trans hm)
    obtain rfl : n = 0 := Nat.eq_zero_of_not_pos fun h => hc.not_hit 0 (hb 0 h)
    rw [XState.cand_some hc.rc] at hcd
    refine ⟨⟨nofun, fun h => by simp [h.2] at hcd⟩, Nat.le_refl _, l.eraseIdx (di 0),
      { rc := by simp [hnd, hc.rc], pos := rfl, distinct := hc.distinct.sublist (List.eraseIdx_sublist l _)
        apart := fun c' hc' => absurd (show c' ∈ s.base.p2e from hc') (by simp [hp])
        fresh := fun r hr => ?_ }⟩
    obtain ⟨mr, hmr', hner⟩ := hc.fresh r ((List.eraseIdx_sublist l _).subset hr)
    refine ⟨mr, hmr', fun hin => ?_⟩
    rcases mem_exclAdd.1 hin with rfl | hin
    · exact (List.pairwise_cons.1 (((perm_cons_eraseIdx hcd).pairwise_iff fun h e => h e.symm).2 hc.distinct)).1 r hr
        (hm.trans hmr'.symm)
    · exact hner hin

theorem xrun_clean (hnd : imm.allowDup = false) (hmr : 0 < imm.maxRetries) {ops : List ROp} {s s' : XState}
    {l : List Config} {outs : List (Option Config)} (h : XState.run imm dc di s ops = .ok (s', outs))
    (hc : XState.Clean imm s l) : ∃ l', XState.Clean imm s' l' := by
  refine (XState.run_induction (R := []) (P := fun s _ => ∃ l, XState.Clean imm s l) ?_ ?_ h hc.pos ⟨l, hc⟩).2
  · rintro s _ R ⟨l, hc⟩ ⟨ex, cf, rng, rfl, -, hex⟩
    obtain rfl := hex hnd
    exact ⟨l, hc.rc, hc.pos, hc.fresh, hc.apart, hc.distinct⟩
  · rintro s R s1 c dc di ⟨l, hc⟩ hg
    exact (xget_clean hnd hmr hc hg).2.2

theorem construct_clean (hnd : imm.allowDup = false) {init l : List Config} {w : World}
    (h : construct imm init (some l) = .ok w) {mss : List String} (hm : mapMk imm.mkf l = .ok mss)
    (hn : mss.Nodup) : ∃ rc, XState.Clean imm w.s rc := by
  obtain ⟨mss', rc, hm', rfl, -, hsub, -, hap⟩ := construct_spec h
  obtain rfl : mss = mss' := Except.ok.inj (hm.symm.trans hm')
  have hpw : l.Pairwise fun a b => imm.mkf a ≠ imm.mkf b :=
    List.pairwise_map.1 (mapMk_map hm ▸ List.pairwise_map.2 (hn.imp fun h e => h (Except.ok.inj e)))
  refine ⟨rc, rfl, rfl, fun r hr => ?_, hap hnd hn, hpw.sublist hsub⟩
  obtain ⟨m, -, a⟩ := List.mem_map.1 (mapMk_map hm ▸ List.mem_map_of_mem (f := imm.mkf) (hsub.subset hr))
  exact ⟨m, a.symm, by simp [RState.init]⟩

theorem World.step_ok {w : World} {op : ROp} {wo : World × Option (Option Config)}
    (h : w.step imm dc di op = .ok wo) :
    XState.step imm dc di w.s op = .ok (wo.1.s, wo.2) ∧ wo.1.shared = w.shared ∧
      (w.shared = false → wo.1.caller = w.caller) := by
  unfold World.step at h
  split at h
  · cases h
  · obtain rfl := Except.ok.inj h
    exact ⟨‹_›, rfl, fun hs => if_neg (hs ▸ Bool.false_ne_true)⟩

/-- a world whose searcher does not hold the caller's list object never changes it; the
searcher and its outputs are those of `XState.run` -/
theorem wrun_unshared {ops : List ROp} {w : World} : ∀ {w' : World} {outs : List (Option Config)}
    {cl : List (List Config)}, World.run imm dc di w ops = .ok (w', outs, cl) → w.shared = false →
    w'.caller = w.caller ∧ (∀ x ∈ cl, x = w.caller) ∧ cl.length = ops.length ∧
    XState.run imm dc di w.s ops = .ok (w'.s, outs) := by
  fun_induction World.run imm dc di w ops with
  | case1 w =>
    intro _ _ _ h hs
    obtain ⟨rfl, h'⟩ := Prod.mk.inj (Except.ok.inj h)
    obtain ⟨rfl, rfl⟩ := Prod.mk.inj h'
    exact ⟨rfl, nofun, rfl, rfl⟩
  | case4 w op ops wo h1 r h2 ih =>
    intro _ _ _ h hs
    obtain ⟨rfl, h'⟩ := Prod.mk.inj (Except.ok.inj h)
    obtain ⟨rfl, rfl⟩ := Prod.mk.inj h'
    obtain ⟨hx, hsh, hc⟩ := World.step_ok h1
    obtain ⟨a, c, d, e⟩ := ih h2 (hsh.trans hs)
    exact ⟨a.trans (hc hs), fun x hx => (List.mem_cons.1 hx).elim (· ▸ hc hs) fun hx => (c x hx).trans (hc hs),
      congrArg (· + 1) d, by simp only [XState.run, hx, e]⟩
  | _ => exact fun h => nomatch h

/-- a searcher constructed without `restrict_configurations` -/
def XState.ofBase (b : RState) : XState := { base := b, rc := none, pos := [] }

def liftBase {β} (r : Except Err (RState × β)) : Except Err (XState × β) :=
  match r with
  | .ok bo => .ok (XState.ofBase bo.1, bo.2)
  | .error e => .error e

theorem xfinish_unrestricted (imm : RImm) (b : RState) (r : Option Config) :
    XState.finish imm (XState.ofBase b) r = liftBase (RState.finish imm b r) := by
  unfold XState.finish RState.finish
  cases r with
  | none => rfl
  | some c =>
    simp only [XState.ofBase]
    split
    · rfl
    · cases exclAddConfig imm.mkf b.excl c <;> rfl

theorem xgetConfig_unrestricted (imm : RImm) (b : RState) (dc : Nat → Config) (di : Nat → Nat) :
    (XState.ofBase b).getConfig imm dc di = liftBase (b.getConfig imm dc) := by
  obtain ⟨p2e, excl, cf, rng⟩ := b
  unfold XState.getConfig RState.getConfig
  cases p2e with
  | cons c rest => exact xfinish_unrestricted imm ⟨rest, excl, cf, rng⟩ (some c)
  | nil =>
    simp only [XState.ofBase, XState.drawConfig, XState.drawUnrestricted]
    cases RState.randomConfig imm ⟨[], excl, cf, rng⟩ dc with
    | error e => rfl
    | ok rn => exact xfinish_unrestricted imm ⟨[], excl, cf, rng + rn.2⟩ rn.1

theorem xstep_unrestricted (imm : RImm) (dc : Nat → Config) (di : Nat → Nat) (b : RState) (op : ROp) :
    XState.step imm dc di (XState.ofBase b) op = liftBase (RState.step imm dc b op) := by
  cases op with
  | get =>
    simp only [XState.step, RState.step]
    rw [show (XState.ofBase b).base.rng = b.rng from rfl, xgetConfig_unrestricted]
    cases b.getConfig imm fun i => dc (b.rng + i) <;> rfl
  | pending tid c => rfl
  | failed tid =>
    simp only [XState.step, RState.step, XState.evaluationFailed, XState.ofBase]
    cases b.evaluationFailed imm tid <;> rfl
  | result tid => rfl

/-- **the restricted model extends the unrestricted one**: without a list, every history
gives the outputs (and errors) of `RState.run` -/
theorem xrun_unrestricted (imm : RImm) (dc : Nat → Config) (di : Nat → Nat) :
    ∀ (ops : List ROp) (b : RState),
      XState.run imm dc di (XState.ofBase b) ops = liftBase (RState.run imm dc b ops)
  | [], _ => rfl
  | op :: ops, b => by
    simp only [XState.run, RState.run, xstep_unrestricted]
    cases RState.step imm dc b op with
    | error e => rfl
    | ok r =>
      simp only [liftBase, xrun_unrestricted imm dc di ops r.1]
      cases RState.run imm dc r.1 ops <;> rfl

/-- so every statement about histories of the model with a list, read without a list, is a
statement about the unrestricted model -/
theorem xrun_of_run {ops : List ROp} {b b' : RState} {outs : List (Option Config)}
    (h : RState.run imm dc b ops = .ok (b', outs)) (di : Nat → Nat) :
    XState.run imm dc di (XState.ofBase b) ops = .ok (XState.ofBase b', outs) := by
  rw [xrun_unrestricted, h]; rfl

theorem XState.getConfig_none {s s' : XState} (hpos : s.pos = []) (h : s.getConfig imm dc di = .ok (s', none)) :
    s.base.p2e = [] ∧ ∃ n, s' = s.advance n ∧
      (n = 0 ∧ (s.rc = some [] ∨ s.rc = none ∧ exhausted imm.size s.base.excl = true) ∨
        n = imm.maxRetries ∧ s.rc ≠ some [] ∧ ∀ i, i < n → s.Hit imm dc di i) := by
  cases XState.getConfig_got hpos h with
  | nothing hp why => exact ⟨hp, _, rfl, why⟩

theorem RState.getConfig_none {b b' : RState} (h : b.getConfig imm dc = .ok (b', none)) :
    b.p2e = [] ∧ (∃ n, b' = { b with rng := b.rng + n }) ∧
      (exhausted imm.size b.excl = true ∨ ∀ i, i < imm.maxRetries → Excluded imm.mkf b.excl (dc i)) := by
  obtain ⟨hp, n, hs', why⟩ := XState.getConfig_none (di := id) (s' := .ofBase b') rfl
    (by rw [xgetConfig_unrestricted, h]; rfl)
  refine ⟨hp, ⟨n, congrArg XState.base hs'⟩, ?_⟩
  rcases why with ⟨-, hw | hw⟩ | ⟨rfl, -, hall⟩
  · cases hw
  · exact Or.inl hw.2
  · exact Or.inr fun i hi => let ⟨c, h1, h2⟩ := hall i hi; Option.some.inj h1 ▸ h2

end SyneTune.Srch
