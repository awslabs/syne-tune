import SyneTune.Lemmas.DomainsCat
/- The nearest-neighbour ordinal domain (`OrdinalNearestNeighbor`) and its
encoder (`HyperparameterRangeOrdinalNearestNeighbor`). -/
namespace SyneTune.Dom
open SyneTune

/-- the index `cast_int` picks -/
def nnIdx (env : Env) (d : NNDom) (w : ℚ) : ℕ :=
  if 1 < d.cats.length then argminFirst ((d.catsInt env).map (fun y => absRat (y - w))) else 0

theorem nn_castInt_eq (env : Env) (d : NNDom) (w : ℚ) :
    d.castInt env w = match d.cats[nnIdx env d w]? with
      | some v => .ok v
      | none => .error .assertion := rfl

theorem nn_castInt_of_idx {env : Env} {d : NNDom} {w : ℚ} {v : Val}
    (h : d.cats[nnIdx env d w]? = some v) : d.castInt env w = .ok v := by
  rw [nn_castInt_eq, h]

theorem nn_catsInt_length (env : Env) (d : NNDom) : (d.catsInt env).length = d.cats.length := by
  unfold NNDom.catsInt NNDom.nums
  split_ifs <;> simp

theorem nnIdx_lt (env : Env) (d : NNDom) (h : d.cats ≠ []) (w : ℚ) : nnIdx env d w < d.cats.length := by
  have hpos : 0 < d.cats.length := List.length_pos_iff.mpr h
  unfold nnIdx
  split_ifs with h1
  · have hne : (d.catsInt env).map (fun y => absRat (y - w)) ≠ [] := by
      rw [Ne, List.map_eq_nil_iff, ← List.length_eq_zero_iff, nn_catsInt_length]
      exact hpos.ne'
    have := argminFirst_lt _ hne
    simpa [nn_catsInt_length] using this
  · exact hpos

theorem nn_castInt_member (env : Env) (d : NNDom) (h : d.cats ≠ []) (w : ℚ) :
    ∃ v, d.castInt env w = .ok v ∧ v ∈ d.cats := by
  have hi := nnIdx_lt env d h w
  exact ⟨_, nn_castInt_of_idx (List.getElem?_eq_getElem hi), List.getElem_mem hi⟩

theorem nn_sample_member (env : Env) (d : NNDom) (h : 1 < d.cats.length) (u : ℚ) :
    ∃ v, d.sample env (.unit u) = .ok v ∧ v ∈ d.cats := by
  have hne : d.cats ≠ [] := by intro hh; rw [hh] at h; simp at h
  simp only [NNDom.sample, NNDom.lowerInt, NNDom.upperInt, h, if_true]
  exact nn_castInt_member env d hne _

theorem nn_sample_single (env : Env) (d : NNDom) (h : d.cats.length = 1) (u : ℚ) :
    d.sample env (.unit u) = .error .typeError := by
  simp [NNDom.sample, NNDom.lowerInt, NNDom.upperInt, h]

theorem increasing_pairwise : ∀ (xs : List ℚ), increasing xs = true → xs.Pairwise (· < ·)
  | [], _ => List.Pairwise.nil
  | [a], _ => List.pairwise_singleton _ _
  | a :: b :: rest, h => by
    simp only [increasing, Bool.and_eq_true, decide_eq_true_eq] at h
    have ih := increasing_pairwise (b :: rest) h.2
    refine List.pairwise_cons.mpr ⟨?_, ih⟩
    intro y hy
    rcases List.mem_cons.mp hy with rfl | hy
    · exact h.1
    · exact lt_trans h.1 ((List.pairwise_cons.mp ih).1 y hy)

/-- what `OrdinalNearestNeighbor._initialize` asserts -/
theorem nn_ok {d : NNDom} (hok : d.ok = true) :
    catsOk d.cats = true ∧ (vtypeOf d.cats = .int ∨ vtypeOf d.cats = .flt) ∧
    increasing d.nums = true ∧ (d.log = true → 0 < d.nums.headD 0) := by
  unfold NNDom.ok at hok
  simp only [Bool.and_eq_true, Bool.or_eq_true, beq_iff_eq, Bool.not_eq_true', decide_eq_true_eq] at hok
  obtain ⟨⟨⟨hc, ht⟩, hinc⟩, hlog⟩ := hok
  refine ⟨hc, ht, hinc, ?_⟩
  intro hl
  rcases hlog with h | h
  · rw [hl] at h; cases h
  · exact h

theorem nn_catsOk {d : NNDom} (hok : d.ok = true) : catsOk d.cats = true := (nn_ok hok).1

theorem nn_num_some {d : NNDom} (hok : d.ok = true) {v : Val} (hv : v ∈ d.cats) :
    ∃ x, v.num? = some x := by
  obtain ⟨hc, ht, _, _⟩ := nn_ok hok
  have hvt := vtypeOf_mem hc hv
  cases v with
  | int i => exact ⟨_, rfl⟩
  | flt r => exact ⟨_, rfl⟩
  | str s =>
    rw [← hvt] at ht
    rcases ht with h | h <;> cases h

/-- hypothesis on the abstract `log`: strictly monotone on the positive numbers (only used when
`log = true`) -/
def LogMono (env : Env) (log : Bool) : Prop :=
  log = true → ∀ a b : ℚ, 0 < a → a < b → env.log.toInt a < env.log.toInt b

theorem nn_catsInt_pairwise {env : Env} {d : NNDom} (hok : d.ok = true) (hmono : LogMono env d.log) :
    (d.catsInt env).Pairwise (· < ·) := by
  obtain ⟨_, _, hinc, hlog⟩ := nn_ok hok
  have hp := increasing_pairwise _ hinc
  unfold NNDom.catsInt
  split_ifs with hl
  · have hm := hmono hl
    have hh := hlog hl
    have hpos : ∀ x ∈ d.nums, 0 < x := by
      cases hn : d.nums with
      | nil => simp
      | cons a rest =>
        rw [hn] at hp hh
        simp only [List.headD_cons] at hh
        intro x hx
        rcases List.mem_cons.mp hx with rfl | hx
        · exact hh
        · exact lt_trans hh ((List.pairwise_cons.mp hp).1 x hx)
    rw [List.pairwise_map]
    exact hp.imp_of_mem (fun ha _ hab => hm _ _ (hpos _ ha) hab)
  · exact hp

theorem nn_catsInt_getElem? (env : Env) (d : NNDom) (k : ℕ) :
    (d.catsInt env)[k]? = (d.cats[k]?).map (fun v => d.toInternal env (v.num?.getD 0)) := by
  unfold NNDom.catsInt NNDom.nums NNDom.toInternal
  split_ifs <;> simp [List.getElem?_map, Function.comp_def]

theorem _root_.List.Pairwise.getElem_mono {ci : List ℚ} (hp : ci.Pairwise (· < ·)) {i j : ℕ} (hij : i ≤ j)
    (hj : j < ci.length) : ci[i] ≤ ci[j] :=
  (Nat.lt_or_eq_of_le hij).elim (fun h => (List.pairwise_iff_getElem.mp hp i j _ hj h).le)
    (fun h => by subst h; exact le_rfl)

theorem _root_.List.Pairwise.headD_le_getLastD {ci : List ℚ} (hp : ci.Pairwise (· < ·)) {t : ℚ} (ht : t ∈ ci) :
    ci.headD 0 ≤ t ∧ t ≤ ci.getLastD 0 := by
  obtain ⟨i, hi, rfl⟩ := List.getElem_of_mem ht
  rw [List.headD_eq_head?_getD, List.head?_eq_getElem?, List.getLastD_eq_getLast?,
    List.getLast?_eq_getElem?, List.getElem?_eq_getElem (by omega),
    List.getElem?_eq_getElem (by omega)]
  exact ⟨hp.getElem_mono (Nat.zero_le i) hi, hp.getElem_mono (by omega) (by omega)⟩

theorem nearer_right {p q y w : ℚ} (hpq : p < q) (hy : y ≤ p) (hw : (q + p) / 2 < w) :
    |q - w| < |y - w| :=
  lt_of_lt_of_le (abs_lt.mpr ⟨by linarith only [hpq, hw], by linarith only [hw]⟩)
    ((by linarith only [hy] : w - p ≤ -(y - w)).trans (neg_le_abs _))

theorem nearer_left {p q y w : ℚ} (hpq : p < q) (hy : q ≤ y) (hw : w < (p + q) / 2) :
    |p - w| < |y - w| :=
  lt_of_lt_of_le (abs_lt.mpr ⟨by linarith only [hw], by linarith only [hpq, hw]⟩)
    ((by linarith only [hy] : q - w ≤ y - w).trans (le_abs_self _))

/-- In a strictly increasing list, if `w` is beyond the midpoint between the entries `fp-1`, `fp`
and before the midpoint between the entries `last`, `last+1`, the nearest entry has its index in
`[fp, last]`: `fp` beats everything before it, `last` everything after it. -/
theorem argmin_window {ci : List ℚ} (hp : ci.Pairwise (· < ·)) (w : ℚ) {fp last : ℕ}
    (hlast : last < ci.length) (hfl : fp ≤ last)
    (hL : ∀ (_ : 0 < fp), (ci[fp]'(by omega) + ci[fp - 1]'(by omega)) / 2 < w)
    (hU : ∀ (h1 : last + 1 < ci.length), w < (ci[last] + ci[last + 1]) / 2) :
    fp ≤ argminFirst (ci.map (fun y => absRat (y - w))) ∧
    argminFirst (ci.map (fun y => absRat (y - w))) ≤ last := by
  have hne : ci.map (fun y => absRat (y - w)) ≠ [] := by
    rw [Ne, List.map_eq_nil_iff]; exact List.ne_nil_of_length_pos (Nat.zero_lt_of_lt hlast)
  obtain ⟨m, hm, hmin, -⟩ := argminFirst_spec _ hne
  generalize argminFirst (ci.map (fun y => absRat (y - w))) = a at *
  obtain ⟨halt, hma⟩ := List.getElem?_eq_some_iff.mp hm
  rw [List.length_map] at halt
  rw [List.getElem_map, absRat_eq_abs] at hma
  have hle : ∀ (i : ℕ) (hi : i < ci.length), m ≤ |ci[i] - w| := fun i hi =>
    hmin _ (List.mem_map.mpr ⟨ci[i], List.getElem_mem hi, absRat_eq_abs _⟩)
  have hinc := List.pairwise_iff_getElem.mp hp
  constructor
  · by_contra hlt
    have hf1 : fp - 1 < ci.length := by omega
    have hfp : fp < ci.length := by omega
    have := nearer_right (hinc (fp - 1) fp hf1 hfp (by omega)) (hp.getElem_mono (i := a) (by omega) hf1)
      (hL (by omega))
    rw [hma] at this
    exact absurd (hle fp hfp) (not_le.mpr this)
  · by_contra hgt
    have hl1 : last + 1 < ci.length := by omega
    have := nearer_left (hinc last (last + 1) hlast hl1 (by omega)) (hp.getElem_mono (i := last + 1) (by omega) halt)
      (hU hl1)
    rw [hma] at this
    exact absurd (hle last hlast) (not_le.mpr this)

theorem nnIdx_exact {env : Env} {d : NNDom} (hok : d.ok = true) (hmono : LogMono env d.log)
    {k : ℕ} {t : ℚ} (hk : (d.catsInt env)[k]? = some t) : nnIdx env d t = k := by
  have hp := nn_catsInt_pairwise hok hmono
  have hinc := List.pairwise_iff_getElem.mp hp
  obtain ⟨hklt, rfl⟩ := List.getElem?_eq_some_iff.mp hk
  unfold nnIdx
  split_ifs with h1
  · -- a listed value lies strictly between the midpoints to its two neighbours
    obtain ⟨w1, w2⟩ := argmin_window hp (d.catsInt env)[k] hklt le_rfl
      (fun h0 => by linarith only [hinc (k - 1) k (by omega) hklt (by omega)])
      (fun h1 => by linarith only [hinc k (k + 1) hklt h1 (by omega)])
    exact le_antisymm w2 w1
  · rw [nn_catsInt_length] at hklt; omega

theorem nn_castInt_exact {env : Env} {d : NNDom} (hok : d.ok = true) (hmono : LogMono env d.log)
    {k : ℕ} {v : Val} (hk : d.cats[k]? = some v) :
    d.castInt env (d.toInternal env (v.num?.getD 0)) = .ok v := by
  have hci : (d.catsInt env)[k]? = some (d.toInternal env (v.num?.getD 0)) := by
    rw [nn_catsInt_getElem?, hk]; rfl
  apply nn_castInt_of_idx
  rw [nnIdx_exact hok hmono hci, hk]

theorem nn_cast_self {env : Env} {d : NNDom} (hok : d.ok = true) (hmono : LogMono env d.log)
    {v : Val} (hv : v ∈ d.cats) : d.cast env v = .ok v := by
  obtain ⟨x, hx⟩ := nn_num_some hok hv
  obtain ⟨k, hk⟩ := List.mem_iff_getElem?.mp hv
  have := nn_castInt_exact (env := env) hok hmono hk
  rw [hx] at this
  simp only [NNDom.cast, hx]
  exact this

theorem diffs_sum_nonneg : ∀ (xs : List ℚ), xs.Pairwise (· < ·) → 0 ≤ (diffs xs).sum
  | [], _ => by simp [diffs]
  | [a], _ => by simp [diffs]
  | a :: b :: rest, h => by
    have h1 : a < b := (List.pairwise_cons.mp h).1 b (by simp)
    have ih := diffs_sum_nonneg (b :: rest) (List.pairwise_cons.mp h).2
    simp only [diffs, List.sum_cons]
    linarith

theorem avgDist_nonneg {xs : List ℚ} (h : xs.Pairwise (· < ·)) : 0 ≤ avgDist xs := by
  unfold avgDist
  exact mul_nonneg (by norm_num) (div_nonneg (diffs_sum_nonneg xs h) (Nat.cast_nonneg _))

theorem nn_bounds_mem {env : Env} {d : NNDom} (hok : d.ok = true) (hmono : LogMono env d.log)
    {lo hi : ℚ} (hl : d.lowerInt env = some lo) (hu : d.upperInt env = some hi)
    {t : ℚ} (ht : t ∈ d.catsInt env) : lo ≤ t ∧ t ≤ hi := by
  have hp := nn_catsInt_pairwise hok hmono
  have havg := avgDist_nonneg hp
  obtain ⟨h1, h2⟩ := hp.headD_le_getLastD ht
  unfold NNDom.lowerInt at hl
  unfold NNDom.upperInt at hu
  dsimp only at hl hu
  split at hl
  · rename_i hlen
    rw [if_pos hlen] at hu
    obtain rfl := Option.some.inj hl
    obtain rfl := Option.some.inj hu
    exact ⟨(sub_le_self _ havg).trans h1, h2.trans (le_add_of_nonneg_right havg)⟩
  · cases hl

structure OrdNNBuilt (env : Env) (c : Consts) (d : NNDom) (active : Option (List Val)) (rc : ContRange)
    (lo hi : ℚ) (aL aU : Option ℚ) : Prop where
  len : 1 < d.cats.length
  ok : d.ok = true
  active : nnActiveBounds env c d active = .ok (aL, aU)
  lower : d.lowerInt env = some lo
  upper : d.upperInt env = some hi
  cont : mkCont env c lo hi .lin aL aU = .ok rc

theorem mkOrdNN_ok {env : Env} {c : Consts} {d : NNDom}
    {active : Option (List Val)} {r : OrdNN} (hmk : mkOrdNN env c d.cats d.log active = .ok r) :
    ∃ rc lo hi aL aU, OrdNNBuilt env c d active rc lo hi aL aU ∧ r = ⟨d, rc⟩ := by
  unfold mkOrdNN at hmk
  simp only at hmk
  split at hmk
  · rename_i h1
    split at hmk
    · rename_i aL aU lo hi hb hl hu
      split at hmk
      · rename_i rc hrc
        exact ⟨rc, lo, hi, aL, aU, ⟨h1.1, h1.2, hb, hl, hu, hrc⟩,
          (Except.ok.inj hmk).symm⟩
      · cases hmk
    · cases hmk
    · cases hmk
  · cases hmk

theorem ordnn_bounds_cube {env : Env} {c : Consts} {d : NNDom} {active : Option (List Val)} {r : OrdNN}
    (hmk : mkOrdNN env c d.cats d.log active = .ok r) : 0 ≤ r.rcont.bLo ∧ r.rcont.bHi ≤ 1 := by
  obtain ⟨rc, _, _, _, _, b, rfl⟩ := mkOrdNN_ok hmk
  exact cont_bounds_cube b.cont

theorem ordnn_decode_reject {env : Env} {c : Consts} (r : OrdNN) {x : ℚ} (hx : ¬ InMargin c x) :
    r.decode env c x = .error .assertion := by
  simp only [OrdNN.decode, OrdNN.decodePre, cont_decode_reject _ hx]

theorem ordnn_decode_member {env : Env} {c : Consts} {d : NNDom}
    {active : Option (List Val)} {r : OrdNN} (hmk : mkOrdNN env c d.cats d.log active = .ok r)
    {x : ℚ} (hx : InMargin c x) : ∃ v, r.decode env c x = .ok v ∧ v ∈ d.cats := by
  obtain ⟨rc, _, _, _, _, b, rfl⟩ := mkOrdNN_ok hmk
  obtain ⟨w, hw, _⟩ := cont_decode_member (c := c) (mkCont_ok b.cont).1 hx
  unfold OrdNN.decode OrdNN.decodePre
  rw [hw]
  exact nn_castInt_member env d (List.ne_nil_of_length_pos (Nat.zero_lt_of_lt b.len)) w

theorem ordnn_encode_cube {env : Env} {c : Consts} {r : OrdNN} {v : Val} {x : ℚ}
    (h : r.encode env c v = .ok x) : 0 ≤ x ∧ x ≤ 1 := by
  unfold OrdNN.encode at h
  split at h
  · split at h
    · exact cont_encode_cube h
    · cases h
  · cases h

theorem ordnn_roundtrip {env : Env} {c : Consts} {d : NNDom}
    {active : Option (List Val)} {r : OrdNN} (hmk : mkOrdNN env c d.cats d.log active = .ok r)
    (heps : 0 ≤ c.eps) (hmono : LogMono env d.log) {v : Val} (hv : v ∈ d.cats) :
    ∃ x, r.encode env c v = .ok x ∧ r.decode env c x = .ok v := by
  obtain ⟨rc, lo, hi, aL, aU, ⟨hlen, hok, hb, hl, hu, hct⟩, rfl⟩ := mkOrdNN_ok hmk
  obtain ⟨y, hy⟩ := nn_num_some hok hv
  obtain ⟨k, hk⟩ := List.mem_iff_getElem?.mp hv
  have hci : (d.catsInt env)[k]? = some (d.toInternal env y) := by
    rw [nn_catsInt_getElem?, hk, Option.map_some, hy]; rfl
  obtain ⟨h1, h2⟩ := nn_bounds_mem hok hmono hl hu (List.mem_of_getElem? hci)
  obtain ⟨x, e1, e2⟩ := cont_roundtrip (mkCont_ok hct).1 heps (scaleOK_lin env lo hi) h1 h2
  have hexact := nn_castInt_exact (env := env) hok hmono hk
  rw [hy] at hexact
  refine ⟨x, ?_, ?_⟩
  · unfold OrdNN.encode
    simp only [pyIn_of_mem hv, if_true, hy]
    exact e1
  · unfold OrdNN.decode OrdNN.decodePre
    rw [e2]
    exact hexact

/-- the active bounds `_get_active_bounds` computes: `0.499` of the way to the neighbour just
outside the run of active choices, the ends of the internal range where there is none -/
theorem nnActiveBounds_ok {env : Env} {c : Consts} {d : NNDom} {act : List Val}
    {aL aU : Option ℚ} (h : nnActiveBounds env c d (some act) = .ok (aL, aU)) :
    ∃ fp lt rt, firstPos d.cats (some act) = .ok (some fp) ∧
      (d.catsInt env)[fp]? = some lt ∧ (d.catsInt env)[fp + act.length - 1]? = some rt ∧
      aL = (if 0 < fp then
              (match (d.catsInt env)[fp - 1]? with
               | some p => some (lt - c.c499 * (lt - p))
               | none => none)
            else d.lowerInt env) ∧
      aU = (if fp + act.length - 1 < d.cats.length - 1 then
              (match (d.catsInt env)[fp + act.length - 1 + 1]? with
               | some n => some (rt + c.c499 * (n - rt))
               | none => none)
            else d.upperInt env) := by
  unfold nnActiveBounds at h
  dsimp only at h
  split at h
  · cases h
  · cases h
  · rename_i fp hfp
    split at h
    · rename_i lt rt h1 h2
      obtain ⟨ha, hb⟩ := Prod.mk.inj (Except.ok.inj h)
      exact ⟨fp, lt, rt, hfp, h1, h2, ha.symm, hb.symm⟩
    · cases h

/-- **active sub-range**: every `x` inside the `_ndarray_bounds` decodes to one of the active
choices `choices[fp], …, choices[fp + len(active) - 1]` -/
theorem ordnn_active {env : Env} {c : Consts} {d : NNDom}
    {act : List Val} {r : OrdNN} (hmk : mkOrdNN env c d.cats d.log (some act) = .ok r)
    (heps : 0 ≤ c.eps) (h499 : c.c499 < 1 / 2) (hmono : LogMono env d.log)
    {x : ℚ} (hx : r.rcont.bLo ≤ x ∧ x ≤ r.rcont.bHi) :
    ∃ v, r.decode env c x = .ok v ∧ v ∈ d.cats ∧ pyIn v act = true := by
  obtain ⟨rc, lo, hi, aL, aU, ⟨hlen, hok, hb, hl, hu, hct⟩, rfl⟩ := mkOrdNN_ok hmk
  obtain ⟨-, -, w, hw, hw1, hw2⟩ := cont_active hct heps (scaleOK_lin env lo hi) hx
  obtain ⟨fp, lt, rt, hfp, hlt, hrt, haL, haU⟩ := nnActiveBounds_ok hb
  obtain ⟨_, ⟨rfl⟩, hne, hz⟩ := firstPos_some hfp
  have hactlen : 0 < act.length := List.length_pos_iff.mpr hne
  have hp := nn_catsInt_pairwise (env := env) hok hmono
  have hlenci : (d.catsInt env).length = d.cats.length := nn_catsInt_length env _
  obtain ⟨hfplt, rfl⟩ := List.getElem?_eq_some_iff.mp hlt
  obtain ⟨hlastlt, rfl⟩ := List.getElem?_eq_some_iff.mp hrt
  have hidx : nnIdx env d w =
      argminFirst ((d.catsInt env).map (fun y => absRat (y - w))) := if_pos hlen
  generalize d.catsInt env = ci at *
  have hinc := List.pairwise_iff_getElem.mp hp
  -- `w` lies inside the active bounds, which stop short of the midpoints to the outer neighbours
  obtain ⟨hwin1, hwin2⟩ := argmin_window hp w (fp := fp) (last := fp + act.length - 1) hlastlt (by omega)
    (fun h0 => by
      have hf1 : fp - 1 < ci.length := by omega
      rw [if_pos h0, List.getElem?_eq_getElem hf1] at haL
      rw [haL, Option.getD_some] at hw1
      have := mul_lt_mul_of_pos_right h499 (sub_pos.mpr (hinc (fp - 1) fp hf1 hfplt (by omega)))
      linarith only [hw1, this])
    (fun h1 => by
      rw [if_pos (by omega), List.getElem?_eq_getElem h1] at haU
      rw [haU, Option.getD_some] at hw2
      have := mul_lt_mul_of_pos_right h499
        (sub_pos.mpr (hinc (fp + act.length - 1) (fp + act.length - 1 + 1) hlastlt h1 (by omega)))
      linarith only [hw2, this])
  rw [← hidx] at hwin1 hwin2
  have hilt : nnIdx env d w < d.cats.length := by omega
  have hiv := List.getElem?_eq_getElem hilt
  refine ⟨_, ?_, List.getElem_mem hilt, pyIn_of_window hz hwin1 (by omega) hiv⟩
  unfold OrdNN.decode OrdNN.decodePre
  rw [hw]
  exact nn_castInt_of_idx hiv

/-! ### the hypotheses are satisfiable: a concrete encoder with an active sub-range -/
namespace NNExample

/-- a stand-in `Env` (`log` = identity, strictly monotone) -/
def env : Env := ⟨⟨id, id⟩, ⟨id, id⟩, ⟨id, id⟩⟩
def consts : Consts := ⟨1 / 100000000, 499 / 1000, 1 / 100⟩
def isOk {α} : Except Err α → Bool
  | .ok _ => true
  | .error _ => false

example : LogMono env true := fun _ _ _ _ h => h

example : isOk (mkOrdNN env consts [.int 1, .int 2, .int 4, .int 8] false
    (some [.int 2, .int 4])) = true := by decide +kernel

example : isOk (mkOrdNN env consts [.flt (1/2), .flt 2, .flt 4, .flt 8] true
    (some [.flt (1/2), .flt 2])) = true := by decide +kernel

example : firstPos [.int 1, .int 2, .int 4, .int 8] (some [.int 2, .int 4]) = .ok (some 1) := by
  decide +kernel

example : (NNDom.mk [.int 1, .int 2, .int 4, .int 8] false).cast env (.int 4) = .ok (.int 4) :=
  nn_cast_self (by decide +kernel) (fun h => by cases h) (by simp)

end NNExample

end SyneTune.Dom
