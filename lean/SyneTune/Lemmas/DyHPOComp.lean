import SyneTune.Lemmas.DyHPORung
import SyneTune.Lemmas.DyHPODefs
import SyneTune.Lemmas.C14CompObs
/-
DyHPO, composed system (scheduler + searcher data bookkeeping): the invariant `CInv` of
`Lemmas/C14CompDefs.lean` under `suggestDy`.  The DyHPO rung system's answer satisfies `SchedOK`
like the promotion scan's, so `cinv_afterSchedule` applies.
-/
namespace SyneTune.DyHPO
open SyneTune SyneTune.C14 SyneTune.C14Comp

theorem opStepD_suggestDy (s : Sched) (n b : Nat) (sh : Bool) (hint pick : Option Nat) :
    opStepD s (.suggestDy n b sh hint pick) =
      match s.suggestDy n b sh hint pick with | .ok res => (res.1, res.2.2.1) | .error _ => (s, []) := rfl

theorem stepCD_eq (y : Sys) (op : DOp) :
    stepCD y op = match y.st.applyAll (opStepD y.sched op).2 with
      | .ok st' => { sched := (opStepD y.sched op).1, st := st' }
      | .error _ => y := by
  cases op <;> rfl

/-- **DyHPO `suggest`**: the invariant is preserved, and the searcher accepts every call the operation makes -/
theorem cinv_suggestDy (y : Sys) (n b : Nat) (sh : Bool) (hint pick : Option Nat) (h : CInv y) :
    ∃ st', y.st.applyAll (opStepD y.sched (.suggestDy n b sh hint pick)).2 = .ok st' ∧
      CInv ⟨(opStepD y.sched (.suggestDy n b sh hint pick)).1, st'⟩ := by
  rw [opStepD_suggestDy]
  cases hs : y.sched.suggestDy n b sh hint pick with
  | error e => exact ⟨y.st, rfl, h⟩
  | ok res =>
    obtain ⟨s', sg, calls, fr⟩ := res
    obtain ⟨g, so, ms, fr0, hts, ha⟩ := suggestDy_ok hs
    exact cinv_afterSchedule h ((taskScheduleDy_eff hts).ok h.wf)
      (fun hpr => (suggestDy_KInv y.sched s' n b sh hint pick sg calls fr (h.kinv hpr) hs).1) ha

theorem cinv_opStepD (y : Sys) (h : CInv y) (op : DOp) (hok : OpOKD y op) :
    (∃ st', y.st.applyAll (opStepD y.sched op).2 = .ok st') ∧ CInv (stepCD y op) := by
  cases op with
  | old op => exact cinv_opStep y h op hok
  | suggestDy n b sh hint pick =>
    obtain ⟨st', h1, h2⟩ := cinv_suggestDy y n b sh hint pick h
    refine ⟨⟨st', h1⟩, ?_⟩
    rw [stepCD_eq, h1]
    exact h2

/-- the `(trial, level, value)` triples an operation reports (`C14Comp.opReports`) -/
def opReportsD : DOp → List (Nat × Nat × Rat)
  | .old op => opReports op
  | .suggestDy _ _ _ _ _ => []

theorem opStepD_updates (s : Sched) (op : DOp) (t r : Nat) (v : Rat) (upd : Bool)
    (h : SCall.update t r v upd ∈ (opStepD s op).2) : (t, r, v) ∈ opReportsD op := by
  cases op with
  | old op => exact opStep_updates s op t r v upd h
  | suggestDy n b sh hint pick =>
    rw [opStepD_suggestDy] at h
    split at h
    · rename_i res hs
      obtain ⟨_, _, _, _, _, ha⟩ := suggestDy_ok (sg := res.2.1) (calls := res.2.2.1) (fr := res.2.2.2) hs
      obtain ⟨t0, ls, hc⟩ := Sched.afterSchedule_calls ha
      simp [hc] at h
    · cases h

theorem stepCD_obsFrom (y : Sys) (op : DOp) (hw : ObsWF y.st) : ObsFrom y.st (stepCD y op).st (opReportsD op) := by
  rw [stepCD_eq]
  split
  · rename_i st' ha
    exact applyAll_obsFrom hw ha fun t r v hv => opStepD_updates y.sched op t r v true hv
  · exact .refl hw _

end SyneTune.DyHPO
