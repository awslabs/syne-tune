import SyneTune.Model.GPExec
import Mathlib.LinearAlgebra.Matrix.Block
import Mathlib.Analysis.SpecialFunctions.Log.Basic
import Mathlib.Analysis.SpecialFunctions.Trigonometric.Basic
/-
The executable model `Model/GPExec.lean` read as Mathlib matrices (`toM`, `toV`), over an arbitrary
field `𝕜` (so for the `Rat` twin and for `ℝ`): one lemma per function of the model saying what it
computes, the specification of the triangular solves, the matrix identities behind the GP posterior.
Entries are written `toM A i j`, `toV x i` (definitionally `A[i][j]`, `x[i]`): every `x[i]` with
`i : Fin n` in the source runs `get_elem_tactic`, which is slow in these contexts.
-/
-- reading lemmas that need no field structure are still stated under `[Field 𝕜]`
set_option linter.unusedSectionVars false
namespace SyneTune.GP
open Matrix

variable {𝕜 : Type} [Field 𝕜] {n m t k : ℕ}

def toM (A : Mat 𝕜 n m) : Matrix (Fin n) (Fin m) 𝕜 := Matrix.of fun i j => A[i][j]

def toV (x : Vec 𝕜 n) : Fin n → 𝕜 := fun i => x[i]

@[simp] theorem toM_apply (A : Mat 𝕜 n m) (i : Fin n) (j : Fin m) : toM A i j = A[i][j] := rfl
@[simp] theorem toV_apply (x : Vec 𝕜 n) (i : Fin n) : toV x i = x[i] := rfl

@[simp] theorem toM_of (f : Fin n → Fin m → 𝕜) : toM (Mat.of f) = Matrix.of f := by
  ext i j; simp

@[simp] theorem toV_of (f : Fin n → 𝕜) : toV (Vec.of f) = f := by
  ext i; simp

theorem toM_injective : Function.Injective (toM : Mat 𝕜 n m → _) := by
  intro A B h
  exact Vector.ext fun i hi => Vector.ext fun j hj => congrFun (congrFun h ⟨i, hi⟩) ⟨j, hj⟩

@[simp] theorem sumFin_eq (f : Fin n → 𝕜) : sumFin f = ∑ i, f i := by
  unfold sumFin; exact List.sum_ofFn

@[simp] theorem dot_eq (u v : Fin n → 𝕜) : dot u v = ∑ i, u i * v i := by
  unfold dot; simp

@[simp] theorem prodFin_eq (f : Fin n → 𝕜) : prodFin f = ∏ i, f i := by
  unfold prodFin
  rw [← List.prod_ofFn]
  rfl

@[simp] theorem toM_matMul (A : Mat 𝕜 n k) (B : Mat 𝕜 k m) : toM (matMul A B) = toM A * toM B := by
  rw [matMul, toM_of]
  ext i j
  simp only [dot_eq, Matrix.of_apply, Matrix.mul_apply, toM_apply]

@[simp] theorem toM_transpose (A : Mat 𝕜 n m) : toM (transpose A) = (toM A)ᵀ := by
  rw [transpose, toM_of]; rfl

@[simp] theorem toV_col (A : Mat 𝕜 n m) (j : Fin m) : toV (col A j) = fun i => toM A i j := by
  rw [col, toV_of]; rfl

@[simp] theorem toM_ofCols (C : Fin m → Vec 𝕜 n) : toM (ofCols C) = Matrix.of fun i j => toV (C j) i := by
  ext i j; simp [ofCols]

@[simp] theorem toM_scaleM (K : Mat 𝕜 n m) (s : 𝕜) : toM (scaleM K s) = s • toM K := by
  rw [scaleM, toM_of]
  ext i j
  simp only [Matrix.of_apply, Matrix.smul_apply, smul_eq_mul, toM_apply, mul_comm]

theorem toM_addDiag (x : Mat 𝕜 n n) (c : 𝕜) : toM (addDiag x c) = toM x + c • (1 : Matrix (Fin n) (Fin n) 𝕜) := by
  rw [addDiag, toM_of]
  ext i j
  simp only [Matrix.of_apply, Matrix.add_apply, Matrix.smul_apply, Matrix.one_apply, smul_eq_mul, mul_ite,
    mul_one, mul_zero, toM_apply]
  split_ifs <;> simp

/-- `[[A, c], [r, d]]` as a Mathlib matrix -/
def borderM (A : Matrix (Fin n) (Fin n) 𝕜) (c r : Fin n → 𝕜) (d : 𝕜) :
    Matrix (Fin (n + 1)) (Fin (n + 1)) 𝕜 :=
  Matrix.of fun i j =>
    Fin.lastCases (Fin.lastCases d (fun j' => r j') j) (fun i' => Fin.lastCases (c i') (fun j' => A i' j') j) i

def snocRowM (A : Matrix (Fin n) (Fin m) 𝕜) (r : Fin m → 𝕜) : Matrix (Fin (n + 1)) (Fin m) 𝕜 :=
  Matrix.of fun i j => Fin.lastCases (r j) (fun i' => A i' j) i

@[simp] theorem borderM_cc (A : Matrix (Fin n) (Fin n) 𝕜) (c r d) (i j : Fin n) :
    borderM A c r d i.castSucc j.castSucc = A i j := by simp [borderM]
@[simp] theorem borderM_cl (A : Matrix (Fin n) (Fin n) 𝕜) (c r d) (i : Fin n) :
    borderM A c r d i.castSucc (Fin.last n) = c i := by simp [borderM]
@[simp] theorem borderM_lc (A : Matrix (Fin n) (Fin n) 𝕜) (c r d) (j : Fin n) :
    borderM A c r d (Fin.last n) j.castSucc = r j := by simp [borderM]
@[simp] theorem borderM_ll (A : Matrix (Fin n) (Fin n) 𝕜) (c r d) :
    borderM A c r d (Fin.last n) (Fin.last n) = d := by simp [borderM]
@[simp] theorem snocRowM_c (A : Matrix (Fin n) (Fin m) 𝕜) (r) (i : Fin n) (j : Fin m) :
    snocRowM A r i.castSucc j = A i j := by simp [snocRowM]
@[simp] theorem snocRowM_l (A : Matrix (Fin n) (Fin m) 𝕜) (r) (j : Fin m) :
    snocRowM A r (Fin.last n) j = r j := by simp [snocRowM]

theorem borderM_ext {M N : Matrix (Fin (n + 1)) (Fin (n + 1)) 𝕜}
    (hcc : ∀ i j : Fin n, M i.castSucc j.castSucc = N i.castSucc j.castSucc)
    (hcl : ∀ i : Fin n, M i.castSucc (Fin.last n) = N i.castSucc (Fin.last n))
    (hlc : ∀ j : Fin n, M (Fin.last n) j.castSucc = N (Fin.last n) j.castSucc)
    (hll : M (Fin.last n) (Fin.last n) = N (Fin.last n) (Fin.last n)) : M = N := by
  ext i j
  refine Fin.lastCases (Fin.lastCases hll hlc j) (fun i' => Fin.lastCases (hcl i') (hcc i') j) i

theorem snocRowM_ext {M N : Matrix (Fin (n + 1)) (Fin m) 𝕜}
    (hc : ∀ (i : Fin n) j, M i.castSucc j = N i.castSucc j) (hl : ∀ j, M (Fin.last n) j = N (Fin.last n) j) :
    M = N := by
  ext i j
  exact Fin.lastCases (hl j) (fun i' => hc i' j) i

theorem borderM_add_smul_one (A : Matrix (Fin n) (Fin n) 𝕜) (c r : Fin n → 𝕜) (d s : 𝕜) :
    borderM A c r d + s • 1 = borderM (A + s • 1) c r (d + s) := by
  refine borderM_ext (fun i j => ?_) (fun i => ?_) (fun j => ?_) ?_
  · simp [Matrix.one_apply]
  · simp [Matrix.one_apply_ne (Fin.castSucc_lt_last i).ne]
  · simp [Matrix.one_apply_ne (Fin.castSucc_lt_last j).ne']
  · simp

theorem push_get_castSucc {α : Type} (x : Vector α n) (a : α) (i : Fin n) :
    (x.push a)[i.castSucc] = x[i] :=
  Vector.getElem_push_lt i.isLt

theorem push_get_last {α : Type} (x : Vector α n) (a : α) :
    (x.push a)[Fin.last n] = a :=
  Vector.getElem_push_eq

theorem toM_border (A : Mat 𝕜 n n) (c r : Vec 𝕜 n) (d : 𝕜) :
    toM (border A c r d) = borderM (toM A) (toV c) (toV r) d := by
  refine borderM_ext (fun i j => ?_) (fun i => ?_) (fun j => ?_) ?_ <;>
    simp [border]

theorem toM_push (P : Mat 𝕜 n m) (p : Vec 𝕜 m) :
    toM (P.push p : Mat 𝕜 (n + 1) m) = snocRowM (toM P) (toV p) := by
  refine snocRowM_ext (fun i j => ?_) (fun j => ?_) <;> simp

theorem toM_lead (A : Mat 𝕜 (n + 1) (n + 1)) : toM (lead A) = Matrix.of fun i j => toM A i.castSucc j.castSucc := by
  rw [lead, toM_of]; rfl

/-- `LowerTri`, `DiagNZ`: the two hypotheses on a Cholesky factor in the theorems of C08 and C09, stated on the
entries of the model matrix -/
def LowerTri (L : Mat 𝕜 n n) : Prop := ∀ i j : Fin n, i < j → L[i][j] = 0

def DiagNZ (L : Mat 𝕜 n n) : Prop := ∀ i : Fin n, L[i][i] ≠ 0

theorem isLowerTriangular_iff {M : Matrix (Fin n) (Fin n) 𝕜} : M.IsLowerTriangular ↔ ∀ i j, i < j → M i j = 0 :=
  Iff.rfl

theorem LowerTri.isLowerTriangular {L : Mat 𝕜 n n} (h : LowerTri L) : (toM L).IsLowerTriangular :=
  isLowerTriangular_iff.mpr h

theorem isUnit_det_toM {L : Mat 𝕜 n n} (h : LowerTri L) (hd : DiagNZ L) : IsUnit (toM L).det := by
  rw [Matrix.det_of_isLowerTriangular _ h.isLowerTriangular, isUnit_iff_ne_zero]
  exact Finset.prod_ne_zero_iff.mpr fun i _ => hd i

theorem LowerTri.lead {L : Mat 𝕜 (n + 1) (n + 1)} (h : LowerTri L) : LowerTri (lead L) := by
  intro i j hij
  simp only [GP.lead, Mat.of_get]
  exact h _ _ (by simpa using hij)

theorem DiagNZ.lead {L : Mat 𝕜 (n + 1) (n + 1)} (h : DiagNZ L) : DiagNZ (lead L) := by
  intro i
  simp only [GP.lead, Mat.of_get]
  exact h _

/-- **forward substitution solves the system**: `L · solveLower L b = b`. -/
theorem solveLower_spec : ∀ (n : ℕ) (L : Mat 𝕜 n n) (b : Vec 𝕜 n), LowerTri L → DiagNZ L →
    toM L *ᵥ toV (solveLower n L b) = toV b
  | 0, _, _, _, _ => funext fun i => i.elim0
  | n + 1, L, b, hL, hd => by
    have ih := solveLower_spec n (lead L) (initV b) hL.lead hd.lead
    funext i
    simp only [Matrix.mulVec, dotProduct, Fin.sum_univ_castSucc, toM_apply, toV_apply, solveLower,
      push_get_castSucc, push_get_last, dot_eq]
    refine Fin.lastCases ?_ (fun i' => ?_) i
    · rw [mul_div_cancel₀ _ (hd (Fin.last n))]
      exact add_sub_cancel _ _
    · rw [hL _ _ (Fin.castSucc_lt_last i'), zero_mul, add_zero]
      simpa only [Matrix.mulVec, dotProduct, toM_apply, toV_apply, GP.lead, initV, Mat.of_get, Vec.of_get]
        using congrFun ih i'

/-- **back substitution with the transpose solves the system**: `Lᵀ · solveLowerT L b = b`. -/
theorem solveLowerT_spec : ∀ (n : ℕ) (L : Mat 𝕜 n n) (b : Vec 𝕜 n), LowerTri L → DiagNZ L →
    (toM L)ᵀ *ᵥ toV (solveLowerT n L b) = toV b
  | 0, _, _, _, _ => funext fun i => i.elim0
  | n + 1, L, b, hL, hd => by
    have ih := fun b' => solveLowerT_spec n (lead L) b' hL.lead hd.lead
    funext i
    simp only [Matrix.mulVec, dotProduct, Matrix.transpose_apply, Fin.sum_univ_castSucc, toM_apply, toV_apply,
      solveLowerT, push_get_castSucc, push_get_last]
    refine Fin.lastCases ?_ (fun i' => ?_) i
    · simp only [hL _ _ (Fin.castSucc_lt_last _), zero_mul, Finset.sum_const_zero, zero_add]
      exact mul_div_cancel₀ _ (hd (Fin.last n))
    · have := congrFun (ih (Vec.of fun i => toV b i.castSucc -
        toM L (Fin.last n) i.castSucc * (toV b (Fin.last n) / toM L (Fin.last n) (Fin.last n)))) i'
      rw [toM_lead] at this
      simp only [Matrix.mulVec, dotProduct, Matrix.transpose_apply, Matrix.of_apply, toM_apply, toV_apply,
        Vec.of_get] at this
      rw [this]
      exact sub_add_cancel _ _

theorem solveLowerM_spec (L : Mat 𝕜 n n) (B : Mat 𝕜 n m) (hL : LowerTri L) (hd : DiagNZ L) :
    toM L * toM (solveLowerM L B) = toM B := by
  ext i j
  rw [solveLowerM, toM_ofCols]
  exact (congrFun (solveLower_spec n L (col B j) hL hd) i).trans (congrFun (toV_col B j) i)

theorem solveLowerTM_spec (L : Mat 𝕜 n n) (B : Mat 𝕜 n m) (hL : LowerTri L) (hd : DiagNZ L) :
    (toM L)ᵀ * toM (solveLowerTM L B) = toM B := by
  ext i j
  rw [solveLowerTM, toM_ofCols]
  exact (congrFun (solveLowerT_spec n L (col B j) hL hd) i).trans (congrFun (toV_col B j) i)

theorem toM_predMean (V : Mat 𝕜 n t) (P : Mat 𝕜 n m) (ms : Vec 𝕜 t) :
    toM (predMean V P ms) = (toM V)ᵀ * toM P + Matrix.of fun i _ => ms[i] := by
  rw [predMean, toM_of]
  ext i j
  simp only [dot_eq, Matrix.of_apply, Matrix.add_apply, Matrix.mul_apply, Matrix.transpose_apply, toM_apply]

theorem toV_predVarRaw (V : Mat 𝕜 n t) (kd : Vec 𝕜 t) (i : Fin t) :
    toV (predVarRaw V kd) i = toV kd i - ((toM V)ᵀ * toM V) i i := by
  rw [predVarRaw, toV_of]
  simp only [sumFin_eq, Matrix.mul_apply, Matrix.transpose_apply, toM_apply, toV_apply]

theorem toM_jointCov (V : Mat 𝕜 n t) (Kss : Mat 𝕜 t t) :
    toM (jointCov V Kss) = toM Kss - (toM V)ᵀ * toM V := by
  rw [jointCov, toM_of]
  ext i j
  simp only [dot_eq, Matrix.of_apply, Matrix.sub_apply, Matrix.mul_apply, Matrix.transpose_apply, toM_apply]

/-- the single test point of `sample_and_cholesky_update`: `linv_k_tr_te` is the `lvec` of the update -/
theorem solveLowerM_single (L : Mat 𝕜 n n) (kvec : Vec 𝕜 n) (scale : 𝕜) :
    solveLowerM L (scaleM (Mat.of fun i (_ : Fin 1) => kvec[i]) scale) =
      Mat.of fun i _ => toV (computeLvec L kvec scale) i := by
  apply toM_injective
  simp only [solveLowerM, toM_ofCols, col, scaleM, Mat.of_get, toM_of]
  rfl

/-- an output column of `predMean` is a function of the same column of `P` only -/
theorem predMean_congr_col {P : Mat 𝕜 n m} {p : Mat 𝕜 n k} {j : Fin m} {j' : Fin k}
    (h : ∀ i, toM P i j = toM p i j') (V : Mat 𝕜 n t) (ms : Vec 𝕜 t) (i : Fin t) :
    toM (predMean V P ms) i j = toM (predMean V p ms) i j' := by
  simp only [toM_predMean, Matrix.add_apply, Matrix.mul_apply, Matrix.of_apply, h]

section identities
variable {L : Matrix (Fin n) (Fin n) 𝕜}

/-- `(L Lᵀ)⁻¹ = L⁻ᵀ L⁻¹` written without an inverse of `L`: it turns a quadratic form in `(L Lᵀ)⁻¹` into a product of two
triangular solves (`quad_form`) -/
theorem transpose_mul_inv_mul_self (hL : IsUnit L.det) : Lᵀ * (L * Lᵀ)⁻¹ * L = 1 := by
  have hLt := Matrix.isUnit_det_transpose L hL
  rw [Matrix.mul_inv_rev, ← Matrix.mul_assoc, Matrix.mul_nonsing_inv _ hLt, Matrix.one_mul,
    Matrix.nonsing_inv_mul _ hL]

/-- with `L V = K*` and `L P = R`:  `Vᵀ P = K*ᵀ (L Lᵀ)⁻¹ R`. -/
theorem quad_form (hL : IsUnit L.det) {V : Matrix (Fin n) (Fin t) 𝕜} {P : Matrix (Fin n) (Fin m) 𝕜}
    {Ks : Matrix (Fin n) (Fin t) 𝕜} {R : Matrix (Fin n) (Fin m) 𝕜}
    (hV : L * V = Ks) (hP : L * P = R) : Vᵀ * P = Ksᵀ * (L * Lᵀ)⁻¹ * R := by
  subst hV hP
  rw [Matrix.transpose_mul, Matrix.mul_assoc Vᵀ, Matrix.mul_assoc Vᵀ, ← Matrix.mul_assoc _ L P, transpose_mul_inv_mul_self hL,
    Matrix.one_mul]

end identities

section update

theorem border_factor (L : Matrix (Fin n) (Fin n) 𝕜) (l : Fin n → 𝕜) (lam : 𝕜) :
    borderM L 0 l lam * (borderM L 0 l lam)ᵀ =
      borderM (L * Lᵀ) (L *ᵥ l) (L *ᵥ l) (∑ k, l k * l k + lam * lam) := by
  refine borderM_ext (fun i j => ?_) (fun i => ?_) (fun j => ?_) ?_ <;>
    simp only [Matrix.mul_apply, Matrix.transpose_apply, Fin.sum_univ_castSucc, borderM_cc, borderM_cl,
      borderM_lc, borderM_ll, Pi.zero_apply, mul_zero, zero_mul, add_zero, Matrix.mulVec, dotProduct,
      mul_comm (l _)]

/-- the new row `(y − lᵀP)/λ` of `P` is the forward substitution for the new row of the system -/
theorem border_solve (L : Matrix (Fin n) (Fin n) 𝕜) (l : Fin n → 𝕜) {lam : 𝕜} (hlam : lam ≠ 0)
    (P : Matrix (Fin n) (Fin m) 𝕜) (y : Fin m → 𝕜) :
    borderM L 0 l lam * snocRowM P (fun j => (y j - ∑ k, l k * P k j) / lam) = snocRowM (L * P) y := by
  refine snocRowM_ext (fun i j => ?_) (fun j => ?_) <;>
    simp only [Matrix.mul_apply, Fin.sum_univ_castSucc, borderM_cc, borderM_cl, borderM_lc, borderM_ll,
      snocRowM_c, snocRowM_l, Pi.zero_apply, zero_mul, add_zero, mul_div_cancel₀ _ hlam, add_sub_cancel]

theorem LowerTri.border {L : Mat 𝕜 n n} (h : LowerTri L) (l : Vec 𝕜 n) (lam : 𝕜) :
    LowerTri (border L (Vec.of fun _ => 0) l lam) := by
  intro i j
  rw [← toM_apply, toM_border]
  refine Fin.lastCases ?_ (fun i' => ?_) i <;> refine Fin.lastCases ?_ (fun j' => ?_) j
  · simp
  · intro hlt; exact absurd hlt (by simp [Fin.le_last])
  · simp
  · intro hlt
    simp only [borderM_cc, toM_apply]
    exact h _ _ (by simpa using hlt)

theorem DiagNZ.border {L : Mat 𝕜 n n} (h : DiagNZ L) (c l : Vec 𝕜 n) {lam : 𝕜} (hl : lam ≠ 0) :
    DiagNZ (border L c l lam) := by
  intro i
  rw [← toM_apply, toM_border]
  refine Fin.lastCases ?_ (fun i' => ?_) i
  · simpa using hl
  · simpa using h i'

theorem computeLvec_spec (L : Mat 𝕜 n n) (kvec : Vec 𝕜 n) (scale : 𝕜) (hL : LowerTri L) (hd : DiagNZ L) :
    toM L *ᵥ toV (computeLvec L kvec scale) = fun i => toV kvec i * scale :=
  (solveLower_spec n L _ hL hd).trans (toV_of _)

end update

section order
variable {𝕂 : Type} [Field 𝕂] [LinearOrder 𝕂] [IsStrictOrderedRing 𝕂]

theorem maxOf_eq_max (a b : 𝕂) : maxOf a b = max a b := by
  unfold maxOf
  split_ifs with h
  · exact (max_eq_right (le_of_lt h)).symm
  · exact (max_eq_left (not_lt.mp h)).symm

theorem absOf_eq_abs (a : 𝕂) : absOf a = |a| := by
  unfold absOf
  split_ifs with h
  · exact (abs_of_neg h).symm
  · exact (abs_of_nonneg (not_lt.mp h)).symm

/-- the clamped predictive variances of `predictMarginals`, with `V = L⁻¹ (scale · Ks)` -/
theorem toV_predictMarginals_vars (L : Mat 𝕂 n n) (P : Mat 𝕂 n m) (Ks : Mat 𝕂 n t) (scale : 𝕂)
    (kd ms : Vec 𝕂 t) (floor : 𝕂) (i : Fin t) :
    toV (predictMarginals L P Ks scale kd ms floor).vars i =
      max (toV kd i * scale - ((toM (solveLowerM L (scaleM Ks scale)))ᵀ * toM (solveLowerM L (scaleM Ks scale))) i i)
        floor := by
  simp only [predictMarginals, toV_of, maxOf_eq_max, ← toV_apply, toV_predVarRaw]

end order

section cholUpdateWith
variable [LT 𝕜] [DecidableLT 𝕜] {sqrt : 𝕜 → 𝕜} {minDiag : 𝕜} {L : Mat 𝕜 n n} {P : Mat 𝕜 n m}
  {scale kdiag noise mscal : 𝕜} {target : Vec 𝕜 m} {lvec : Vec 𝕜 n}

theorem cholUpdateWith_lsq :
    (cholUpdateWith sqrt minDiag L P scale kdiag noise mscal target lvec).lsq =
      maxOf (kdiag * scale + noise - ∑ k, toV lvec k * toV lvec k) (minDiag * minDiag) :=
  congrArg (fun s => maxOf (kdiag * scale + noise - s) (minDiag * minDiag)) (sumFin_eq _)

theorem toM_cholUpdateWith_L :
    toM (cholUpdateWith sqrt minDiag L P scale kdiag noise mscal target lvec).L =
      borderM (toM L) 0 (toV lvec) (cholUpdateWith sqrt minDiag L P scale kdiag noise mscal target lvec).lscal :=
  (toM_border _ _ _ _).trans (congrArg (borderM (toM L) · (toV lvec) _) (toV_of _))

theorem toM_cholUpdateWith_P :
    toM (cholUpdateWith sqrt minDiag L P scale kdiag noise mscal target lvec).P =
      snocRowM (toM P) fun j => (toV target j - mscal - ∑ k, toV lvec k * toM P k j) /
        (cholUpdateWith sqrt minDiag L P scale kdiag noise mscal target lvec).lscal := by
  refine (toM_push _ _).trans (congrArg (snocRowM (toM P)) ?_)
  funext j
  rw [toV_of, dot_eq]
  rfl

/-- an output column of the updated `P` is a function of the same column of `P` and the same entry of
the target only -/
theorem cholUpdateWith_P_congr_col {P : Mat 𝕜 n m} {p : Mat 𝕜 n k} {j : Fin m} {j' : Fin k}
    (h : ∀ i, toM P i j = toM p i j') {target' : Vec 𝕜 k} (ht : toV target j = toV target' j') (i : Fin (n + 1)) :
    toM (cholUpdateWith sqrt minDiag L P scale kdiag noise mscal target lvec).P i j =
      toM (cholUpdateWith sqrt minDiag L p scale kdiag noise mscal target' lvec).P i j' := by
  rw [toM_cholUpdateWith_P, toM_cholUpdateWith_P]
  refine Fin.lastCases ?_ (fun i' => ?_) i
  · simp only [snocRowM_l, h, ht]
    rfl
  · simp only [snocRowM_c, h]

end cholUpdateWith

/-! ### the negative log marginal likelihood (needs `Real.log`, hence not in the executable model) -/

/-- `negative_log_marginal_likelihood(chol_fact, pred_mat)`:
```
sqnorm_predmat = anp.sum(anp.square(pred_mat))
logdet_cholfact = 2.0 * anp.sum(anp.log(anp.abs(anp.diag(chol_fact))))
n_samples = getval(pred_mat.size)
part1 = 0.5 * (n_samples * anp.log(2 * anp.pi) + logdet_cholfact)
part2 = 0.5 * sqnorm_predmat
return part1 + part2
```
(the `assert pred_mat.shape[1] == 1` is the hypothesis `m = 1` of the theorem about it). -/
noncomputable def nll {n m : ℕ} (L : Mat ℝ n n) (P : Mat ℝ n m) : ℝ :=
  let sqnorm_predmat := sqNorm P
  let logdet_cholfact := 2 * ∑ i : Fin n, Real.log (absOf L[i][i])
  let n_samples : ℝ := ((n * m : ℕ) : ℝ)
  let part1 := (1 / 2) * (n_samples * Real.log (2 * Real.pi) + logdet_cholfact)
  let part2 := (1 / 2) * sqnorm_predmat
  part1 + part2

theorem nll_eq {n m : ℕ} (L : Mat ℝ n n) (P : Mat ℝ n m) :
    nll L P = 1 / 2 * (((n * m : ℕ) : ℝ) * Real.log (2 * Real.pi) + 2 * ∑ i : Fin n, Real.log (absOf (toM L i i)))
      + 1 / 2 * sqNorm P :=
  rfl

theorem sqNorm_one_col {n : ℕ} (P : Mat 𝕜 n 1) : sqNorm P = ((toM P)ᵀ * toM P) 0 0 := by
  simp only [sqNorm, sumFin_eq, Matrix.mul_apply, Matrix.transpose_apply, toM_apply, Fin.sum_univ_one]

theorem logdet_eq {n : ℕ} (L : Mat ℝ n n) (hL : LowerTri L) (hd : DiagNZ L) :
    2 * ∑ i : Fin n, Real.log (absOf (toM L i i)) = Real.log (toM L * (toM L)ᵀ).det := by
  rw [Matrix.det_mul, Matrix.det_transpose, Matrix.det_of_isLowerTriangular _ hL.isLowerTriangular, ← sq,
    Real.log_pow, Real.log_prod (f := fun i => toM L i i) (fun i _ => hd i)]
  simp only [absOf_eq_abs, Real.log_abs, Nat.cast_ofNat]

/-! ### `AddJitterOp` only changes the diagonal -/

section jitter
variable {𝕂 : Type} [Field 𝕂] [LinearOrder 𝕂] [IsStrictOrderedRing 𝕂]

theorem jitterLoop_spec (eps : 𝕂) (x : Mat 𝕂 n n) (s init g ub : 𝕂) (hi : 0 ≤ init) (hg : 0 ≤ g) :
    ∀ (fuel k : ℕ) (jit : 𝕂) (r : JitterOut 𝕂 n), 0 ≤ jit →
      jitterLoop eps x s init g ub fuel k jit = some r →
      r.sys = addDiag x (s + r.jitter) ∧ isPD eps n r.sys = true ∧ 0 ≤ r.jitter ∧ r.jitter ≤ ub := by
  intro fuel
  induction fuel with
  | zero => intro k jit r _ h; cases h
  | succ fuel ih =>
    intro k jit r hj h
    simp only [jitterLoop] at h
    split_ifs at h with h1 h2 h3
    · cases h; exact ⟨rfl, h2, hj, not_lt.mp h1⟩
    · exact ih _ _ r hi h
    · exact ih _ _ r (mul_nonneg hj hg) h

end jitter

end SyneTune.GP
