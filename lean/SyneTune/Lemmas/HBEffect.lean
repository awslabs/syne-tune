import SyneTune.Lemmas.HBPromotion
/-
What the two deciding operations do to a rung system, for all scheduler types: `on_task_schedule` (`SchedEff`)
marks ONE not-yet-promoted entry (`MarkStep`); `on_task_report` (`ReportEff`) adds at most ONE, of the reporting
trial at the reported level (`AddStep`).  The not-yet-promoted entries are the trials a promotion can resume
(contract K).  The manager and scheduler levels read a call only through these statements.
-/
namespace SyneTune

def Rung.unpromoted (rg : Rung) : List Nat := (rg.data.filter (fun e => !e.promoted)).map (·.tid)
def unpromotedOf (rs : List Rung) : List Nat := rs.flatMap Rung.unpromoted
def unpromotedSys (ss : List RungSys) : List Nat := ss.flatMap (fun s => unpromotedOf s.rungs)

theorem unpromoted_add (m : Mode) (rg : Rung) (e : Entry) (he : e.promoted = false) :
    (rg.add m e).unpromoted.Perm (e.tid :: rg.unpromoted) := by
  unfold Rung.unpromoted Rung.add
  have h1 := (insertEntry_perm m e rg.data).filter (fun e => !e.promoted)
  have h2 := h1.map (·.tid)
  simpa [List.filter_cons, he] using h2

theorem unpromoted_mark (m : Mode) (rg : Rung) (pos : Nat) (e : Entry)
    (h : rg.data[pos]? = some e) (he : e.promoted = false) :
    rg.unpromoted.Perm (e.tid :: (markPromoted m rg pos).unpromoted) := by
  unfold Rung.unpromoted
  have hp := markPromoted_perm m rg pos e h
  have h1 := ((perm_cons_eraseIdx h).symm.filter (fun e => !e.promoted)).map (·.tid)
  have h2 := (hp.filter (fun e => !e.promoted)).map (·.tid)
  simp only [List.filter_cons, he, Bool.not_false, if_true, List.map_cons] at h1
  simp only [List.filter_cons, Bool.not_true, Bool.false_eq_true, if_false] at h2
  exact h1.trans (List.Perm.cons _ h2.symm)

theorem flatMap_replace {α β} (f : α → List β) (pre post : List α) (a a' : α) (t : β)
    (h : (f a').Perm (t :: f a)) : ((pre ++ a' :: post).flatMap f).Perm (t :: (pre ++ a :: post).flatMap f) := by
  simp only [List.flatMap_append, List.flatMap_cons]
  exact ((h.append_right _).append_left _).trans List.perm_middle

theorem split_of_getElem? {α} (l : List α) (i : Nat) (x : α) (h : l[i]? = some x) :
    ∃ pre post, l = pre ++ x :: post ∧ ∀ y, l.set i y = pre ++ y :: post := by
  induction l generalizing i with
  | nil => simp at h
  | cons a as ih =>
    cases i with
    | zero => simp at h; subst h; exact ⟨[], as, rfl, fun y => rfl⟩
    | succ j =>
      rw [List.getElem?_cons_succ] at h
      obtain ⟨pre, post, h1, h3⟩ := ih j h
      exact ⟨a :: pre, post, by rw [h1]; rfl, fun y => by simp [List.set_cons_succ, h3 y]⟩

theorem getElem?_set_self' {α} (l : List α) (i : Nat) (x y : α) (h : l[i]? = some x) :
    (l.set i y)[i]? = some y :=
  List.getElem?_set_self (List.getElem?_eq_some_iff.mp h).1

theorem map_set_same {α β} (f : α → β) (l : List α) (i : Nat) (a b : α) (h : l[i]? = some a) (hf : f b = f a) :
    (l.set i b).map f = l.map f := by
  obtain ⟨pre, post, h1, h3⟩ := split_of_getElem? l i a h
  rw [h3, h1, List.map_append, List.map_append, List.map_cons, List.map_cons, hf]

/-- the report of a promotion system on the whole state; the proofs below go through `promoReport_eff` instead -/
theorem promoReport_unpromoted (s s' : RungSys) (m : Mode) (tid r : Nat) (v cost : Rat) (o : RepOut)
    (h : s.promoReport m tid r v cost = .ok (s', o)) :
    (o.reached = false ∧ s' = s) ∨
    (o.reached = true ∧ o.continues = false ∧
      (s' = s ∨ (unpromotedOf s'.rungs).Perm (tid :: unpromotedOf s.rungs))) := by
  obtain ⟨ms, _, _, ⟨_, rfl, rfl⟩ | ⟨_, hreach⟩⟩ := RungSys.promoReport_ok h
  · exact .inl ⟨rfl, rfl⟩
  · obtain ⟨⟨h1, h2⟩, _, hs⟩ := promoReached_spec hreach
    refine .inr ⟨h2, h1, hs.imp id ?_⟩
    rintro ⟨pos, rg, g1, _, _, rfl, _⟩
    obtain ⟨pre, post, k1, k3⟩ := split_of_getElem? s.rungs pos rg g1
    simp only [k3]
    rw [k1]
    exact flatMap_replace Rung.unpromoted pre post rg _ tid (unpromoted_add m rg _ rfl)

-- `MarkStep` lives in the namespace `DyHPO`; it is the notion of every promotion type
namespace DyHPO

/-- `rs'` is `rs` with one not-yet-promoted entry of the trial `o.trial`, in the rung of level
`o.resumeFrom`, marked as promoted -/
def MarkStep (m : Mode) (rs rs' : List Rung) (o : SchedOut) : Prop :=
  ∃ pre rg post pos e, rs = pre ++ rg :: post ∧ rs' = pre ++ markPromoted m rg pos :: post ∧
    rg.data[pos]? = some e ∧ e.tid = o.trial ∧ e.promoted = false ∧ rg.level = o.resumeFrom

theorem MarkStep.steps {m : Mode} {rs rs' : List Rung} {o : SchedOut} (h : MarkStep m rs rs' o) :
    RungSteps m rs rs' := by
  obtain ⟨pre, rg, post, pos, e, h1, h2, _, _, _, _⟩ := h
  rw [h1, h2]
  exact List.rel_append (RungSteps.refl m pre) (List.Forall₂.cons (RungStep.mark rg pos) (RungSteps.refl m post))

theorem MarkStep.levels {m : Mode} {rs rs' : List Rung} {o : SchedOut} (h : MarkStep m rs rs' o) :
    rs'.map (·.level) = rs.map (·.level) := h.steps.levels

theorem MarkStep.unpromoted {m : Mode} {rs rs' : List Rung} {o : SchedOut} (h : MarkStep m rs rs' o) :
    (unpromotedOf rs).Perm (o.trial :: unpromotedOf rs') := by
  obtain ⟨pre, rg, post, pos, e, h1, h2, h3, h4, h5, _⟩ := h
  rw [h1, h2, ← h4]
  exact flatMap_replace Rung.unpromoted pre post _ rg e.tid (unpromoted_mark m rg pos e h3 h5)

theorem MarkStep.entries {m : Mode} {rs rs' : List Rung} {o : SchedOut} (h : MarkStep m rs rs' o) :
    ∀ rg' ∈ rs', ∀ e' ∈ rg'.data,
      ∃ rg ∈ rs, rg.level = rg'.level ∧ ∃ e ∈ rg.data, e.tid = e'.tid ∧ (e'.promoted = false → e.promoted = false) := by
  obtain ⟨pre, rg, post, pos, e, h1, h2, h3, _, _, _⟩ := h
  rw [h1, h2]
  intro rg' hrg' e' he'
  simp only [List.mem_append, List.mem_cons] at hrg'
  rcases hrg' with hrg' | rfl | hrg'
  · exact ⟨rg', by simp [hrg'], rfl, e', he', rfl, fun h => h⟩
  · have hperm := markPromoted_perm m rg pos e h3
    have hl := markPromoted_level m rg pos
    have h1 := hperm.mem_iff.mp he'
    rcases List.mem_cons.mp h1 with rfl | h1
    · exact ⟨rg, by simp, hl.symm, e, List.mem_of_getElem? h3, rfl, fun h => by simp at h⟩
    · have : e' ∈ e :: rg.data.eraseIdx pos := List.mem_cons_of_mem _ h1
      exact ⟨rg, by simp, hl.symm, e', (perm_cons_eraseIdx h3).mem_iff.mp this, rfl, fun h => h⟩
  · exact ⟨rg', by simp [hrg'], rfl, e', he', rfl, fun h => h⟩

theorem MarkStep.eligible {m : Mode} {rs rs' : List Rung} {o : SchedOut} (h : MarkStep m rs rs' o) :
    (∃ rg ∈ rs, rg.level = o.resumeFrom ∧ ∃ e ∈ rg.data, e.tid = o.trial ∧ e.promoted = false) ∧
    PromotedAt rs' o.resumeFrom o.trial := by
  obtain ⟨pre, rg, post, pos, e, h1, h2, h3, h4, h5, h6⟩ := h
  refine ⟨⟨rg, by rw [h1]; simp, h6, e, List.mem_of_getElem? h3, h4, h5⟩, ?_⟩
  refine ⟨markPromoted m rg pos, by rw [h2]; simp, ?_, ?_⟩
  · rw [markPromoted_level, h6]
  · rw [← h4]; exact markPromoted_promotedIn m rg pos e h3

end DyHPO

open DyHPO (MarkStep)

/-- What `on_task_schedule` of a promotion-type rung system does when it answers `so`: `_running`
and `max_t` are untouched; without a promotion no rung changes; a promotion is a `MarkStep` whose
milestone is, for decreasing levels, the level right above the rung resumed from (`max_t` above the top rung). -/
structure SchedEff (m : Mode) (s s' : RungSys) (so : Option SchedOut) : Prop where
  running : s'.running = s.running
  maxT : s'.maxT = s.maxT
  same : so = none → s'.rungs = s.rungs
  mark : ∀ o, so = some o → MarkStep m s.rungs s'.rungs o ∧
    (RungsDecr s.rungs → ∀ i, rungPos s.rungs o.resumeFrom = some i → o.milestone = nextAbove s.rungs i s.maxT)

theorem SchedEff.steps {m : Mode} {s s' : RungSys} {so : Option SchedOut} (h : SchedEff m s s' so) :
    RungSteps m s.rungs s'.rungs := by
  cases so with
  | none => rw [h.same rfl]; exact RungSteps.refl m _
  | some o => exact (h.mark o rfl).1.steps

theorem SchedEff.entries {m : Mode} {s s' : RungSys} {so : Option SchedOut} (h : SchedEff m s s' so) :
    ∀ rg' ∈ s'.rungs, ∀ e' ∈ rg'.data,
      ∃ rg ∈ s.rungs, rg.level = rg'.level ∧ ∃ e ∈ rg.data, e.tid = e'.tid ∧ (e'.promoted = false → e.promoted = false) := by
  cases so with
  | none => rw [h.same rfl]; exact fun rg' hrg' e' he' => ⟨rg', hrg', rfl, e', he', rfl, id⟩
  | some o => exact (h.mark o rfl).1.entries

/-- an answer computed on a rung system which differs from `s` in fields other than the rungs,
`_running` and `max_t` -/
theorem SchedEff.of_same {m : Mode} {s s1 s' : RungSys} {so : Option SchedOut} (h1 : SchedEff m s s1 none)
    (h : SchedEff m s1 s' so) : SchedEff m s s' so := by
  have hr := h1.same rfl
  exact ⟨h.running.trans h1.running, h.maxT.trans h1.maxT, fun hn => (h.same hn).trans hr,
    fun o ho => by rw [← hr, ← h1.maxT]; exact h.mark o ho⟩

theorem promoScan_markStep (ty : HBType) (m : Mode) (numThr cap : Nat) (hint : Option Nat) (next : Nat)
    (thr : List (Nat × Rat)) (rs : List Rung) (o : SchedOut)
    (h : (promoScan ty m numThr cap hint next thr rs).out = some o) :
    MarkStep m rs (promoScan ty m numThr cap hint next thr rs).rungs o ∧
    (RungsDecr rs → ∀ i, rungPos rs o.resumeFrom = some i → o.milestone = nextAbove rs i next) := by
  obtain ⟨pre, rg, post, thr', pos, h1, _, _, h4, h5, h2, h6⟩ := promoScan_some ty m numThr cap hint next thr rs o h
  obtain ⟨e, g1, g2, g3⟩ := findPromotable_pick_spec ty m numThr thr' rg hint o.trial pos h4
  refine ⟨⟨pre, rg, post, pos, e, h1, h5, g1, g2, g3, h2⟩, fun hd i hi => ?_⟩
  -- the scan stopped at the first rung of its level: `i` is the number of rungs passed
  obtain ⟨k1, k2⟩ := decomp_nextAbove next pre post rg (h1 ▸ hd)
  rw [h1, ← h2, k1] at hi
  cases hi
  rw [h6, h1, k2]

theorem promoSchedule_eff (s : RungSys) (ty : HBType) (m : Mode) (hint : Option Nat) :
    SchedEff m s (s.promoSchedule ty m hint).1 (s.promoSchedule ty m hint).2.1 :=
  ⟨rfl, rfl, fun h => (promoScan_none h).2,
    promoScan_markStep ty m s.numThr (s.cap ty) hint s.maxT s.thresholds s.rungs⟩

/-- a promotion read by positions in `_rungs` (decreasing levels): the first rung of level `resume_from` holds the
not yet promoted entry that is marked, and the milestone is the level right above it -/
theorem SchedEff.eligible {m : Mode} {s s' : RungSys} {o : SchedOut} (h : SchedEff m s s' (some o))
    (hd : RungsDecr s.rungs) :
    ∃ i rg pos e, rungPos s.rungs o.resumeFrom = some i ∧ s.rungs[i]? = some rg ∧ rg.level = o.resumeFrom ∧
      rg.data[pos]? = some e ∧ e.tid = o.trial ∧ e.promoted = false ∧
      s'.rungs = s.rungs.set i (markPromoted m rg pos) ∧ o.milestone = nextAbove s.rungs i s.maxT := by
  obtain ⟨⟨pre, rg, post, pos, e, h1, h2, h3, h4, h5, h6⟩, hms⟩ := h.mark o rfl
  have hi : rungPos s.rungs o.resumeFrom = some pre.length := by
    rw [h1, ← h6]; exact (decomp_nextAbove s.maxT pre post rg (h1 ▸ hd)).1
  refine ⟨pre.length, rg, pos, e, hi, by rw [h1]; simp, h6, h3, h4, h5, ?_, hms hd _ hi⟩
  rw [h2, h1, List.set_append_right _ _ (Nat.le_refl _), Nat.sub_self, List.set_cons_zero]

theorem SchedEff.milestone_mem {m : Mode} {s s' : RungSys} {o : SchedOut} (h : SchedEff m s s' (some o))
    (hd : RungsDecr s.rungs) : o.milestone = s.maxT ∨ ∃ rg ∈ s.rungs, rg.level = o.milestone := by
  obtain ⟨i, _, _, _, _, _, _, _, _, _, _, hms⟩ := h.eligible hd
  exact hms ▸ nextAbove_mem s.rungs i s.maxT

/-- a trial recorded as promoted from the rung of level `level` is not promoted from it again: levels are
pairwise distinct, a trial has one entry per rung, and the entry a promotion marks is not yet promoted -/
theorem SchedEff.not_again {m : Mode} {s s' : RungSys} {o : SchedOut} (h : SchedEff m s s' (some o))
    (hnd : AllNodup s.rungs) (hdec : RungsDecr s.rungs) {level : Nat} (hp : PromotedAt s.rungs level o.trial) :
    o.resumeFrom ≠ level := by
  intro heq
  obtain ⟨⟨rg, hrg, hl, e, he, het, hep⟩, _⟩ := (h.mark o rfl).1.eligible
  obtain ⟨rgP, hrgP, hlv, e2, he2, het2, hep2⟩ := hp
  have hsame : rgP = rg := decr_level_inj s.rungs hdec rgP rg hrgP hrg (by rw [hlv, hl, heq])
  subst hsame
  have := List.inj_on_of_nodup_map (hnd rgP hrgP) he he2 (by rw [het, het2])
  subst this
  rw [hep] at hep2; cases hep2

theorem promoScan_unpromoted (ty : HBType) (hty : ty.plain) (m : Mode) (numThr cap : Nat)
    (hint : Option Nat) (next : Nat) (thr : List (Nat × Rat)) (rs : List Rung) (o : SchedOut)
    (h : (promoScan ty m numThr cap hint next thr rs).out = some o) :
    (unpromotedOf rs).Perm (o.trial :: unpromotedOf (promoScan ty m numThr cap hint next thr rs).rungs) := by
  have _ := hty -- not needed: the statement holds of every promotion type
  exact (promoScan_markStep ty m numThr cap hint next thr rs o h).1.unpromoted

/-- `rs'` is `rs` with one entry of the trial `tid`, not promoted, added to the rung of level `r` -/
def AddStep (m : Mode) (rs rs' : List Rung) (tid r : Nat) : Prop :=
  ∃ pre rg post e, rs = pre ++ rg :: post ∧ rs' = pre ++ rg.add m e :: post ∧
    rg.level = r ∧ rg.contains tid = false ∧ e.tid = tid ∧ e.promoted = false

theorem AddStep.steps {m : Mode} {rs rs' : List Rung} {tid r : Nat} (h : AddStep m rs rs' tid r) :
    RungSteps m rs rs' := by
  obtain ⟨pre, rg, post, e, rfl, rfl, _, hc, rfl, _⟩ := h
  exact List.rel_append (RungSteps.refl m pre) (.cons (.add rg e hc) (RungSteps.refl m post))

theorem AddStep.unpromoted {m : Mode} {rs rs' : List Rung} {tid r : Nat} (h : AddStep m rs rs' tid r) :
    (unpromotedOf rs').Perm (tid :: unpromotedOf rs) := by
  obtain ⟨pre, rg, post, e, rfl, rfl, _, _, rfl, he⟩ := h
  exact flatMap_replace Rung.unpromoted pre post rg _ e.tid (unpromoted_add m rg e he)

theorem AddStep.entries {m : Mode} {rs rs' : List Rung} {tid r : Nat} (h : AddStep m rs rs' tid r) :
    ∀ rg' ∈ rs', ∀ e ∈ rg'.data, (∃ rg ∈ rs, rg.level = rg'.level ∧ e ∈ rg.data) ∨
      (rg'.level = r ∧ e.tid = tid ∧ e.promoted = false) := by
  obtain ⟨pre, rg, post, e0, rfl, rfl, hl, _, rfl, he0⟩ := h
  intro rg' hrg' e he
  rcases List.mem_append.mp hrg' with hp | hp
  · exact .inl ⟨rg', List.mem_append_left _ hp, rfl, he⟩
  · rcases List.mem_cons.mp hp with rfl | hp
    · rcases (insertEntry_mem m e0 e rg.data).mp he with rfl | he
      · exact .inr ⟨hl, rfl, he0⟩
      · exact .inl ⟨rg, by simp, rfl, he⟩
    · exact .inl ⟨rg', List.mem_append_right _ (List.mem_cons_of_mem _ hp), rfl, he⟩

theorem AddStep.rungOK {m : Mode} {rs rs' : List Rung} {tid r : Nat} (h : AddStep m rs rs' tid r)
    (hok : ∀ rg ∈ rs, RungOK m rg) : ∀ rg ∈ rs', RungOK m rg := by
  obtain ⟨pre, rg, post, e, rfl, rfl, _, hc, rfl, _⟩ := h
  simp only [List.forall_mem_append, List.forall_mem_cons] at hok ⊢
  exact ⟨hok.1, rungOK_add m rg e hok.2.1 hc, hok.2.2⟩

theorem AddStep.append_right {m : Mode} {rs rs' : List Rung} {tid r : Nat} (h : AddStep m rs rs' tid r)
    (low : List Rung) : AddStep m (rs ++ low) (rs' ++ low) tid r := by
  obtain ⟨pre, rg, post, e, rfl, rfl, h3, h4, h5, h6⟩ := h
  exact ⟨pre, rg, post ++ low, e, by simp, by simp, h3, h4, h5, h6⟩

/-- What `on_task_report` of a rung system does when it answers `o`: `_running` and `max_t` are untouched; the
rungs change, if at all, by an `AddStep` at the level reported. -/
structure ReportEff (m : Mode) (s s' : RungSys) (tid r : Nat) (o : RepOut) : Prop where
  running : s'.running = s.running
  maxT : s'.maxT = s.maxT
  rungs : s'.rungs = s.rungs ∨ (o.reached = true ∧ AddStep m s.rungs s'.rungs tid r)

theorem ReportEff.steps {m : Mode} {s s' : RungSys} {tid r : Nat} {o : RepOut} (h : ReportEff m s s' tid r o) :
    RungSteps m s.rungs s'.rungs :=
  h.rungs.elim (fun e => e ▸ RungSteps.refl m _) fun a => a.2.steps

theorem stopScan_eff (m : Mode) (tid r : Nat) (v : Rat) (hint : Bool) (next : Nat) (rs : List Rung) :
    (stopScan m tid r v hint next rs).1 = rs ∨
    ((stopScan m tid r v hint next rs).2.reached = true ∧ AddStep m rs (stopScan m tid r v hint next rs).1 tid r) := by
  obtain ⟨pre, _, ⟨he, _⟩ | ⟨rg, post, rfl, hl, hnc, he⟩⟩ := stopScan_out m tid r v hint next rs
  · exact .inl (congrArg Prod.fst he)
  · rw [he]; exact .inr ⟨rfl, pre, rg, post, _, rfl, rfl, hl, hnc, rfl, rfl⟩

theorem RungSys.stopReport_eff (s : RungSys) (m : Mode) (tid r : Nat) (v : Rat) (skip : Nat) (hint : Bool) :
    ReportEff m s (s.stopReport m tid r v skip hint).1 tid r (s.stopReport m tid r v skip hint).2 := by
  unfold RungSys.stopReport
  split
  · exact ⟨rfl, rfl, .inl rfl⟩
  · refine ⟨rfl, rfl, ?_⟩
    have hs : milestoneRungs s.rungs skip ++ s.rungs.drop (s.rungs.length - skip) = s.rungs :=
      List.take_append_drop ..
    rcases stopScan_eff m tid r v hint s.maxT (milestoneRungs s.rungs skip) with he | ⟨h1, h2⟩
    · exact .inl (by dsimp only; rw [he, hs])
    · have h3 := h2.append_right (s.rungs.drop (s.rungs.length - skip))
      rw [hs] at h3
      exact .inr ⟨h1, h3⟩

/-- the RUSH decider changes the thresholds and the answer's `continues` only -/
theorem RungSys.rushStopReport_eff (s : RungSys) (m : Mode) (tid r : Nat) (v : Rat) (skip : Nat) (hint : Bool) :
    ReportEff m s (s.rushStopReport m tid r v skip hint).1 tid r (s.rushStopReport m tid r v skip hint).2 := by
  have e := s.stopReport_eff m tid r v skip hint
  unfold RungSys.rushStopReport
  dsimp only
  split
  · exact ⟨e.running, e.maxT, e.rungs⟩
  · exact e

theorem RungSys.promoReport_eff {s s' : RungSys} {m : Mode} {tid r : Nat} {v cost : Rat} {o : RepOut}
    (h : s.promoReport m tid r v cost = .ok (s', o)) : ReportEff m s s' tid r o := by
  obtain ⟨ms, _, _, ⟨_, rfl, _⟩ | ⟨rfl, hreach⟩⟩ := RungSys.promoReport_ok h
  · exact ⟨rfl, rfl, .inl rfl⟩
  · obtain ⟨⟨_, hr⟩, _, rfl | ⟨pos, rg, h1, h2, h3, rfl, _⟩⟩ := promoReached_spec hreach
    · exact ⟨rfl, rfl, .inl rfl⟩
    · obtain ⟨pre, post, e1, e3⟩ := split_of_getElem? s.rungs pos rg h1
      exact ⟨rfl, rfl, .inr ⟨hr, pre, rg, post, _, e1, e3 _, h2, h3, rfl, rfl⟩⟩

/-- the answer of a promotion-type rung system, read on the trial's `_running` record
`(milestone, resume_from)`: the trial pauses exactly at its milestone -/
def PromoAns (sys : RungSys) (tid r : Nat) (o : RepOut) : Prop :=
  ∃ mr, alookup tid sys.running = some mr ∧ r ≤ mr.1 ∧ o.ignoreData = ignoreOf mr.2 r ∧
    (r < mr.1 → o.continues = true ∧ o.reached = false) ∧
    (r = mr.1 → o.continues = false ∧ o.reached = true)

theorem PromoAns.stop {sys : RungSys} {tid r : Nat} {o : RepOut} (h : PromoAns sys tid r o)
    (hc : o.continues = false) : o.reached = true := by
  obtain ⟨mr, _, f2, _, f4, f5⟩ := h
  rcases Nat.lt_or_ge r mr.1 with hlt | hge
  · rw [(f4 hlt).1] at hc; cases hc
  · exact (f5 (Nat.le_antisymm f2 hge)).2

theorem RungSys.promoReport_ans {s s' : RungSys} {m : Mode} {tid r : Nat} {v cost : Rat} {o : RepOut}
    (h : s.promoReport m tid r v cost = .ok (s', o)) : PromoAns s tid r o := by
  obtain ⟨ms, rf, hr, ⟨hlt, _, rfl⟩ | ⟨rfl, hreach⟩⟩ := RungSys.promoReport_ok h
  · exact ⟨_, hr, Nat.le_of_lt hlt, rfl, fun _ => ⟨rfl, rfl⟩, fun he => absurd he (Nat.ne_of_lt hlt)⟩
  · obtain ⟨h12, h3, _⟩ := promoReached_spec hreach
    exact ⟨_, hr, Nat.le_refl _, h3, fun hlt => absurd hlt (Nat.lt_irrefl _), fun _ => h12⟩

end SyneTune
