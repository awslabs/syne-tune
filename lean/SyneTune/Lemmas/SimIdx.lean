import SyneTune.Lemmas.SimHeap
import SyneTune.Lemmas.SimFlow
/-
The indices of a run in log, queue and heap (`cat`), what the state changes do to them, and the
invariant `Inv1` that they are `0, 1, 2, …` in this order.  A new run's indices come out in order under two
assumptions: addition is monotone (`AddMono`) and the job returns its results sorted by elapsed time on the
job states that occur (`SortedOn`, `tabJob_sortedOn`, at the head of SimPrefix).
-/
namespace SyneTune.SimL
open SyneTune SyneTune.Backend

variable {J : Type}

def tagIdxOf (t r : Nat) (e : Ev) : Option Nat :=
  match e.kind with
  | .result _ tag => if e.trial = t ∧ tag.run = r then some tag.idx else none
  | _ => none

def heapIdx (s : Sim J) (t r : Nat) : List Nat := s.heap.filterMap (tagIdxOf t r)

def nextIdx (s : Sim J) (t r : Nat) : List Nat :=
  (((alookup t s.next).getD []).filter (fun a => a.tag.run == r)).map (·.tag.idx)

def logIdx (s : Sim J) (t r : Nat) : List Nat :=
  (s.log.filter (fun en => en.trial == t && en.tag.run == r)).map (·.tag.idx)

/-- the indices of one run in the order in which they reach the tuner -/
def cat (s : Sim J) (t r : Nat) : List Nat := logIdx s t r ++ nextIdx s t r ++ heapIdx s t r

/-- like `AddGe` an assumption on the arithmetic; it holds of exact addition (`example` in Props/C02) -/
def AddMono (A : Arith) : Prop :=
  (∀ a b b' : Rat, b ≤ b' → A.add a b ≤ A.add a b') ∧ (∀ a a' b : Rat, a ≤ a' → A.add a b ≤ A.add a' b)

theorem tagIdxOf_kind {t r : Nat} {e : Ev} (h : ∀ res tag, e.kind ≠ .result res tag) : tagIdxOf t r e = none := by
  unfold tagIdxOf
  split
  · rename_i res tag hk; exact absurd hk (h res tag)
  · rfl

theorem tagIdxOf_trial {t r : Nat} {e : Ev} (h : e.trial ≠ t) : tagIdxOf t r e = none := by
  unfold tagIdxOf
  split
  · rw [if_neg (fun hh => h hh.1)]
  · rfl

theorem tagIdxOf_result (t r : Nat) (e : Ev) (res : Res) (tag : Tag) (hk : e.kind = .result res tag) :
    tagIdxOf t r e = if e.trial = t ∧ tag.run = r then some tag.idx else none := by
  unfold tagIdxOf
  rw [hk]

theorem tagIdxOf_some {t r i : Nat} {e : Ev} (h : tagIdxOf t r e = some i) :
    ∃ res tag, e.kind = .result res tag ∧ e.trial = t ∧ tag.run = r ∧ tag.idx = i := by
  unfold tagIdxOf at h
  split at h
  · rename_i res tag hk
    split at h
    · rename_i hc
      exact ⟨res, tag, hk, hc.1, hc.2, Option.some.inj h⟩
    · cases h
  · cases h

theorem filterMap_cons_toList {α β} (f : α → Option β) (a : α) (l : List α) :
    (a :: l).filterMap f = (f a).toList ++ l.filterMap f := by
  rw [List.filterMap_cons]; cases f a <;> rfl

theorem filterMap_insertEv_none (f : Ev → Option Nat) (e : Ev) (l : List Ev) (h : f e = none) :
    (insertEv e l).filterMap f = l.filterMap f := by
  obtain ⟨l1, l2, rfl, h2, _⟩ := insertEv_eq e l
  rw [h2, List.filterMap_append, List.filterMap_cons, h, List.filterMap_append]

theorem filterMap_insertEv_last (f : Ev → Option Nat) (e : Ev) (l : List Ev) (hs : l.Pairwise keyLt)
    (hb : ∀ x ∈ l, f x ≠ none → x.time ≤ e.time ∧ x.cnt < e.cnt) :
    (insertEv e l).filterMap f = l.filterMap f ++ (f e).toList := by
  obtain ⟨l1, l2, rfl, h2, _, h4⟩ := insertEv_eq e l
  have hnone : l2.filterMap f = [] := List.filterMap_eq_nil_iff.mpr fun x hx => by
    by_contra hne
    have := hb x (List.mem_append_right _ hx) hne
    rcases h4 hs x hx with hk | hk
    · linarith [this.1]
    · omega
  rw [h2, List.filterMap_append, List.filterMap_append, filterMap_cons_toList, hnone]
  simp

theorem filterMap_filter_same (f : Ev → Option Nat) (p : Ev → Bool) (l : List Ev)
    (h : ∀ x ∈ l, p x = false → f x = none) : (l.filter p).filterMap f = l.filterMap f := by
  induction l with
  | nil => rfl
  | cons y ys ih =>
    have ih' := ih (fun x hx => h x (List.mem_cons_of_mem _ hx))
    cases hp : p y with
    | true => rw [List.filter_cons_of_pos hp, List.filterMap_cons, List.filterMap_cons, ih']
    | false =>
      rw [List.filter_cons_of_neg (by simp [hp]), List.filterMap_cons, h y List.mem_cons_self hp, ih']

theorem resultHeap_filterMap_other (A : Arith) (d : Rat) (t : Nat) (te : Rat) (run : Nat) (t' r' : Nat)
    (hne : ¬ (t = t' ∧ run = r')) (rs : List Res) : ∀ (i c : Nat) (l : List Ev),
      (resultHeap A d t te run rs i c l).filterMap (tagIdxOf t' r') = l.filterMap (tagIdxOf t' r') := by
  induction rs with
  | nil => intro i c l; rfl
  | cons r rs ih =>
    intro i c l
    rw [resultHeap, ih, filterMap_insertEv_none]
    exact (tagIdxOf_result _ _ _ r ⟨run, i⟩ rfl).trans (if_neg hne)

theorem resultHeap_filterMap_same (A : Arith) (hA : AddMono A) (d : Rat) (t : Nat) (te : Rat) (run : Nat) (rs : List Res) :
    ∀ (i c : Nat) (l : List Ev), l.Pairwise keyLt → (∀ x ∈ l, x.cnt < c) → rs.Pairwise (fun a b => a.elapsed ≤ b.elapsed) →
      (∀ e ∈ l, tagIdxOf t run e ≠ none → ∀ r ∈ rs, e.time ≤ A.add (A.add te r.elapsed) d) →
      (resultHeap A d t te run rs i c l).filterMap (tagIdxOf t run) =
        l.filterMap (tagIdxOf t run) ++ List.range' i rs.length := by
  induction rs with
  | nil => intro i c l _ _ _ _; simp [resultHeap]
  | cons r rs ih =>
    intro i c l hs hc hp hb
    rw [List.pairwise_cons] at hp
    obtain ⟨hs', hc'⟩ := insertEv_ok (e := ⟨A.add (A.add te r.elapsed) d, c, t, .result r ⟨run, i⟩⟩) hs hc
    rw [resultHeap, ih _ _ _ hs' hc' hp.2]
    · rw [filterMap_insertEv_last _ _ _ hs, tagIdxOf_result _ _ _ r ⟨run, i⟩ rfl]
      · simp [List.range'_succ]
      · exact fun x hx hne => ⟨hb x hx hne r List.mem_cons_self, hc x hx⟩
    · intro e he hne r' hr'
      rcases (mem_insertEv _ _ _).mp he with rfl | he
      · exact hA.2 _ _ _ (hA.1 _ _ _ (hp.1 r' hr'))
      · exact hb e he hne r' (List.mem_cons_of_mem _ hr')

theorem heapIdx_pop {s : Sim J} {e : Ev} {rest : List Ev} (hheap : s.heap = e :: rest)
    (hk : ∀ res tag, e.kind ≠ .result res tag) (t r : Nat) :
    heapIdx ({ s with heap := rest } : Sim J) t r = heapIdx s t r := by
  unfold heapIdx
  rw [hheap, filterMap_cons_toList, tagIdxOf_kind hk]
  rfl

theorem heapIdx_push (s : Sim J) (tm : Rat) (u : Nat) (k : EvKind) (hk : ∀ res tag, k ≠ .result res tag) (t r : Nat) :
    heapIdx (s.push tm u k) t r = heapIdx s t r := by
  unfold heapIdx
  rw [push_heap, filterMap_insertEv_none _ _ _ (tagIdxOf_kind hk)]

theorem heapIdx_stop (s : Sim J) (t u r : Nat) :
    heapIdx (s.processStop t) u r = if u = t then [] else heapIdx s u r := by
  unfold heapIdx Sim.processStop
  split
  · rename_i hu
    rw [List.filterMap_eq_nil_iff]
    intro e' he'
    exact tagIdxOf_trial (by simpa [hu] using (List.mem_filter.mp he').2)
  · rename_i hu
    refine filterMap_filter_same _ _ _ fun e' _ hp => tagIdxOf_trial fun hh => hu ?_
    rw [← hh]; simpa using hp

theorem cat_of_heapIdx {s s' : Sim J} {t r : Nat} (h : heapIdx s' t r = heapIdx s t r)
    (hn : s'.next = s.next) (hl : s'.log = s.log) : cat s' t r = cat s t r := by
  unfold cat logIdx nextIdx
  rw [h, hn, hl]

theorem cat_pop {s : Sim J} {e : Ev} {rest : List Ev} (hheap : s.heap = e :: rest)
    (hk : ∀ res tag, e.kind ≠ .result res tag) (t r : Nat) : cat ({ s with heap := rest } : Sim J) t r = cat s t r :=
  cat_of_heapIdx (heapIdx_pop hheap hk t r) rfl rfl

theorem cat_frame {s s' : Sim J} (hh : s'.heap = s.heap) (hn : s'.next = s.next) (hl : s'.log = s.log) (t r : Nat) :
    cat s' t r = cat s t r :=
  cat_of_heapIdx (congrArg (·.filterMap (tagIdxOf t r)) hh) hn hl

/-- a result event arrives: its index moves from the head of the heap to the end of the queue -/
theorem cat_arrive {s : Sim J} {e : Ev} {rest : List Ev} (hheap : s.heap = e :: rest) (res : Res) (tag : Tag)
    (hk : e.kind = .result res tag) (f : STrial → STrial) (t r : Nat) :
    cat ({ (({ s with heap := rest } : Sim J).updT e.trial f) with
            next := aset e.trial ((alookup e.trial s.next).getD [] ++ [⟨res, e.time, tag⟩]) s.next } : Sim J) t r =
      cat s t r := by
  unfold cat logIdx nextIdx heapIdx
  simp only [updT_log, updT_heap]
  rw [hheap, filterMap_cons_toList, alookup_aset, tagIdxOf_result t r e res tag hk]
  by_cases ht : t = e.trial
  · subst ht
    by_cases hr : tag.run = r <;> simp [hr]
  · simp [ht, Ne.symm ht]

theorem logIdx_append_map (log : List LogEntry) (l : List Arrived) (t t' r : Nat) (d : Bool) :
    ((log ++ l.map (fun (a : Arrived) => (⟨t, a.tag, d, a⟩ : LogEntry))).filter
        (fun en => en.trial == t' && en.tag.run == r)).map (·.tag.idx) =
      (log.filter (fun en => en.trial == t' && en.tag.run == r)).map (·.tag.idx) ++
        if t = t' then (l.filter (fun a => a.tag.run == r)).map (·.tag.idx) else [] := by
  rw [List.filter_append, List.map_append, List.filter_map, List.map_map]
  congr 1
  by_cases ht : t = t'
  · subst ht
    simp only [if_true, Function.comp_def, beq_self_eq_true, Bool.true_and]
  · simp [ht, Function.comp_def]

/-- a poll moves the queue of trial `t` to the log -/
theorem cat_flush {s : Sim J} (hnd : (s.next.map (·.1)).Nodup) {t : Nat} {l : List Arrived}
    (hl : alookup t s.next = some l) (d : Bool) (t' r : Nat) : cat (flush s t l d) t' r = cat s t' r := by
  unfold cat logIdx nextIdx heapIdx flush
  dsimp only
  rw [logIdx_append_map, alookup_adel hnd]
  by_cases ht : t' = t
  · subst ht
    simp [hl]
  · simp [ht, Ne.symm ht]

structure Inv1 (s : Sim J) : Prop where
  heapOK : HeapOK s
  nd : (s.next.map (·.1)).Nodup
  fheap : ∀ e ∈ s.heap, ∀ r tag, e.kind = .result r tag → tag.run < runsOf s e.trial
  fnext : ∀ p ∈ s.next, ∀ a ∈ p.2, a.tag.run < runsOf s p.1
  flog : ∀ en ∈ s.log, en.tag.run < runsOf s en.trial
  pre : ∀ t r, ∃ m, logIdx s t r ++ nextIdx s t r ++ heapIdx s t r = List.range m

theorem Inv1.fresh {s : Sim J} (h : Inv1 s) : Fresh s := (fresh_iff s).mpr ⟨h.fheap, h.fnext, h.flog⟩

theorem Inv1.of_fresh {s : Sim J} (hok : HeapOK s) (hnd : (s.next.map (·.1)).Nodup) (hf : Fresh s)
    (hpre : ∀ t r, ∃ m, cat s t r = List.range m) : Inv1 s :=
  have ⟨f1, f2, f3⟩ := (fresh_iff s).mp hf
  ⟨hok, hnd, f1, f2, f3, hpre⟩

theorem range_prefix {l1 l2 : List Nat} {m : Nat} (h : l1 ++ l2 = List.range m) :
    l1 = List.range l1.length ∧ l1.length ≤ m := by
  have hl : l1.length ≤ m := by
    have := congrArg List.length h
    simp at this; omega
  have := congrArg (List.take l1.length) h
  rw [List.take_left, List.take_range, Nat.min_eq_left hl] at this
  exact ⟨this, hl⟩

theorem heapIdx_fresh {s : Sim J} (h : Fresh s) {t r : Nat} (hr : runsOf s t ≤ r) : heapIdx s t r = [] := by
  unfold heapIdx
  rw [List.filterMap_eq_nil_iff]
  intro e he
  cases hf : tagIdxOf t r e with
  | none => rfl
  | some i =>
    obtain ⟨res, tag, hk, ht, htr, _⟩ := tagIdxOf_some hf
    have := ((fresh_iff s).mp h).1 e he res tag hk
    rw [ht, htr] at this
    omega

theorem nextIdx_fresh {s : Sim J} (h : Fresh s) {t r : Nat} (hr : runsOf s t ≤ r) : nextIdx s t r = [] := by
  unfold nextIdx
  cases hl : alookup t s.next with
  | none => rfl
  | some l =>
    simp only [Option.getD_some, List.map_eq_nil_iff, List.filter_eq_nil_iff]
    intro a ha
    have := ((fresh_iff s).mp h).2.1 (t, l) (mem_of_alookup hl) a ha
    simp only at this
    simp; omega

theorem logIdx_fresh {s : Sim J} (h : Fresh s) {t r : Nat} (hr : runsOf s t ≤ r) : logIdx s t r = [] := by
  unfold logIdx
  simp only [List.map_eq_nil_iff, List.filter_eq_nil_iff]
  intro en hen
  have := ((fresh_iff s).mp h).2.2 en hen
  simp only [Bool.and_eq_true, beq_iff_eq, not_and]
  intro ht
  rw [ht] at this
  omega

theorem cat_startResult_same {A : Arith} (hA : AddMono A) {s : Sim J} (h : Inv1 s) (t : Nat) (te : Rat) (x : STrial)
    (js' : J) (status : St) (rs : List Res) (hx : s.trials[t]? = some x)
    (hp : rs.Pairwise (fun a b => a.elapsed ≤ b.elapsed)) :
    cat (startResult A s t te x.runs js' status rs) t x.runs = List.range rs.length := by
  have hxr : runsOf s t ≤ x.runs := Nat.le_of_eq (runsOf_some hx)
  have hno := List.filterMap_eq_nil_iff.mp (heapIdx_fresh h.fresh hxr)
  have : heapIdx (startResult A s t te x.runs js' status rs) t x.runs = List.range rs.length := by
    unfold heapIdx
    show (insertEv _ (resultHeap _ _ _ _ _ _ _ _ _)).filterMap _ = _
    rw [filterMap_insertEv_none _ _ _ (tagIdxOf_kind (by intro _ _ hk; cases hk)),
      resultHeap_filterMap_same A hA _ t te x.runs rs 0 s.added s.heap h.heapOK.sorted h.heapOK.cnt_lt hp
        (fun e he hne => absurd (hno e he) hne),
      List.filterMap_eq_nil_iff.mpr hno, List.nil_append, List.range_eq_range']
  show logIdx s t x.runs ++ nextIdx s t x.runs ++ _ = _
  rw [this, logIdx_fresh h.fresh hxr, nextIdx_fresh h.fresh hxr]
  rfl

theorem heapIdx_startResult_other (A : Arith) (s : Sim J) (t : Nat) (te : Rat) (run : Nat) (js' : J) (status : St)
    (rs : List Res) (t' r' : Nat) (hne : ¬ (t = t' ∧ run = r')) :
    heapIdx (startResult A s t te run js' status rs) t' r' = heapIdx s t' r' := by
  unfold heapIdx
  show (insertEv _ (resultHeap _ _ _ _ _ _ _ _ _)).filterMap _ = _
  rw [filterMap_insertEv_none _ _ _ (tagIdxOf_kind (by intro _ _ hk; cases hk)),
    resultHeap_filterMap_other A _ t te run t' r' hne]


end SyneTune.SimL
