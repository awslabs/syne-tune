import SyneTune.Lemmas.TunerStruct
/-
Behind C01 `notify_polled_partial` (the completeness side of the notifications): every trial whose run is open for the scheduler is in the
running set, hence in every poll — PROVIDED the local `running_trials_ids` of
`_schedule_new_tasks` is never rebound (`RebindOk`).  Without that hypothesis the statement is
false (F15, `C01.notify_polled_counterexample`).  At the end: `RebindOk` holds for free with
`start_jobs_without_delay=True` (`Trans.to_busy`, `rebindOk_of_swd`; used by C01, C01b, C12b).
-/
namespace SyneTune.Tuner
open SyneTune AL

/-- the answer of `busy_trial_ids` is never shorter than the loop's running set (so the branch
`running_trials_ids = set(x[0] for x in busy_trial_ids)` of `_schedule_new_tasks` is not taken) -/
def RebindOk (s : LState) (a : Ans) : Prop :=
  s.pc = .busy → ∀ l, a = .ids l → s.running.length ≤ l.length

/-- the trial has just been started / resumed; `running_trials_ids.add` is the next statement -/
def JustStarted (s : LState) (t : Nat) : Prop := (s.pc = .startCb ∨ s.pc = .resumeCb) ∧ t = s.sId

/-- a trial that is live for the scheduler is in the running set (`tracked`); the other two clauses say that a
trial about to leave the running set (one in `done`, the one completed at `completeCb`) is not live -/
structure PBody (s : LState) : Prop where
  tracked : ∀ t, alookup t s.kst = some .live → t ∈ s.running ∨ JustStarted s t
  doneNotLive : updPc s.pc = true → ∀ t ∈ keys s.done, alookup t s.kst ≠ some .live
  ccb : s.pc = .completeCb → alookup s.t s.kst ≠ some .live

/-- `running_trials_ids` has not been rebound (`loc`), and `PBody` holds inside the loop -/
structure PInv (s : LState) : Prop where
  loc : s.loc = none
  body : finPc s.pc = false → PBody s

theorem PBody.running {s : LState} (h : PBody s) (h1 : s.pc ≠ .startCb) (h2 : s.pc ≠ .resumeCb) {t : Nat}
    (ht : alookup t s.kst = some .live) : t ∈ s.running :=
  (h.tracked t ht).resolve_right fun hj => hj.1.elim h1 h2

/-- which moves leave the clauses alone when no field changes: the target is in the `finally` block, or else the source
is in the loop; it is not one of the two just-started points, so `tracked` has no `JustStarted` alternative; `updPc` is
not newly entered, so `doneNotLive` has a source; and the target is not `completeCb`, so `ccb` is vacuous -/
def okMove (p q : Pc) : Bool :=
  finPc q || (!finPc p && p != .startCb && p != .resumeCb && (!updPc q || updPc p) && q != .completeCb)

structure PSame (s s' : LState) : Prop where
  running : s'.running = s.running
  kst : s'.kst = s.kst
  done : keys s'.done = keys s.done

theorem PInv.same {s s' : LState} (h : PInv s) (hloc : s'.loc = none) (hp : okMove s.pc s'.pc = true)
    (e : PSame s s' := by exact ⟨rfl, rfl, rfl⟩) : PInv s' := by
  obtain ⟨hr, hk, hd⟩ := e
  refine ⟨hloc, fun hf => ?_⟩
  unfold okMove at hp
  rw [hf, Bool.false_or] at hp
  simp only [Bool.and_eq_true, bne_iff_ne, ne_eq, Bool.or_eq_true, Bool.not_eq_true'] at hp
  obtain ⟨⟨⟨⟨hfs, hp1⟩, hp2⟩, hp3⟩, hp4⟩ := hp
  have hb := h.body hfs
  refine ⟨fun t ht' => ?_, fun hu t ht' => ?_, fun hc => ?_⟩
  · exact .inl (hr ▸ hb.running hp1 hp2 (hk ▸ ht'))
  · rw [hd] at ht'; rw [hk]
    rcases hp3 with h3 | h3
    · rw [h3] at hu; cases hu
    · exact hb.doneNotLive h3 t ht'
  · exact absurd hc hp4

/-- a step inside `_process_new_results` that opens no run and leaves the running set alone: the
runs that are open stay tracked; the clauses about `done_trials` are checked in the new state -/
theorem PInv.closing {s s' : LState} (h : PInv s) (hp : updPc s.pc = true) (hfs : finPc s.pc = false)
    (hl : s'.loc = s.loc) (hr : s'.running = s.running)
    (hk : ∀ t, alookup t s'.kst = some .live → alookup t s.kst = some .live)
    (hd : ∀ t ∈ keys s'.done, alookup t s'.kst ≠ some .live)
    (hc : s'.pc = .completeCb → alookup s'.t s'.kst ≠ some .live) : PInv s' := by
  refine ⟨hl ▸ h.loc, fun _ => ⟨fun t ht => .inl ?_, fun _ => hd, hc⟩⟩
  rw [hr]
  exact (h.body hfs).running (fun h2 => by rw [h2] at hp; cases hp) (fun h2 => by rw [h2] at hp; cases hp) (hk t ht)

theorem live_of_aset {k t : Nat} {v : KSt} {l : List (Nat × KSt)} (hv : v ≠ .live)
    (h : alookup t (aset k v l) = some .live) : t ≠ k ∧ alookup t l = some .live := by
  rw [alookup_aset] at h
  split at h
  · injection h with h; exact absurd h hv
  · exact ⟨‹_›, h⟩

theorem PInv.fetched {s s' : LState} (h : PInv s) (hp : s.pc = .fetch) (hq : s'.pc = .cbFetch) (hl : s'.loc = s.loc)
    (hr : s'.running = s.running) (hk : s'.kst = s.kst) (hd : s'.done = []) : PInv s' := by
  refine ⟨by rw [hl]; exact h.loc, fun _ => ?_⟩
  have hb := h.body (by rw [hp]; rfl)
  refine ⟨fun t ht => ?_, fun _ t ht => ?_, fun hc => ?_⟩
  · exact .inl (hr ▸ hb.running (hp ▸ nofun) (hp ▸ nofun) (hk ▸ ht))
  · rw [hd] at ht; cases ht
  · rw [hq] at hc; cases hc

/-- the end of a run is recorded: scheduler state not live any more, trial in `done_trials` -/
theorem PInv.ended {s s' : LState} (h : PInv s) (k : Nat) (v : KSt) (x : St) (hv : v ≠ .live)
    (hp : updPc s.pc = true) (hfs : finPc s.pc = false) (hq' : s'.pc ≠ .completeCb) (hl : s'.loc = s.loc)
    (hr : s'.running = s.running) (hk : s'.kst = aset k v s.kst) (hd : s'.done = aset k x s.done) : PInv s' := by
  refine h.closing hp hfs hl hr (fun t ht => (live_of_aset hv (hk ▸ ht)).2) (fun t ht hc => ?_) fun hc => absurd hc hq'
  obtain ⟨htk, hlv⟩ := live_of_aset hv (hk ▸ hc)
  rw [hd, mem_keys_aset] at ht
  exact ht.elim htk fun ht => (h.body hfs).doneNotLive hp t ht hlv

theorem PInv.completeTold {s : LState} (h : PInv s) (hp : s.pc = .completeS) :
    PInv { s with pc := .completeCb, kst := aset s.t .dead s.kst } := by
  have hv : KSt.dead ≠ .live := nofun
  exact h.closing (hp ▸ rfl) (hp ▸ rfl) rfl rfl (fun t ht => (live_of_aset hv ht).2)
    (fun t ht hc => (h.body (hp ▸ rfl)).doneNotLive (hp ▸ rfl) t ht (live_of_aset hv hc).2)
    fun _ hc => (live_of_aset hv hc).1 rfl

theorem PInv.completeDone {s : LState} (h : PInv s) (hp : s.pc = .completeCb) (x : St) :
    PInv { s with pc := .second, done := aset s.t x s.done } := by
  have hb := h.body (hp ▸ rfl)
  refine h.closing (hp ▸ rfl) (hp ▸ rfl) rfl rfl (fun t ht => ht)
    (fun t (ht : t ∈ keys (aset s.t x s.done)) => ?_) nofun
  rw [mem_keys_aset] at ht
  exact ht.elim (fun ht => ht ▸ hb.ccb hp) (hb.doneNotLive (hp ▸ rfl) t)

theorem PInv.item {s s' : LState} {t : Nat} {st : St} {rest : List (Nat × St)} (h : PInv s) (hp : s.pc = .second)
    (i : Item s t rest st s') : PInv s' := by
  cases i
  case completeCb hl hd hp' =>
    -- straight to the callbacks' `on_trial_complete`: the trial is in `done_trials` already
    have hdn := (h.body (hp ▸ rfl)).doneNotLive (hp ▸ rfl)
    exact h.closing (hp ▸ rfl) (hp ▸ rfl) rfl rfl (fun _ => id) hdn fun _ => hdn t hd
  all_goals exact h.same h.loc (hp ▸ rfl)

theorem PInv.afterUpdate {s : LState} (h : PInv s) (hp : s.pc = .afterUpd) : PInv (Tuner.afterUpdate s) := by
  have hb := h.body (hp ▸ rfl)
  have hnu := afterUpdate_not_upd s
  refine ⟨h.loc, fun _ => ⟨fun t ht => .inl (mem_afterUpdate_running.mpr ⟨?_, fun hk => hb.doneNotLive (hp ▸ rfl) t hk ht⟩),
    fun hu => (nomatch hnu.symm.trans hu), fun hc => by rw [hc] at hnu; cases hnu⟩⟩
  exact hb.running (hp ▸ nofun) (hp ▸ nofun) ht

theorem PInv.opened {s s' : LState} (h : PInv s) (hp : s.pc = .addS ∨ s.pc = .resumeCmd)
    (hq : s'.pc = .startCb ∨ s'.pc = .resumeCb) (hl : s'.loc = s.loc) (hr : s'.running = s.running)
    (hk : s'.kst = aset s.sId .live s.kst) (hi : s'.sId = s.sId) : PInv s' := by
  refine ⟨by rw [hl]; exact h.loc, fun _ => ?_⟩
  have hb := h.body (hp.elim (· ▸ rfl) (· ▸ rfl))
  refine ⟨fun t ht => ?_, fun hu => ?_, fun hc => ?_⟩
  · by_cases htk : t = s.sId
    · exact Or.inr ⟨hq, by rw [hi]; exact htk⟩
    · rw [hk, alookup_aset, if_neg htk] at ht
      exact .inl (hr ▸ hb.running (hp.elim (· ▸ nofun) (· ▸ nofun)) (hp.elim (· ▸ nofun) (· ▸ nofun)) ht)
  · rcases hq with hq | hq <;> (rw [hq] at hu; cases hu)
  · rcases hq with hq | hq <;> (rw [hq] at hc; cases hc)

/-- `running_trials_ids.add(trial_id)` reaches the loop's set because the local name was not rebound -/
theorem PInv.scheduled {s : LState} (h : PInv s) (hp : s.pc = .startCb ∨ s.pc = .resumeCb) :
    PInv (Tuner.scheduled s s.sId) := by
  have hb := h.body (hp.elim (· ▸ rfl) (· ▸ rfl))
  have hloc := h.loc
  have hs : Tuner.scheduled s s.sId =
      { s with running := sadd s.sId s.running, k := s.k - 1, status := s.status.update [(s.sId, .inProgress)] [],
               pc := .suggestNext } := by
    unfold Tuner.scheduled addRunning; rw [hloc]
  rw [hs]
  refine ⟨hloc, fun _ => ⟨fun t ht => ?_, nofun, nofun⟩⟩
  left
  show t ∈ sadd s.sId s.running
  rw [mem_sadd]
  rcases hb.tracked t ht with h1 | h1
  · exact Or.inr h1
  · exact Or.inl h1.2

theorem PInv_trans {s s' : LState} {a : Ans} (h : PInv s) (t : Trans s a s') (hR : RebindOk s a) : PInv s' := by
  cases t
  case fin f => exact ⟨f.loc ▸ h.loc, fun hc => nomatch hc.symm.trans f.tgt⟩
  case raiseEnv => exact h.same h.loc rfl
  case ctl p c => cases c <;> exact h.same h.loc (‹s.pc = _› ▸ rfl)
  case skipResult hpc _ _ => exact h.same h.loc (hpc ▸ rfl)
  case poll hpc => exact h.fetched hpc rfl rfl rfl rfl rfl
  case removedStopped hpc | removedPaused hpc | completeToldPaused hpc _ | errorTold hpc =>
    exact h.ended _ _ _ (by decide) (hpc ▸ rfl) (hpc ▸ rfl) nofun rfl rfl rfl rfl
  case completeTold hpc _ => exact h.completeTold hpc
  case completeCalled hpc => exact h.completeDone hpc _
  case item hpc _ i => exact h.item hpc i
  case updated hpc => exact h.afterUpdate hpc
  case free hpc _ _ | suggestDone hpc _ | exhausted hpc => exact h.same rfl (hpc ▸ rfl)
  -- `running_trials_ids = set(busy)` is the rebinding: excluded by `RebindOk`
  case busyFree l hpc _ =>
    exact h.same (if_neg (Nat.not_lt.mpr (hR hpc l rfl))) (hpc ▸ rfl)
  case addTold hpc => exact h.opened (.inl hpc) (.inl rfl) rfl rfl rfl rfl
  case resumed hpc => exact h.opened (.inr hpc) (.inr rfl) rfl rfl rfl rfl
  case scheduled hpc => rw [← scheduled_eq]; exact h.scheduled hpc
  -- the other transitions leave the running set, the scheduler's view and `done_trials` alone
  all_goals exact h.same h.loc (‹s.pc = _› ▸ rfl)

theorem PInv.reach {c : Cfg} {s : LState} (h : Reach c RebindOk s) : PInv s :=
  h.inv ⟨rfl, fun _ => ⟨fun t ht => (by simp [init, alookup] at ht), nofun, nofun⟩⟩
    (fun _ _ h => ⟨h.loc, fun hf => ⟨(h.body hf).tracked, (h.body hf).doneNotLive, (h.body hf).ccb⟩⟩)
    fun _ hp ih t => PInv_trans ih t hp

/-- the busy list is only asked for with `start_jobs_without_delay=False` -/
theorem Trans.to_busy {s s' : LState} {a : Ans} (t : Trans s a s') (hq : s'.pc = .busy) (hp : s.pc ≠ .busy) :
    ¬s.cfg.swd = true := by
  cases t
  case ctl p c =>
    cases c
    case askBusy _ hw => exact hw
    all_goals cases hq
  case fin f => exact nomatch (congrArg finPc hq).symm.trans f.tgt
  case skipResult => exact absurd hq hp
  case item i =>
    rcases i.pc with h | h
    · rw [hq] at h; cases h
    · exact absurd (h ▸ hq) hp
  case updated => rcases afterUpdate_pc s with h | h | h <;> (rw [h] at hq; cases hq)
  all_goals cases hq

theorem rebindOk_of_swd (c : Cfg) (hs : c.swd = true) (as : List Ans) : Along RebindOk (init c) as := by
  have key : ∀ (as : List Ans) (s : LState), s.cfg.swd = true → s.pc ≠ .busy → Along RebindOk s as := by
    intro as
    induction as with
    | nil => intro _ _ _; trivial
    | cons a as ih =>
      intro s h1 h2
      refine ⟨fun hc => absurd hc h2, ih _ (by rw [step_cfg]; exact h1)
        (by rw [step_pc]; exact fun hq => (next_trans s a).to_busy hq h2 h1)⟩
  exact key as (init c) hs nofun

end SyneTune.Tuner
