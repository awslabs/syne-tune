import SyneTune.Lemmas.PBTQuantiles
/-
One operation of the PBT model and histories of them: `on_trial_result` case by case; an operation
on trial `tid` leaves the record of every other trial alone and never un-stops `tid`; the stack
changes by a pop or by the push of an exploit step only (`step_stack`); properties of states are carried along a
history by `run_induction`.  Last, the mirrored experiment of C15 (mode flipped, metrics negated).
-/
namespace SyneTune.PBT

/-- the scheduler has marked trial `t` stopped -/
def IsStopped (s : State) (t : Nat) : Prop := ∃ st, alookup t s.trials = some st ∧ st.stopped = true

/-- trial `t` is known and not marked stopped -/
def NotStopped (s : State) (t : Nat) : Prop := ∃ st, alookup t s.trials = some st ∧ st.stopped = false

theorem IsStopped.not_notStopped {s : State} {t : Nat} (h1 : IsStopped s t) (h2 : NotStopped s t) : False := by
  obtain ⟨st, ha, hb⟩ := h1
  obtain ⟨st', ha', hb'⟩ := h2
  rw [ha] at ha'; cases ha'
  rw [hb] at hb'; cases hb'

theorem Scored.notStopped {s : State} {t : Nat} {v : Rat} (h : Scored s t v) : NotStopped s t :=
  h.imp fun _ h => ⟨h.1, h.2.1⟩

/-- operation `op` pushes the decision "clone from `src`" -/
def Pushes (p : Params) (s : State) (op : Op) (src : Nat) : Prop := (step p s op).1.stack = src :: s.stack

/-- is `op` a result reported by trial `t`? -/
def isResultOf (t : Nat) : Op → Bool
  | .result tid _ _ _ _ => tid == t
  | _ => false

@[simp] theorem saved_stack (p : Params) (s : State) (tid : Nat) (st : TState) (c m : Rat) :
    (saved p s tid st c m).stack = s.stack := rfl

theorem saved_lookup_self (p : Params) (s : State) (tid : Nat) (st : TState) (c m : Rat) :
    alookup tid (saved p s tid st c m).trials =
      some { st with lastScore := some (signed p.mode m), lastPert := c } := alookup_aset_self _ _ _

theorem saved_lookup_ne (p : Params) (s : State) {tid t : Nat} (h : t ≠ tid) (st : TState) (c m : Rat) :
    alookup t (saved p s tid st c m).trials = alookup t s.trials := alookup_aset_ne h _ _

theorem saved_wf {p : Params} {s : State} (hw : WF s) (tid : Nat) (st : TState) (c m : Rat) :
    WF (saved p s tid st c m) := nodup_keys_aset _ _ hw

theorem markStopped_stack (s : State) (tid : Nat) : (markStopped s tid).stack = s.stack := by
  unfold markStopped
  split <;> rfl

theorem markStopped_lookup_self {s : State} {tid : Nat} {st : TState} (h : alookup tid s.trials = some st) :
    alookup tid (markStopped s tid).trials = some { st with stopped := true } := by
  rw [markStopped, h]
  exact alookup_aset_self _ _ _

theorem markStopped_lookup_ne (s : State) {tid t : Nat} (h : t ≠ tid) :
    alookup t (markStopped s tid).trials = alookup t s.trials := by
  unfold markStopped
  split
  · rfl
  · exact alookup_aset_ne h _ _

theorem markStopped_wf {s : State} (hw : WF s) (tid : Nat) : WF (markStopped s tid) := by
  unfold markStopped
  split
  · exact hw
  · exact nodup_keys_aset _ _ hw

section
variable {p : Params} {s : State} {tid : Nat} {st : TState} {cost metric : Rat} (pick : Option Nat) (kh : Option ℤ)

theorem onResult_unknown (h : alookup tid s.trials = none) :
    onResult p s tid cost metric pick kh = (s, .err .keyError) := by
  simp only [onResult, h]

theorem onResult_maxT (h : alookup tid s.trials = some st) (hc : p.maxT ≤ cost) :
    onResult p s tid cost metric pick kh = (markStopped s tid, .decision .stop none) := by
  simp only [onResult, h, hc, if_true]

theorem onResult_inside (h : alookup tid s.trials = some st) (hc : ¬ p.maxT ≤ cost)
    (hi : cost - st.lastPert < p.interval) :
    onResult p s tid cost metric pick kh = (s, .decision .continue none) := by
  simp only [onResult, h, hc, hi, if_false, if_true]

theorem onResult_keep (h : alookup tid s.trials = some st) (hc : ¬ p.maxT ≤ cost)
    (hi : ¬ cost - st.lastPert < p.interval) (hl : tid ∉ (quantiles p (saved p s tid st cost metric) kh).1) :
    onResult p s tid cost metric pick kh =
      (saved p s tid st cost metric, .decision .continue (some (quantiles p (saved p s tid st cost metric) kh))) := by
  simp only [onResult, h, hc, hi, hl, if_false]

end

/-- the ways `on_trial_result` can end; the first four do not look at the pick; `bad` is an upper bound (any error once
the score is saved, without its guard) -/
inductive ResultCase (p : Params) (s : State) (tid : Nat) (cost metric : Rat) (pick : Option Nat)
    (kh : Option ℤ) : State × Out → Prop
  | unknown (h : alookup tid s.trials = none) : ResultCase p s tid cost metric pick kh (s, .err .keyError)
  | maxT (st : TState) (h : alookup tid s.trials = some st) (hc : p.maxT ≤ cost) :
      ResultCase p s tid cost metric pick kh (markStopped s tid, .decision .stop none)
  | inside (st : TState) (h : alookup tid s.trials = some st) (hc : ¬ p.maxT ≤ cost)
      (hi : cost - st.lastPert < p.interval) : ResultCase p s tid cost metric pick kh (s, .decision .continue none)
  | keep (st : TState) (h : alookup tid s.trials = some st) (hc : ¬ p.maxT ≤ cost)
      (hi : ¬ cost - st.lastPert < p.interval)
      (hl : tid ∉ (quantiles p (saved p s tid st cost metric) kh).1) :
      ResultCase p s tid cost metric pick kh
        (saved p s tid st cost metric, .decision .continue (some (quantiles p (saved p s tid st cost metric) kh)))
  | bad (st : TState) (e : Err) (h : alookup tid s.trials = some st) :
      ResultCase p s tid cost metric pick kh (saved p s tid st cost metric, .err e)
  | push (st : TState) (src : Nat) (h : alookup tid s.trials = some st) (hc : ¬ p.maxT ≤ cost)
      (hi : ¬ cost - st.lastPert < p.interval)
      (hl : tid ∈ (quantiles p (saved p s tid st cost metric) kh).1)
      (hp : pick = some src) (hu : src ∈ (quantiles p (saved p s tid st cost metric) kh).2) (hne : src ≠ tid) :
      ResultCase p s tid cost metric pick kh
        ({ markStopped (saved p s tid st cost metric) tid with stack := src :: s.stack },
         .decision .stop (some (quantiles p (saved p s tid st cost metric) kh)))

theorem onResult_cases (p : Params) (s : State) (tid : Nat) (cost metric : Rat) (pick : Option Nat) (kh : Option ℤ) :
    ResultCase p s tid cost metric pick kh (onResult p s tid cost metric pick kh) := by
  rcases h : alookup tid s.trials with _ | st
  · rw [onResult_unknown pick kh h]; exact .unknown h
  by_cases hc : p.maxT ≤ cost
  · rw [onResult_maxT pick kh h hc]; exact .maxT st h hc
  by_cases hi : cost - st.lastPert < p.interval
  · rw [onResult_inside pick kh h hc hi]; exact .inside st h hc hi
  by_cases hl : tid ∈ (quantiles p (saved p s tid st cost metric) kh).1
  · simp only [onResult, h, hc, hi, hl, if_false, if_true]
    rcases pick with _ | src
    · exact .bad st _ h
    · simp only
      split
      · exact .bad st _ h
      · next hu =>
        split
        · exact .bad st _ h
        · next hne => exact .push st src h hc hi hl rfl (not_not.mp hu) hne
  · rw [onResult_keep pick kh h hc hi hl]; exact .keep st h hc hi hl

theorem onResult_pick (p : Params) (s : State) (tid : Nat) (cost metric : Rat) (kh : Option ℤ) :
    (∀ pick pick', onResult p s tid cost metric pick kh = onResult p s tid cost metric pick' kh) ∨
    ∃ st, ∀ pick d q, (onResult p s tid cost metric pick kh).2 = .decision d q →
      ∃ src, pick = some src ∧ onResult p s tid cost metric pick kh =
        ({ markStopped (saved p s tid st cost metric) tid with stack := src :: s.stack },
         .decision .stop (some (quantiles p (saved p s tid st cost metric) kh))) := by
  rcases h : alookup tid s.trials with _ | st
  · exact .inl fun _ _ => (onResult_unknown _ kh h).trans (onResult_unknown _ kh h).symm
  by_cases hc : p.maxT ≤ cost
  · exact .inl fun _ _ => (onResult_maxT _ kh h hc).trans (onResult_maxT _ kh h hc).symm
  by_cases hi : cost - st.lastPert < p.interval
  · exact .inl fun _ _ => (onResult_inside _ kh h hc hi).trans (onResult_inside _ kh h hc hi).symm
  by_cases hl : tid ∈ (quantiles p (saved p s tid st cost metric) kh).1
  · refine .inr ⟨st, fun pick d q hd => ?_⟩
    have hcs := onResult_cases p s tid cost metric pick kh
    generalize onResult p s tid cost metric pick kh = r at hd hcs ⊢
    cases hcs with
    | unknown _ => cases hd
    | bad st' e _ => cases hd
    | maxT st' _ h2 => exact absurd h2 hc
    | inside st' h8 _ h9 => cases h.symm.trans h8; exact absurd h9 hi
    | keep st' h8 _ _ h9 => cases h.symm.trans h8; exact absurd hl h9
    | push st' src h8 _ _ _ hp _ _ => cases h.symm.trans h8; exact ⟨src, hp, rfl⟩
  · exact .inl fun _ _ => (onResult_keep _ kh h hc hi hl).trans (onResult_keep _ kh h hc hi hl).symm

/-- `s'` keeps the books of `s` but for the record of `tid`: they stay a dict, the record of every
other trial is the same, `tid` stays known and, once stopped, stopped (an upper bound on the change: reflexive and
transitive) -/
def Touches (tid : Nat) (s s' : State) : Prop :=
  (WF s → WF s') ∧ (∀ t, t ≠ tid → alookup t s'.trials = alookup t s.trials) ∧
  ∀ st, alookup tid s.trials = some st →
    ∃ st', alookup tid s'.trials = some st' ∧ (st.stopped = true → st'.stopped = true)

theorem Touches.refl (tid : Nat) (s : State) : Touches tid s s :=
  ⟨id, fun _ _ => rfl, fun st h => ⟨st, h, id⟩⟩

theorem Touches.trans {tid : Nat} {s s₁ s₂ : State} (h1 : Touches tid s s₁) (h2 : Touches tid s₁ s₂) :
    Touches tid s s₂ :=
  ⟨h2.1 ∘ h1.1, fun t ht => (h2.2.1 t ht).trans (h1.2.1 t ht), fun st h => by
    obtain ⟨st₁, e1, m1⟩ := h1.2.2 st h
    obtain ⟨st₂, e2, m2⟩ := h2.2.2 st₁ e1
    exact ⟨st₂, e2, m2 ∘ m1⟩⟩

theorem saved_touches (p : Params) {s : State} {tid : Nat} {st : TState} (h : alookup tid s.trials = some st)
    (c m : Rat) : Touches tid s (saved p s tid st c m) :=
  ⟨fun hw => saved_wf hw tid st c m, fun _ ht => saved_lookup_ne p s ht st c m,
    fun st₀ h₀ => ⟨_, saved_lookup_self p s tid st c m, by cases h.symm.trans h₀; exact id⟩⟩

theorem markStopped_touches (s : State) (tid : Nat) : Touches tid s (markStopped s tid) :=
  ⟨fun hw => markStopped_wf hw tid, fun _ ht => markStopped_lookup_ne s ht,
    fun _ h => ⟨_, markStopped_lookup_self h, fun _ => rfl⟩⟩

theorem onResult_touches (p : Params) (s : State) (tid : Nat) (cost metric : Rat) (pick : Option Nat) (kh : Option ℤ) :
    Touches tid s (onResult p s tid cost metric pick kh).1 := by
  have hc := onResult_cases p s tid cost metric pick kh
  generalize onResult p s tid cost metric pick kh = r at hc ⊢
  cases hc with
  | unknown _ => exact .refl tid s
  | inside st _ _ _ => exact .refl tid s
  | maxT st _ _ => exact markStopped_touches s tid
  | keep st h _ _ _ => exact saved_touches p h cost metric
  | bad st e h => exact saved_touches p h cost metric
  | push st src h _ _ _ _ _ _ => exact (saved_touches p h cost metric).trans (markStopped_touches _ tid)

theorem onSuggest_cases (s : State) :
    (s.stack = [] ∧ onSuggest s = (s, .fresh)) ∨
    (∃ x rest, s.stack = x :: rest ∧ onSuggest s = ({ s with stack := rest }, .clone x)) := by
  unfold onSuggest
  rcases h : s.stack with _ | ⟨x, rest⟩
  · exact Or.inl ⟨rfl, rfl⟩
  · exact Or.inr ⟨x, rest, rfl, rfl⟩

theorem suggest_clone {s : State} {src : Nat} (h : (onSuggest s).2 = .clone src) :
    ∃ rest, s.stack = src :: rest := by
  rcases onSuggest_cases s with ⟨_, h2⟩ | ⟨x, rest, h1, h2⟩
  · rw [h2] at h; cases h
  · rw [h2] at h; cases h; exact ⟨rest, h1⟩

theorem onSuggest_trials (s : State) : (onSuggest s).1.trials = s.trials := by
  unfold onSuggest
  split <;> rfl

theorem step_wf {p : Params} {s : State} (hw : WF s) (op : Op) : WF (step p s op).1 := by
  cases op with
  | add tid => exact nodup_keys_aset _ _ hw
  | result tid c m pk kh => exact (onResult_touches p s tid c m pk kh).1 hw
  | suggest => exact (congrArg (fun tr => (keys tr).Nodup) (onSuggest_trials s)).mpr hw
  | _ => exact hw

theorem step_frame (p : Params) (s : State) {t : Nat} {op : Op} (hadd : op ≠ .add t) (hres : isResultOf t op = false) :
    alookup t (step p s op).1.trials = alookup t s.trials := by
  cases op with
  | add tid => exact alookup_aset_ne (fun h => hadd (congrArg Op.add h.symm)) _ _
  | result tid c m pk kh => exact (onResult_touches p s tid c m pk kh).2.1 t (fun h => by simp [isResultOf, h] at hres)
  | suggest => exact congrArg (alookup t) (onSuggest_trials s)
  | _ => rfl

theorem init_wf : WF State.init := List.nodup_nil

theorem run_cons (p : Params) (s : State) (op : Op) (ops : List Op) :
    run p s (op :: ops) = run p (step p s op).1 ops := rfl

theorem run_append (p : Params) (s : State) (a b : List Op) : run p s (a ++ b) = run p (run p s a) b :=
  List.foldl_append

theorem run_induction {p : Params} {P : State → Prop} {ok : Op → Prop}
    (hstep : ∀ s op, ok op → P s → P (step p s op).1) {s : State} (h : P s) (ops : List Op)
    (hops : ∀ op ∈ ops, ok op) : P (run p s ops) := by
  induction ops generalizing s with
  | nil => exact h
  | cons op ops ih =>
    exact ih (hstep s op (hops op List.mem_cons_self) h) fun o ho => hops o (List.mem_cons_of_mem _ ho)

theorem run_wf_from {p : Params} {s : State} (hw : WF s) (ops : List Op) : WF (run p s ops) :=
  run_induction (P := WF) (ok := fun _ => True) (fun _ op _ hw => step_wf hw op) hw ops fun _ _ => trivial

/-- an exploit step of `on_trial_result`: `Pushes` spelt out (`pushes_spec`; conversely `step_eq` shows the push) -/
structure Exploit (p : Params) (s : State) (tid : Nat) (cost metric : Rat) (kh : Option ℤ) (st : TState) (src : Nat) :
    Prop where
  known : alookup tid s.trials = some st
  lower : tid ∈ (quantiles p (saved p s tid st cost metric) kh).1
  upper : src ∈ (quantiles p (saved p s tid st cost metric) kh).2
  ne : src ≠ tid
  step_eq : step p s (.result tid cost metric (some src) kh) =
    ({ markStopped (saved p s tid st cost metric) tid with stack := src :: s.stack },
     .decision .stop (some (quantiles p (saved p s tid st cost metric) kh)))

theorem Exploit.pushes {p : Params} {s : State} {tid : Nat} {cost metric : Rat} {kh : Option ℤ} {st : TState}
    {src : Nat} (he : Exploit p s tid cost metric kh st src) :
    (step p s (.result tid cost metric (some src) kh)).1.stack = src :: s.stack :=
  congrArg (fun r : State × Out => r.1.stack) he.step_eq

theorem step_stack (p : Params) (s : State) (op : Op) :
    (step p s op).1.stack = s.stack ∨ (∃ x, s.stack = x :: (step p s op).1.stack) ∨
      (∃ src, (step p s op).1.stack = src :: s.stack ∧ ∃ tid cost metric kh st,
        op = .result tid cost metric (some src) kh ∧ Exploit p s tid cost metric kh st src) := by
  cases op with
  | result tid c m pk kh =>
    have hc := onResult_cases p s tid c m pk kh
    simp only [step]
    generalize hr : onResult p s tid c m pk kh = r at hc ⊢
    cases hc with
    | maxT st _ _ => exact .inl (markStopped_stack s tid)
    | push st src h _ _ hl hp hu hne =>
      subst hp
      exact .inr (.inr ⟨src, rfl, tid, c, m, kh, st, rfl,
        { known := h, lower := hl, upper := hu, ne := hne, step_eq := hr }⟩)
    | _ => exact .inl rfl
  | suggest =>
    simp only [step]
    rcases onSuggest_cases s with ⟨_, h2⟩ | ⟨x, rest, h1, h2⟩
    · rw [h2]; exact .inl rfl
    · rw [h2]; exact .inr (.inl ⟨x, h1⟩)
  | _ => exact .inl rfl

/-- the stack grows by one entry in the third case of `step_stack` only -/
theorem pushes_spec {p : Params} {s : State} {op : Op} {src : Nat} (h : Pushes p s op src) :
    ∃ tid cost metric kh st, op = .result tid cost metric (some src) kh ∧ Exploit p s tid cost metric kh st src := by
  unfold Pushes at h
  rcases step_stack p s op with h1 | ⟨x, h1⟩ | ⟨src', h1, he⟩
  · exact absurd (congrArg List.length (h1.symm.trans h)) (by simp)
  · have := congrArg List.length (h1.trans (congrArg _ h))
    simp only [List.length_cons] at this
    omega
  · cases (List.cons.inj (h1.symm.trans h)).1; exact he

theorem stop_cases {p : Params} {s : State} {tid : Nat} {cost metric : Rat} {pick : Option Nat} {kh : Option ℤ}
    {q : Option (List Nat × List Nat)} (h : (step p s (.result tid cost metric pick kh)).2 = .decision .stop q) :
    (∃ st, alookup tid s.trials = some st ∧ p.maxT ≤ cost ∧
      (step p s (.result tid cost metric pick kh)).1 = markStopped s tid) ∨
    (¬ p.maxT ≤ cost ∧ ∃ src st, pick = some src ∧ Exploit p s tid cost metric kh st src) := by
  have hc := onResult_cases p s tid cost metric pick kh
  simp only [step] at h ⊢
  generalize hr : onResult p s tid cost metric pick kh = r at h hc ⊢
  cases hc with
  | maxT st h1 h2 => exact .inl ⟨st, h1, h2, rfl⟩
  | push st src h1 h2 _ hl hp hu hne =>
    subst hp
    exact .inr ⟨h2, src, st, rfl, { known := h1, lower := hl, upper := hu, ne := hne, step_eq := hr }⟩
  | _ => cases h

theorem stack_origin_from (p : Params) (s₀ : State) (ops : List Op) (src : Nat)
    (h : src ∈ (run p s₀ ops).stack) :
    src ∈ s₀.stack ∨ ∃ pre op post, ops = pre ++ op :: post ∧ Pushes p (run p s₀ pre) op src := by
  induction ops generalizing s₀ with
  | nil => exact .inl h
  | cons op ops ih =>
    rcases ih (step p s₀ op).1 h with h' | ⟨pre, op', post, rfl, hp⟩
    · rcases step_stack p s₀ op with h1 | ⟨x, h1⟩ | ⟨src', h1, _⟩
      · exact .inl (h1 ▸ h')
      · exact .inl (h1 ▸ List.mem_cons_of_mem _ h')
      · rcases List.mem_cons.mp (h1 ▸ h') with rfl | h'
        · exact .inr ⟨[], op, ops, rfl, h1⟩
        · exact .inl h'
    · exact .inr ⟨op :: pre, op', post, rfl, hp⟩

theorem step_stopped {p : Params} {s : State} {t : Nat} (h : IsStopped s t) {op : Op} (hop : op ≠ .add t) :
    IsStopped (step p s op).1 t := by
  obtain ⟨st, h1, h2⟩ := h
  cases hr : isResultOf t op with
  | false => exact ⟨st, (step_frame p s hop hr).trans h1, h2⟩
  | true =>
    cases op with
    | result tid c m pk kh =>
      obtain rfl : tid = t := by simpa [isResultOf] using hr
      exact ((onResult_touches p s tid c m pk kh).2.2 st h1).imp fun _ h => ⟨h.1, h.2 h2⟩
    | _ => cases hr

theorem step_notStopped {p : Params} {s : State} {t : Nat} (h : NotStopped s t) {op : Op}
    (hop : isResultOf t op = false) : NotStopped (step p s op).1 t := by
  by_cases ha : op = .add t
  · exact ha ▸ ⟨{}, alookup_aset_self _ _ _, rfl⟩
  · exact h.imp fun _ h => ⟨(step_frame p s ha hop).trans h.1, h.2⟩

theorem run_notStopped {p : Params} {s : State} {t : Nat} (h : NotStopped s t) (ops : List Op)
    (hops : ∀ op ∈ ops, isResultOf t op = false) : NotStopped (run p s ops) t :=
  run_induction (P := (NotStopped · t)) (fun _ _ hop h => step_notStopped h hop) h ops hops

/-- the mirrored experiment: mode flipped -/
def negParams (p : Params) : Params := { p with mode := p.mode.flip }

/-- the mirrored operation: metric negated, everything else (cost, pick, hint) the same -/
def negOp : Op → Op
  | .result tid c m pk kh => .result tid c (-m) pk kh
  | op => op

theorem signed_flip (m : Mode) (v : Rat) : signed m.flip (-v) = signed m v := by
  cases m <;> simp [signed, Mode.flip]

/-- the state stores `_metric_op * metric`: the same number in both experiments -/
theorem saved_symm (p : Params) (s : State) (tid : Nat) (st : TState) (c m : Rat) :
    saved (negParams p) s tid st c (-m) = saved p s tid st c m := by
  simp only [saved, negParams, signed_flip]

theorem quantiles_symm (p : Params) (s : State) (kh : Option ℤ) : quantiles (negParams p) s kh = quantiles p s kh := rfl

theorem onResult_symm (p : Params) (s : State) (tid : Nat) (c m : Rat) (pk : Option Nat) (kh : Option ℤ) :
    onResult (negParams p) s tid c (-m) pk kh = onResult p s tid c m pk kh := by
  simp only [onResult, saved_symm, quantiles_symm]
  rfl

end SyneTune.PBT
