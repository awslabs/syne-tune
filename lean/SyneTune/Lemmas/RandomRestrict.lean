import SyneTune.Model.RandomRestrict
import SyneTune.Lemmas.SearcherRuns
/-
The random searcher with `restrict_configurations` (`Model/RandomRestrict.lean`), which is
the unrestricted searcher when no list is given: the parts of the plain model
(`Model/RandomSearcher.lean`) it is built from, the constructor's filter, and what one
operation does to a state (`XState.step_cases`), on which every theorem about histories
(`Lemmas/RandomRestrictRun.lean`) rests.  Core Lean only.
-/
namespace SyneTune.Srch

/-- the trial is recorded only if duplicates are allowed (and it is new and has a configuration) -/
theorem registerPending_spec (imm : RImm) (s : RState) (tid : Nat) (c : Option Config) :
    s.registerPending imm tid c = s ∨
      imm.allowDup = true ∧ ∃ cf, s.registerPending imm tid c = { s with cfgFor := cf } := by
  unfold RState.registerPending
  split
  · cases c with
    | none => exact Or.inl rfl
    | some cfg => exact Or.inr ⟨‹_ ∧ _›.1, _, rfl⟩
  · exact Or.inl rfl

/-- a failed trial's configuration is excluded from then on, if duplicates are allowed;
otherwise nothing happens (it was excluded when it was suggested).  The configuration and its
match string are named because the docstring of `C06.no_repeat_failed` points here; no proof
uses them. -/
theorem evaluationFailed_spec {imm : RImm} {s s' : RState} {tid : Nat}
    (h : s.evaluationFailed imm tid = .ok s') :
    s' = s ∨ ∃ cfg m, imm.allowDup = true ∧ alookup tid s.cfgFor = some cfg ∧ imm.mkf cfg = .ok m ∧
      s' = { s with excl := exclAdd m s.excl } := by
  unfold RState.evaluationFailed exclAddConfig at h
  split at h
  · split at h
    · rename_i cfg hl
      cases hm : imm.mkf cfg with
      | error e => simp [hm] at h
      | ok m =>
        simp only [hm, Except.ok.injEq] at h
        exact Or.inr ⟨cfg, m, ‹_›, hl, hm, h.symm⟩
    · exact Or.inl (Except.ok.inj h).symm
  · exact Or.inl (Except.ok.inj h).symm

theorem lastIdxFrom_none {m : String} {l : List String} {i : Nat} : lastIdxFrom m l i = none ↔ m ∉ l := by
  fun_induction lastIdxFrom m l i with
  | case1 => exact ⟨fun _ => List.not_mem_nil, fun _ => rfl⟩
  | case2 x xs i p hp ih =>
    exact ⟨nofun, fun h => absurd (ih.2 (List.not_mem_of_not_mem_cons h)) (by rw [hp]; nofun)⟩
  | case3 xs i hn ih => exact ⟨nofun, fun h => absurd List.mem_cons_self h⟩
  | case4 x xs i hn hx ih =>
    exact ⟨fun _ h => (List.mem_cons.1 h).elim (fun e => hx e.symm) (ih.1 hn), fun _ => rfl⟩

/-- the position found holds `m` (`q` counts from the head of the list, which has position `i`).
That it is the last such position is not needed: the lists that matter have no duplicates. -/
theorem lastIdxFrom_some {m : String} {l : List String} {i : Nat} : ∀ {p : Nat}, lastIdxFrom m l i = some p →
    ∃ q, p = i + q ∧ l[q]? = some m := by
  fun_induction lastIdxFrom m l i with
  | case1 => exact nofun
  | case2 x xs i p' hp ih =>
    intro p h
    obtain rfl := Option.some.inj h
    obtain ⟨q, rfl, hq⟩ := ih hp
    exact ⟨q + 1, Nat.succ_add i q, hq⟩
  | case3 xs i hn ih =>
    intro p h
    obtain rfl := Option.some.inj h
    exact ⟨0, rfl, rfl⟩
  | case4 => exact nofun

theorem dropIdxs_sublist {α} (idxs : List Nat) (l : List α) (i : Nat) : (dropIdxs idxs l i).Sublist l := by
  fun_induction dropIdxs idxs l i with
  | case1 => exact .slnil
  | case2 a as i _ ih => exact ih.cons a
  | case3 a as i _ ih => exact ih.cons_cons a

theorem dropIdxs_nil {α} (l : List α) (i : Nat) : dropIdxs [] l i = l := by
  fun_induction dropIdxs [] l i with
  | case1 => rfl
  | case2 a as i h => exact nomatch h
  | case3 a as i _ ih => exact congrArg _ ih

theorem mem_dropIdxs {α} {idxs : List Nat} {a : α} {l : List α} {i : Nat} : a ∈ dropIdxs idxs l i →
    ∃ j, l[j]? = some a ∧ i + j ∉ idxs := by
  fun_induction dropIdxs idxs l i with
  | case1 => exact nofun
  | case2 x xs i hi ih =>
    exact fun h => let ⟨j, hj, hn⟩ := ih h; ⟨j + 1, hj, by rwa [Nat.add_right_comm] at hn⟩
  | case3 x xs i hi ih =>
    intro h
    rcases List.mem_cons.1 h with rfl | h
    · exact ⟨0, rfl, hi⟩
    · exact let ⟨j, hj, hn⟩ := ih h; ⟨j + 1, hj, by rwa [Nat.add_right_comm] at hn⟩

theorem mapMk_map {mk : MK} {l : List Config} : ∀ {mss : List String}, mapMk mk l = .ok mss →
    l.map mk = mss.map .ok := by
  fun_induction mapMk mk l with
  | case1 => exact fun h => Except.ok.inj h ▸ rfl
  | case4 c0 cs m0 hm ms hr ih =>
    exact fun h => Except.ok.inj h ▸ (List.cons_eq_cons.2 ⟨hm, ih hr⟩ : mk c0 :: cs.map mk = .ok m0 :: ms.map .ok)
  | _ => exact fun h => nomatch h

theorem mapMk_getElem? {mk : MK} {l : List Config} {mss : List String} (hm : mapMk mk l = .ok mss) {j : Nat}
    {c : Config} (hc : l[j]? = some c) : ∃ m, mk c = .ok m ∧ mss[j]? = some m := by
  have := congrArg (·[j]?) (mapMk_map hm)
  simp only [List.getElem?_map, hc, Option.map_some] at this
  cases hj : mss[j]? with
  | none => simp [hj] at this
  | some m => exact ⟨m, by simpa [hj] using this, rfl⟩

/-- "the configuration is in the list": its match string is that of a list entry -/
def inMss (mk : MK) (mss : List String) (c : Config) : Bool :=
  match mk c with
  | .ok m => decide (m ∈ mss)
  | .error _ => false

/-- the loop over the initial configurations: those in the list stay, in order; positions
are marked for removal only when duplicates are not allowed, and then for EVERY initial
configuration that stays the last position of its match string is marked -/
theorem filterLoop_spec {mk : MK} {ad : Bool} {mss : List String} {cs : List Config} :
    ∀ {keep : List Config} {rm : List Nat}, filterLoop mk ad mss cs = .ok (keep, rm) →
      keep = cs.filter (inMss mk mss) ∧
      (ad = true → rm = []) ∧
      (ad = false → ∀ c ∈ keep, ∃ m p, mk c = .ok m ∧ lastIdxFrom m mss 0 = some p ∧ p ∈ rm) := by
  fun_induction filterLoop mk ad mss cs with
  | case1 =>
    intro _ _ h
    obtain ⟨rfl, rfl⟩ := Prod.mk.inj (Except.ok.inj h)
    exact ⟨rfl, fun _ => rfl, fun _ => nofun⟩
  | case4 c cs m hm keep rm hr hl ih =>
    intro _ _ h
    obtain ⟨rfl, rfl⟩ := Prod.mk.inj (Except.ok.inj h)
    obtain ⟨i1, i2, i3⟩ := ih hr
    have hout : ¬ inMss mk mss c = true := by
      simp only [inMss, hm, decide_eq_true_eq]
      exact lastIdxFrom_none.1 hl
    exact ⟨by rw [List.filter_cons_of_neg hout, ← i1], i2, i3⟩
  | case5 c cs m hm keep rm hr p hl ih =>
    intro _ _ h
    obtain ⟨rfl, rfl⟩ := Prod.mk.inj (Except.ok.inj h)
    obtain ⟨i1, i2, i3⟩ := ih hr
    have hin : inMss mk mss c = true := by
      simp only [inMss, hm, decide_eq_true_eq]
      exact Classical.not_not.1 fun hc => by rw [lastIdxFrom_none.2 hc] at hl; cases hl
    refine ⟨by rw [List.filter_cons_of_pos hin, ← i1], fun hd => by rw [if_pos hd]; exact i2 hd,
      fun hd c' hc' => ?_⟩
    subst hd
    rcases List.mem_cons.1 hc' with rfl | hc'
    · exact ⟨m, p, hm, hl, .head _⟩
    · exact let ⟨m', p', a, b, hp'⟩ := i3 rfl c' hc'; ⟨m', p', a, b, .tail _ hp'⟩
  | _ => exact fun h => nomatch h

theorem filterPoints_spec {mk : MK} {ad : Bool} {rcArg p2e keep rc : List Config} {rm : List Nat}
    (h : filterPoints mk ad rcArg p2e = .ok (keep, rc, rm)) :
    rcArg ≠ [] ∧ ∃ mss, mapMk mk rcArg = .ok mss ∧ keep = p2e.filter (inMss mk mss) ∧ rc.Sublist rcArg ∧
      (ad = true → rc = rcArg) ∧
      (ad = false → mss.Nodup → ∀ c ∈ keep, ∀ r ∈ rc, mk r ≠ mk c) := by
  unfold filterPoints at h
  split at h
  · cases h
  · have hne : rcArg ≠ [] := fun hc => by simp_all
    cases hm : mapMk mk rcArg with
    | error e => simp [hm] at h
    | ok mss =>
      cases hf : filterLoop mk ad mss p2e with
      | error e => simp [hm, hf] at h
      | ok kr =>
        obtain ⟨rfl, rfl, rfl⟩ : kr.1 = keep ∧ dropIdxs kr.2 rcArg 0 = rc ∧ kr.2 = rm := by
          simpa [hm, hf] using h
        obtain ⟨i1, i2, i3⟩ := filterLoop_spec hf
        refine ⟨hne, mss, rfl, i1, dropIdxs_sublist _ _ _, fun hd => by rw [i2 hd, dropIdxs_nil],
          fun hd hn c hc r hr heq => ?_⟩
        -- an entry that stays does not sit at the position marked for `c`, and `mss` has no duplicates
        obtain ⟨m, p, hmc, hl, hp⟩ := i3 hd c hc
        obtain ⟨j, hj, hnj⟩ := mem_dropIdxs hr
        obtain ⟨m', hm1, hm2⟩ := mapMk_getElem? hm hj
        obtain rfl : m' = m := Except.ok.inj (hm1.symm.trans (heq.trans hmc))
        obtain ⟨q, rfl, hpm⟩ := lastIdxFrom_some hl
        obtain rfl : j = q := (List.getElem?_inj (List.getElem?_eq_some_iff.1 hm2).1 hn).1 (hm2.trans hpm.symm)
        exact hnj hp

theorem construct_spec {imm : RImm} {init l : List Config} {w : World}
    (h : construct imm init (some l) = .ok w) :
    ∃ mss rc, mapMk imm.mkf l = .ok mss ∧
      w = { s := { base := RState.init (init.filter (inMss imm.mkf mss)), rc := some rc, pos := [] },
            caller := l, shared := false } ∧
      l ≠ [] ∧ rc.Sublist l ∧ (imm.allowDup = true → rc = l) ∧
      (imm.allowDup = false → mss.Nodup →
        ∀ c ∈ init.filter (inMss imm.mkf mss), ∀ r ∈ rc, imm.mkf r ≠ imm.mkf c) := by
  simp only [construct] at h
  cases hf : filterPoints imm.mkf imm.allowDup l init with
  | error e => simp [hf] at h
  | ok r =>
    obtain ⟨keep, rc, rm⟩ := r
    obtain rfl : _ = w := by simpa [hf] using h
    obtain ⟨hne, mss, hm, rfl, hsub, hT, hdis⟩ := filterPoints_spec hf
    exact ⟨mss, rc, hm, rfl, hne, hsub, hT, hdis⟩

/-- the configuration the `i`-th draw of the retry loop looks at: the sampled one, or the list
entry at the drawn position -/
def XState.cand (s : XState) (dc : Nat → Config) (di : Nat → Nat) (i : Nat) : Option Config :=
  match s.rc with
  | none => some (dc i)
  | some l => l[di i]?

theorem XState.cand_none {s : XState} (h : s.rc = none) (dc : Nat → Config) (di : Nat → Nat) (i : Nat) :
    s.cand dc di i = some (dc i) := by
  rw [XState.cand, h]

theorem XState.cand_some {s : XState} {l : List Config} (h : s.rc = some l) (dc : Nat → Config) (di : Nat → Nat)
    (i : Nat) : s.cand dc di i = l[di i]? := by
  rw [XState.cand, h]

/-- the `j`-th candidate of a retry loop is an excluded configuration, so the loop goes on -/
def Hit (mk : MK) (excl : List String) (cand : Nat → Option Config) (j : Nat) : Prop :=
  ∃ c, cand j = some c ∧ Excluded mk excl c

abbrev XState.Hit (imm : RImm) (s : XState) (dc : Nat → Config) (di : Nat → Nat) (i : Nat) : Prop :=
  Srch.Hit imm.mkf s.base.excl (s.cand dc di) i

theorem forall_from_succ {P : Nat → Prop} {i : Nat} (hi : P i) ⦃k : Nat⦄ (h : ∀ j, i + 1 ≤ j → j < k → P j) :
    ∀ j, i ≤ j → j < k → P j :=
  fun j h1 h2 => (Nat.eq_or_lt_of_le h1).elim (· ▸ hi) (h j · h2)

/-- Stated over a candidate function `cand` (here `some ∘ draw`), as `restrictLoop_spec` is for the
loop over the list, so that `XState.getConfig_got` reads both through `XState.cand`. -/
theorem sampleLoop_spec {mk : MK} {excl : List String} {draw : Nat → Config} {cand : Nat → Option Config}
    (hcand : ∀ j, cand j = some (draw j)) {fuel i : Nat} :
    ∀ {r : Option Config} {n : Nat}, sampleLoop mk excl draw fuel i = .ok (r, n) →
      (r = none ∧ n = fuel + i ∧ ∀ j, i ≤ j → j < n → Hit mk excl cand j) ∨
      ∃ k c m, r = some c ∧ n = k + 1 ∧ k < fuel + i ∧ cand k = some c ∧ mk c = .ok m ∧ m ∉ excl ∧
        ∀ j, i ≤ j → j < k → Hit mk excl cand j := by
  fun_induction sampleLoop mk excl draw fuel i with
  | case1 i =>
    intro r n h
    obtain ⟨rfl, rfl⟩ := Prod.mk.inj (Except.ok.inj h)
    exact Or.inl ⟨rfl, (Nat.zero_add i).symm, fun j h1 h2 => absurd h1 (Nat.not_le_of_gt (Nat.zero_add i ▸ h2))⟩
  | case2 => exact fun h => nomatch h
  | case3 fuel i m hm hin ih =>
    intro r n h
    have hi := forall_from_succ (P := Hit mk excl cand) ⟨_, hcand i, m, hm, hin⟩
    rcases ih h with ⟨rfl, rfl, hall⟩ | ⟨k, c, m', rfl, rfl, hk', hc, hm', hne, hall⟩
    · exact Or.inl ⟨rfl, (Nat.succ_add fuel i).symm, hi hall⟩
    · exact Or.inr ⟨k, c, m', rfl, rfl, Nat.lt_of_lt_of_eq hk' ((Nat.succ_add fuel i).symm), hc, hm', hne, hi hall⟩
  | case4 fuel i m hm hin =>
    intro r n h
    obtain ⟨rfl, rfl⟩ := Prod.mk.inj (Except.ok.inj h)
    exact Or.inr ⟨i, _, m, rfl, rfl, Nat.lt_add_of_pos_left (Nat.succ_pos _), hcand i, hm, hin,
      fun j h1 h2 => absurd h1 (Nat.not_le_of_gt h2)⟩

theorem restrictLoop_spec {mk : MK} {excl : List String} {rc : List Config} {di : Nat → Nat}
    {cand : Nat → Option Config} (hcand : ∀ j, cand j = rc[di j]?) {fuel i : Nat} :
    ∀ {r : Option (Config × Nat)} {n : Nat}, restrictLoop mk excl rc di fuel i = .ok (r, n) →
      (r = none ∧ n = fuel + i ∧ ∀ j, i ≤ j → j < n → Hit mk excl cand j) ∨
      ∃ k c m, r = some (c, di k) ∧ n = k + 1 ∧ k < fuel + i ∧ cand k = some c ∧ mk c = .ok m ∧ m ∉ excl ∧
        ∀ j, i ≤ j → j < k → Hit mk excl cand j := by
  fun_induction restrictLoop mk excl rc di fuel i with
  | case1 i =>
    intro r n h
    obtain ⟨rfl, rfl⟩ := Prod.mk.inj (Except.ok.inj h)
    exact Or.inl ⟨rfl, (Nat.zero_add i).symm, fun j h1 h2 => absurd h1 (Nat.not_le_of_gt (Nat.zero_add i ▸ h2))⟩
  | case4 fuel i c hc m hm hin ih =>
    intro r n h
    have hi := forall_from_succ (P := Hit mk excl cand)
      ⟨c, (hcand i).trans hc, m, hm, hin⟩
    rcases ih h with ⟨rfl, rfl, hall⟩ | ⟨k, c', m', rfl, rfl, hk', hc', hm', hne, hall⟩
    · exact Or.inl ⟨rfl, (Nat.succ_add fuel i).symm, hi hall⟩
    · exact Or.inr ⟨k, c', m', rfl, rfl, Nat.lt_of_lt_of_eq hk' ((Nat.succ_add fuel i).symm), hc', hm', hne, hi hall⟩
  | case5 fuel i c hc m hm hin =>
    intro r n h
    obtain ⟨rfl, rfl⟩ := Prod.mk.inj (Except.ok.inj h)
    exact Or.inr ⟨i, c, m, rfl, rfl, Nat.lt_add_of_pos_left (Nat.succ_pos _), (hcand i).trans hc, hm, hin,
      fun j h1 h2 => absurd h1 (Nat.not_le_of_gt h2)⟩
  | _ => exact fun h => nomatch h

/-- if every entry of a non-empty list is excluded, the loop gives up (whatever is drawn,
as long as the draws are positions of the list) -/
theorem restrictLoop_all_excluded {mk : MK} {excl : List String} {rc : List Config} {di : Nat → Nat}
    (hall : ∀ c ∈ rc, Excluded mk excl c) (hdi : ∀ i, di i < rc.length) (fuel i : Nat) :
    restrictLoop mk excl rc di fuel i = .ok (none, i + fuel) := by
  fun_induction restrictLoop mk excl rc di fuel i with
  | case1 => rfl
  | case2 _ i hx => exact absurd hx (by rw [List.getElem?_eq_getElem (hdi i)]; nofun)
  | case3 _ _ c hx _ he => exact let ⟨_, hm, _⟩ := hall c (List.mem_of_getElem? hx); nomatch hm.symm.trans he
  | case4 fuel i _ _ _ _ _ ih => exact ih.trans (congrArg (fun n => Except.ok (none, n)) (Nat.succ_add i fuel))
  | case5 _ _ c hx m hm hne =>
    exact let ⟨_, hm', hin⟩ := hall c (List.mem_of_getElem? hx); absurd (Except.ok.inj (hm'.symm.trans hm) ▸ hin) hne

theorem RState.randomConfig_cases {imm : RImm} {s : RState} {draw : Nat → Config} {rn : Option Config × Nat}
    (h : s.randomConfig imm draw = .ok rn) :
    exhausted imm.size s.excl = true ∧ rn = (none, 0) ∨
      sampleLoop imm.mkf s.excl draw imm.maxRetries 0 = .ok rn := by
  unfold RState.randomConfig at h
  split at h
  · exact Or.inl ⟨‹_›, (Except.ok.inj h).symm⟩
  · exact Or.inr h

/-- what answering `c` does to the exclusion set: nothing if duplicates are allowed, else the
match string of `c` is added -/
def Added (imm : RImm) (excl : List String) (c : Config) (ex : List String) : Prop :=
  imm.allowDup = true ∧ ex = excl ∨ imm.allowDup = false ∧ ∃ m, imm.mkf c = .ok m ∧ ex = exclAdd m excl

theorem Added.grown {imm : RImm} {excl ex : List String} {c : Config} (h : Added imm excl c ex) :
    Grown excl ex :=
  h.elim (fun h => Or.inl h.2) fun ⟨_, m, _, h⟩ => Or.inr ⟨m, h⟩

theorem Added.of_noDup {imm : RImm} {excl ex : List String} {c : Config} (h : Added imm excl c ex)
    (hnd : imm.allowDup = false) : ∃ m, imm.mkf c = .ok m ∧ ex = exclAdd m excl :=
  h.elim (fun h => by simp [hnd] at h) (·.2)

/-- One `get_config` between two calls, as a relation between the state before, the state
after and the answer: the next initial configuration (`initial`); `None`, either without a
draw (list used up, or space exhausted) or after `MAX_RETRIES` draws that all met excluded
configurations (`nothing`); or the configuration of the first draw `n` that did not, which,
if duplicates are not allowed, is excluded and taken off the list (`drawn`). -/
inductive XState.Got (imm : RImm) (dc : Nat → Config) (di : Nat → Nat) (s : XState) :
    XState → Option Config → Prop
  | initial {c rest ex} (hp : s.base.p2e = c :: rest) (hex : Added imm s.base.excl c ex) :
      Got imm dc di s { s with base := { s.base with p2e := rest, excl := ex } } (some c)
  | nothing {n} (hp : s.base.p2e = [])
      (why : n = 0 ∧ (s.rc = some [] ∨ s.rc = none ∧ exhausted imm.size s.base.excl = true) ∨
        n = imm.maxRetries ∧ s.rc ≠ some [] ∧ ∀ i, i < n → s.Hit imm dc di i) :
      Got imm dc di s (s.advance n) none
  | drawn {c m n ex} (hp : s.base.p2e = []) (hn : n < imm.maxRetries) (hc : s.cand dc di n = some c)
      (hm : imm.mkf c = .ok m) (fresh : m ∉ s.base.excl) (before : ∀ i, i < n → s.Hit imm dc di i)
      (hex : Added imm s.base.excl c ex) :
      Got imm dc di s
        { base := { s.base with excl := ex, rng := s.base.rng + (n + 1) },
          rc := if imm.allowDup then s.rc else s.rc.map (·.eraseIdx (di n)), pos := [] } (some c)

theorem XState.popReturned_nil (imm : RImm) {s : XState} (c : Config) (h : s.pos = []) :
    s.popReturned imm c = .ok s := by
  unfold XState.popReturned
  cases s.rc <;> simp [h]

theorem XState.finish_some {imm : RImm} {s s' : XState} {c : Config} {o : Option Config}
    (h : XState.finish imm s (some c) = .ok (s', o)) (hpos : s.pos = []) :
    o = some c ∧ ∃ ex, Added imm s.base.excl c ex ∧ s' = { s with base := { s.base with excl := ex } } := by
  obtain ⟨b, rc, pos⟩ := s
  subst hpos
  unfold XState.finish exclAddConfig at h
  cases hd : imm.allowDup with
  | true =>
    simp only [hd, if_true, Except.ok.injEq, Prod.mk.injEq] at h
    exact ⟨h.2.symm, _, Or.inl ⟨hd, rfl⟩, h.1.symm⟩
  | false =>
    cases hm : imm.mkf c with
    | error e => simp [hd, hm] at h
    | ok m =>
      simp only [hd, hm, XState.popReturned_nil, Bool.false_eq_true, if_false, Except.ok.injEq,
        Prod.mk.injEq] at h
      exact ⟨h.2.symm, _, Or.inr ⟨hd, m, hm, rfl⟩, h.1.symm⟩

/-- what a `get_config` does, provided `_rc_returned_pos` is empty before (as it is between
any two calls) -/
theorem XState.getConfig_got {imm : RImm} {s s' : XState} {dc : Nat → Config} {di : Nat → Nat}
    {o : Option Config} (hpos : s.pos = []) (h : s.getConfig imm dc di = .ok (s', o)) :
    XState.Got imm dc di s s' o := by
  unfold XState.getConfig at h
  cases hp : s.base.p2e with
  | cons c rest =>
    simp only [hp] at h
    obtain ⟨rfl, ex, hex, rfl⟩ := XState.finish_some h hpos
    exact .initial hp hex
  | nil =>
    simp only [hp, XState.drawConfig] at h
    cases hrc : s.rc with
    | none =>
      simp only [hrc, XState.drawUnrestricted] at h
      cases hr : s.base.randomConfig imm dc with
      | error e => simp [hr] at h
      | ok rn =>
        obtain ⟨r, n⟩ := rn
        simp only [hr] at h
        rcases RState.randomConfig_cases hr with ⟨hex, he⟩ | hr
        · obtain ⟨rfl, rfl⟩ := Prod.mk.inj he
          obtain ⟨rfl, rfl⟩ := Prod.mk.inj (Except.ok.inj h)
          exact .nothing hp (Or.inl ⟨rfl, Or.inr ⟨hrc, hex⟩⟩)
        · rcases sampleLoop_spec (XState.cand_none hrc dc di) hr with
            ⟨rfl, rfl, hall⟩ | ⟨k, c, m, rfl, rfl, hk, hc, hm, hne, hall⟩
          · obtain ⟨rfl, rfl⟩ := Prod.mk.inj (Except.ok.inj h)
            exact .nothing hp (Or.inr ⟨rfl, by rw [hrc]; nofun, fun i => hall i (Nat.zero_le _)⟩)
          · obtain ⟨rfl, ex, hex, rfl⟩ := XState.finish_some h hpos
            have := XState.Got.drawn hp hk hc hm hne
              (fun i => hall i (Nat.zero_le _)) hex
            -- `Got.drawn` names its post-state literally; `hrc`, `hpos` turn `s.rc`, `s.pos` into those literals
            simpa [XState.advance, hrc, hpos] using this
    | some l =>
      simp only [hrc, XState.drawRestricted] at h
      by_cases hl : l = []
      · subst hl
        obtain ⟨rfl, rfl⟩ := Prod.mk.inj (Except.ok.inj h)
        exact .nothing (n := 0) hp (Or.inl ⟨rfl, Or.inl hrc⟩)
      · have hne : s.rc ≠ some [] := fun e => hl (Option.some.inj (hrc.symm.trans e))
        simp only [List.isEmpty_iff, hl, if_false] at h
        cases hr : restrictLoop imm.mkf s.base.excl l di imm.maxRetries 0 with
        | error e => simp [hr] at h
        | ok rn =>
          obtain ⟨r, n⟩ := rn
          simp only [hr] at h
          rcases restrictLoop_spec (XState.cand_some hrc dc di) hr with
            ⟨rfl, rfl, hall⟩ | ⟨k, c, m, rfl, rfl, hk, hc, hm, hnm, hall⟩
          · obtain ⟨rfl, rfl⟩ := Prod.mk.inj (Except.ok.inj h)
            exact .nothing hp (Or.inr ⟨rfl, hne, fun i => hall i (Nat.zero_le _)⟩)
          · have hg := fun ex => XState.Got.drawn (ex := ex) hp hk hc hm hnm
              (fun i => hall i (Nat.zero_le _))
            cases hd : imm.allowDup with
            | true =>
              obtain ⟨rfl, rfl⟩ : (s.advance (k + 1)) = s' ∧ some c = o := by
                simpa [XState.finish, XState.afterLoop, XState.markReturned, hd] using h
              simpa [XState.advance, hd, hpos] using hg _ (Or.inl ⟨hd, rfl⟩)
            | false =>
              -- `_rc_returned_pos` was empty and now holds the drawn position alone; there the loop
              -- finds the entry just returned, whose match string is `m`, and takes it off the list
              have hpop : popLoop imm.mkf m l [di k] = .ok (l.eraseIdx (di k)) := by
                simp [popLoop, ← XState.cand_some hrc dc di, hc, hm]
              obtain ⟨rfl, rfl⟩ : XState.mk { s.base with excl := exclAdd m s.base.excl, rng := s.base.rng + (k + 1) }
                  (some (l.eraseIdx (di k))) [] = s' ∧ some c = o := by
                simpa [XState.finish, XState.afterLoop, XState.markReturned, hd, exclAddConfig, hm,
                  XState.popReturned, XState.advance, hrc, hpos, setAdd, hpop] using h
              simpa [hd, hrc] using hg _ (Or.inr ⟨hd, m, hm, rfl⟩)

theorem XState.getConfig_all_excluded {imm : RImm} {s : XState} {rc : List Config} {dc : Nat → Config}
    {di : Nat → Nat} (hrc : s.rc = some rc) (hp : s.base.p2e = [])
    (hall : ∀ c ∈ rc, Excluded imm.mkf s.base.excl c) (hdi : ∀ i, rc ≠ [] → di i < rc.length) :
    ∃ n, s.getConfig imm dc di = .ok (s.advance n, none) := by
  unfold XState.getConfig XState.drawConfig XState.drawRestricted
  by_cases hne : rc = []
  · exact ⟨0, by simp only [hp, hrc, hne, List.isEmpty_nil, if_true]; rfl⟩
  · simp only [hp, hrc, List.isEmpty_iff, hne, if_false,
      restrictLoop_all_excluded hall (fun i => hdi i hne)]
    exact ⟨0 + imm.maxRetries, rfl⟩

theorem XState.Got.grown {imm : RImm} {dc : Nat → Config} {di : Nat → Nat} {s s' : XState} {o : Option Config}
    (h : XState.Got imm dc di s s' o) :
    Grown s.base.excl s'.base.excl := by
  cases h with
  | initial _ hex => exact hex.grown
  | nothing => exact Or.inl rfl
  | drawn _ _ _ _ _ _ hex => exact hex.grown

theorem XState.Got.pos {imm : RImm} {dc : Nat → Config} {di : Nat → Nat} {s s' : XState} {o : Option Config}
    (h : XState.Got imm dc di s s' o) (hpos : s.pos = []) : s'.pos = [] := by
  cases h with
  | initial => exact hpos
  | nothing => exact hpos
  | drawn => rfl

/-- What anything but an answered configuration does to a state; every invariant of a history
has to survive it (`frame` of `XState.run_induction`). -/
def XState.Quiet (imm : RImm) (s s1 : XState) : Prop :=
  ∃ ex cf rng, s1 = { s with base := { s.base with excl := ex, cfgFor := cf, rng := rng } } ∧
    Grown s.base.excl ex ∧ (imm.allowDup = false → ex = s.base.excl)

theorem XState.Quiet.advance (imm : RImm) (s : XState) (n : Nat) : XState.Quiet imm s (s.advance n) :=
  ⟨_, _, _, rfl, Or.inl rfl, fun _ => rfl⟩

theorem XState.step_other {imm : RImm} {dc : Nat → Config} {di : Nat → Nat} {s s' : XState} {op : ROp}
    {o : Option (Option Config)} (hop : op ≠ .get) (h : XState.step imm dc di s op = .ok (s', o)) :
    o = none ∧ XState.Quiet imm s s' := by
  cases op with
  | get => exact absurd rfl hop
  | pending tid c =>
    obtain ⟨rfl, rfl⟩ : s.registerPending imm tid c = s' ∧ none = o := by simpa [XState.step] using h
    rcases registerPending_spec imm s.base tid c with h | ⟨hd, cf, h⟩
    · exact ⟨rfl, _, _, _, by rw [XState.registerPending, h], Or.inl rfl, fun _ => rfl⟩
    · exact ⟨rfl, _, cf, _, by rw [XState.registerPending, h], Or.inl rfl, fun hc => by simp [hd] at hc⟩
  | failed tid =>
    simp only [XState.step, XState.evaluationFailed] at h
    cases hf : s.base.evaluationFailed imm tid with
    | error e => simp [hf] at h
    | ok b =>
      obtain ⟨rfl, rfl⟩ : { s with base := b } = s' ∧ none = o := by simpa [hf] using h
      rcases evaluationFailed_spec hf with rfl | ⟨cfg, m, hd, -, -, rfl⟩
      · exact ⟨rfl, _, _, _, rfl, Or.inl rfl, fun _ => rfl⟩
      · exact ⟨rfl, _, _, _, rfl, Or.inr ⟨m, rfl⟩, fun hc => by simp [hd] at hc⟩
  | result tid =>
    obtain ⟨rfl, rfl⟩ : s = s' ∧ none = o := by simpa [XState.step] using h
    exact ⟨rfl, _, _, _, rfl, Or.inl rfl, fun _ => rfl⟩

/-- one operation on a state between two calls: a `get_config` against the tapes as the
generator stands, or no answer and the change `XState.step_other` describes -/
theorem XState.step_cases {imm : RImm} {dc : Nat → Config} {di : Nat → Nat} {s s1 : XState} {op : ROp}
    {o : Option (Option Config)} (hpos : s.pos = []) (h : XState.step imm dc di s op = .ok (s1, o)) :
    s1.pos = [] ∧
      ((∃ o1, o = some o1 ∧
          XState.Got imm (fun i => dc (s.base.rng + i)) (fun i => di (s.base.rng + i)) s s1 o1) ∨
        o = none ∧ XState.Quiet imm s s1) := by
  by_cases hop : op = .get
  · subst hop
    simp only [XState.step] at h
    split at h
    · obtain ⟨rfl, rfl⟩ := Prod.mk.inj (Except.ok.inj h)
      have hg := XState.getConfig_got hpos ‹_›
      exact ⟨hg.pos hpos, Or.inl ⟨_, rfl, hg⟩⟩
    · cases h
  · obtain ⟨rfl, hq⟩ := XState.step_other hop h
    obtain ⟨ex, cf, rng, rfl, -⟩ := id hq
    exact ⟨hpos, Or.inr ⟨rfl, hq⟩⟩

end SyneTune.Srch
