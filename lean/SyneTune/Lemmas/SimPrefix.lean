import SyneTune.Lemmas.SimIdx
import SyneTune.Lemmas.SimCmd
/-
Order of delivery in the simulator.  `Inv1` is kept field by field by every `Prim`: heap order
(`HeapOK.prim`), queue keys (`Prim.nd`), freshness (`Fresh.prim`), and the indices of a run, which a step
leaves alone, cuts off (stop event) or creates as `0, 1, …` (start event) (`Prim.cat_step`); hence along
histories (`sim_prefix_run`).  Second half: after a resume with nothing queued, what is delivered belongs
to runs started since (`ResumeInv`, `sim_resume_fresh_run`).
-/
namespace SyneTune.SimL
open SyneTune SyneTune.Backend

variable {J : Type}

def JobSorted (job : JobFn J) : Prop :=
  ∀ js t js' st rs, job js t = .ok (js', st, rs) → rs.Pairwise (fun a b => a.elapsed ≤ b.elapsed)

structure SortedOn (H : J → J → Prop) (Q : J → Prop) (job : JobFn J) : Prop where
  job : ∀ js t js' st rs, Q js → job js t = .ok (js', st, rs) → Q js' ∧ rs.Pairwise (fun a b => a.elapsed ≤ b.elapsed)
  hook : ∀ js js', H js js' → Q js → Q js'

theorem JobSorted.on {job : JobFn J} (h : JobSorted job) : SortedOn (fun _ _ => True) (fun _ => True) job :=
  ⟨fun js t js' st rs _ hj => ⟨trivial, h js t js' st rs hj⟩, fun _ _ _ _ => trivial⟩

theorem SortedOn.keeps {A : Arith} {job : JobFn J} {H : J → J → Prop} {Q : J → Prop} (hjob : SortedOn H Q job)
    {s s' : Sim J} (hp : Prim A job H s s') (hq : Q s.js) : Q s'.js := by
  cases hp with
  | event _ _ hev =>
    rcases processEvent_cases hev with ⟨x, js', st, rs, _, _, hj, rfl⟩ | ⟨st, nat, _, _, rfl⟩ | ⟨_, rfl⟩ | ⟨r, tag, _, _, rfl⟩
    · exact (hjob.job _ _ _ _ _ hq hj).1
    all_goals exact hq
  | hook hh => exact hjob.hook _ _ hh hq
  | deliver ids => exact (deliver_frame s ids).js ▸ hq
  | _ => exact hq

theorem tabJob_sortedOn (A : Arith) (hA : AddGe A) : SortedOn TabHook (fun js : TabState => 0 ≤ js.minStep) (tabJob A) :=
  ⟨fun js t js' st rs hq h =>
      ⟨consts_minStep (tabJob_stable A js js' t st rs h).consts_eq ▸ hq, SimTab.tabJob_sorted A js js' t st rs (fun a => hA a _ hq) h⟩,
    fun _ _ hh hq => consts_minStep hh.1 ▸ hq⟩

section prim
variable {A : Arith} {job : JobFn J} {H : J → J → Prop} {Q : J → Prop} {s s' : Sim J}

theorem Inv1.of_cat (h : Inv1 s) (hok : HeapOK s') (hnd : (s'.next.map (·.1)).Nodup) (hin : ∀ k : Tok, k.In s' → k.In s)
    (hro : ∀ u, runsOf s' u = runsOf s u) (hcat : ∀ t r, cat s' t r = cat s t r) : Inv1 s' :=
  Inv1.of_fresh hok hnd (fun k hk => hro k.trial ▸ h.fresh k (hin k hk)) fun t r => (h.pre t r).imp fun _ hm => (hcat t r).trans hm

theorem Inv1.frame (h : Inv1 s) (hh : s'.heap = s.heap) (ha : s'.added = s.added) (hn : s'.next = s.next)
    (hl : s'.log = s.log) (hr : ∀ t, runsOf s' t = runsOf s t) : Inv1 s' :=
  h.of_cat (h.heapOK.of_eq hh ha) (hn ▸ h.nd) (fun _ hk => hk.of_eq hh hn hl) hr (cat_frame hh hn hl)

theorem Inv1.pop {e : Ev} {rest : List Ev} (h : Inv1 s) (hheap : s.heap = e :: rest)
    (hk : ∀ res tag, e.kind ≠ .result res tag) : Inv1 ({ s with heap := rest } : Sim J) :=
  h.of_cat (h.heapOK.sub (hheap ▸ List.sublist_cons_self e rest) rfl) h.nd
    (fun _ hk => hk.of_sub (fun _ he => hheap ▸ List.mem_cons_of_mem _ he) (fun _ h => h) (fun _ h => h)) (fun _ => rfl)
    (cat_pop hheap hk)

theorem Inv1.resumed (h : Inv1 s) (t : Nat) (q : Bool) : Inv1 (s.updT t (STrial.resumed q)) :=
  h.frame rfl rfl rfl rfl fun _ => runsOf_updT _ _ _ _ fun _ => rfl

theorem Prim.nd (hp : Prim A job H s s') (h : (s.next.map (·.1)).Nodup) : (s'.next.map (·.1)).Nodup := by
  cases hp with
  | event _ _ hev =>
    rcases processEvent_cases hev with ⟨x, js', st, rs, _, _, _, rfl⟩ | ⟨st, nat, _, _, rfl⟩ | ⟨_, rfl⟩ | ⟨r, tag, _, _, rfl⟩
    · exact h
    · exact h
    · exact h
    · exact nodup_keys_aset _ _ h
  | deliver ids => rw [dropRest_next]; exact List.nodup_nil
  | _ => exact h

theorem Prim.cat_step (hA : AddMono A) (hjob : SortedOn H Q job) (hp : Prim A job H s s') (hq : Q s.js) (h : Inv1 s)
    (t r : Nat) : cat s' t r = cat s t r ∨ (NoEv t s'.heap ∧ cat s t r = cat s' t r ++ heapIdx s t r) ∨
      (runsOf s t = r ∧ ∃ n, cat s' t r = List.range n) := by
  cases hp with
  | @event _ e rest hheap _ hev =>
    have hpop : (∀ res tag, e.kind ≠ .result res tag) → cat ({ s with heap := rest } : Sim J) t r = cat s t r :=
      fun hk => cat_pop hheap hk t r
    rcases processEvent_cases hev with ⟨x, js', st, rs, hk, hx, hj, rfl⟩ | ⟨st, nat, hk, _, rfl⟩ | ⟨hk, rfl⟩ | ⟨res, tag, hk, _, rfl⟩
    · by_cases hc : e.trial = t ∧ x.runs = r
      · obtain ⟨rfl, rfl⟩ := hc
        exact Or.inr (Or.inr ⟨runsOf_some hx, _,
          cat_startResult_same hA (h.pop hheap (hk ▸ nofun)) _ _ x js' st rs hx (hjob.job _ _ _ _ _ hq hj).2⟩)
      · exact Or.inl ((cat_of_heapIdx (heapIdx_startResult_other A _ _ _ x.runs js' st rs t r hc) rfl rfl).trans
          (hpop (hk ▸ nofun)))
    · exact Or.inl ((cat_frame rfl rfl rfl t r).trans (hpop (hk ▸ nofun)))
    · by_cases ht : t = e.trial
      · refine Or.inr (Or.inl ⟨fun e' he' => ht ▸ by simpa using (List.mem_filter.mp he').2, ?_⟩)
        show _ = logIdx s t r ++ nextIdx s t r ++ heapIdx (Sim.processStop _ e.trial) t r ++ _
        rw [heapIdx_stop, if_pos ht, List.append_nil]
        rfl
      · have : heapIdx (Sim.processStop ({ s with heap := rest } : Sim J) e.trial) t r =
            heapIdx ({ s with heap := rest } : Sim J) t r := by rw [heapIdx_stop, if_neg ht]
        exact Or.inl ((cat_of_heapIdx this rfl rfl).trans (hpop (hk ▸ nofun)))
    · exact Or.inl (cat_arrive hheap res tag hk _ t r)
  | push tm u hk _ => exact Or.inl (cat_of_heapIdx (heapIdx_push s tm u _ hk t r) rfl rfl)
  | deliver ids =>
    exact Or.inl (deliver_induct (fun x => (x.next.map (·.1)).Nodup ∧ cat x t r = cat s t r)
      (fun x _ _ d hl hx => ⟨nodup_keys_adel _ hx.1, (cat_flush hx.1 hl d t r).trans hx.2⟩) s ids ⟨h.nd, rfl⟩).2
  | _ => exact Or.inl (cat_frame rfl rfl rfl t r)

theorem Inv1.prim (hA : AddMono A) (hjob : SortedOn H Q job) (s s' : Sim J) (hp : Prim A job H s s') (hq : Q s.js)
    (h : Inv1 s) :
    Inv1 s' := by
  refine Inv1.of_fresh (HeapOK.prim _ _ hp h.heapOK) (hp.nd h.nd) (Fresh.prim hp h.fresh) fun t r => ?_
  obtain ⟨m, hm⟩ := h.pre t r
  change cat s t r = _ at hm
  rcases hp.cat_step hA hjob hq h t r with hc | ⟨_, hc⟩ | ⟨_, hn⟩
  · exact ⟨m, hc.trans hm⟩
  · exact ⟨_, (range_prefix (hc.symm.trans hm)).1⟩
  · exact hn

end prim

theorem Inv1.processUntil {A : Arith} {job : JobFn J} (hA : AddMono A) (hjob : JobSorted job) {fuel : Nat}
    {s s' : Sim J} (h : Inv1 s) (hp : Sim.processUntil A job fuel s = .ok s') : Inv1 s' :=
  (processUntil_path hp).keeps (fun _ _ hp h => Inv1.prim hA hjob.on _ _ hp trivial h) h

theorem Inv1.run {A : Arith} {job : JobFn TabState} {Q : TabState → Prop} (hA : AddMono A)
    (hjob : SortedOn TabHook Q job) (ops : List SOp) {s s' : TB} (hq : Q s.js) (h : Inv1 s)
    (hs : TB.run A job s ops = .ok s') : Inv1 s' :=
  (run_induct_on (fun _ _ hp => hjob.keeps hp)
    (Inv1.prim hA hjob)
    (fun _ t q h => h.resumed t q) ops hq h hs).2

theorem Inv1.init (cfg : SimCfg) (js : TabState) : Inv1 (TB.init cfg js) := by
  refine ⟨HeapOK.init cfg js, by simp [TB.init], ?_, ?_, ?_, ?_⟩
  · intro e he; simp [TB.init] at he
  · intro p hp; simp [TB.init] at hp
  · intro en hen; simp [TB.init] at hen
  · intro t r; exact ⟨0, by simp [logIdx, nextIdx, heapIdx, TB.init, alookup]⟩

theorem sim_prefix_run {Q : TabState → Prop} (A : Arith) (job : JobFn TabState) (hA : AddMono A)
    (hjob : SortedOn TabHook Q job) (cfg : SimCfg) (js : TabState) (hq : Q js) (ops : List SOp) (s' : TB)
    (h : TB.run A job (TB.init cfg js) ops = .ok s') :
    ∀ t r, ∃ m, logIdx s' t r ++ nextIdx s' t r ++ heapIdx s' t r = List.range m :=
  (Inv1.run hA hjob ops hq (Inv1.init cfg js) h).pre

/-! ### predicates that look at heap, arrived results, log and the ghost fields `runs`, `since`,
`droppedSince`, `expectRun`, `queuedAtResume` of the trials -/

structure Keep (A : Arith) (job : JobFn TabState) (P : TB → Prop) : Prop where
  ev : ∀ (s : TB) (e : Ev) (rest : List Ev) (s' : TB), P s → s.heap = e :: rest →
      ({ s with heap := rest } : TB).processEvent A job e = .ok s' → P s'
  frame : ∀ (s s' : TB), P s → s'.heap = s.heap → s'.added = s.added → s'.next = s.next → s'.log = s.log →
      s'.trials.map rv = s.trials.map rv → P s'
  push : ∀ (s : TB) (tm : Rat) (t : Nat) (k : EvKind), (∀ r tag, k ≠ .result r tag) → P s → P (s.push tm t k)
  fetch : ∀ (s : TB) (ids : List Nat), P s → P (dropRest (fetchCovered s ids).1 (fetchCovered s ids).1.next)
  newTrial : ∀ (s : TB), P s → P ({ s with trials := s.trials ++ [{}] } : TB)

section keep
variable {A : Arith} {job : JobFn TabState} {P : TB → Prop} {H : TabState → TabState → Prop}

theorem Keep.prim (hp : Keep A job P) (s s' : TB) (h : Prim A job H s s') (hs : P s) : P s' := by
  cases h with
  | event hh _ hev => exact hp.ev _ _ _ _ hs hh hev
  | push tm t hk _ => exact hp.push _ tm t _ hk hs
  | newTrial => exact hp.newTrial _ hs
  | flags hrv _ => exact hp.frame _ _ hs rfl rfl rfl rfl hrv
  | deliver ids => exact hp.fetch _ ids hs
  | _ => exact hp.frame _ _ hs rfl rfl rfl rfl rfl

theorem Keep.advance (hp : Keep A job P) {s s' : TB} {step : Rat} (h : P s) (ha : s.advance A step = .ok s') : P s' :=
  (advance_path (H := fun _ _ => True) ha).keeps hp.prim h

theorem Keep.schedule (hp : Keep A job P) {s s' : TB} {t : Nat} (h : P s) (hs : s.schedule A job t = .ok s') : P s' :=
  (schedule_path (H := fun _ _ => True) hs).keeps hp.prim h

end keep

/-- trial `t` since its last resume, when nothing was queued then: `expectRun` is the first run started
since; every result of `t` that waits (`pend_ge`) or was delivered since (`since_ge`) belongs to such a run; and while
nothing was dropped, `since` is all of the log of these runs (`log_eq`) -/
structure RT (s : Sim J) (t : Nat) (x : STrial) : Prop where
  expect_le : x.expectRun ≤ x.runs
  pend_ge : ∀ k : Tok, k.Pend s → k.trial = t → x.expectRun ≤ k.tag.run
  since_ge : ∀ tag ∈ x.since, x.expectRun ≤ tag.run
  log_eq : x.droppedSince = false → ∀ q, x.expectRun ≤ q →
      logIdx s t q = (x.since.filter (·.run == q)).map (·.idx)

/-- `RT` for every trial that was resumed (or started) with an empty queue -/
def ResumeInv (s : Sim J) : Prop :=
  ∀ (t : Nat) (x : STrial), s.trials[t]? = some x → x.queuedAtResume = false → RT s t x

/-- `x'` is the record `x` after a step that is no resume and no poll -/
structure SameSince (x x' : STrial) : Prop where
  runs : x.runs ≤ x'.runs
  since : x'.since = x.since
  dropped : x'.droppedSince = x.droppedSince
  expect : x'.expectRun = x.expectRun
  queued : x'.queuedAtResume = x.queuedAtResume

theorem SameSince.rfl {x : STrial} : SameSince x x := ⟨Nat.le_refl _, .refl _, .refl _, .refl _, .refl _⟩

theorem RT.weaken {s s' : Sim J} {t : Nat} {x x' : STrial} (h : RT s t x)
    (hp : ∀ k : Tok, k.Pend s' → k.trial = t → k.Pend s ∨ x.runs ≤ k.tag.run)
    (hl : ∀ q, logIdx s' t q = logIdx s t q) (hx : SameSince x x') : RT s' t x' := by
  refine ⟨by rw [hx.expect]; exact h.expect_le.trans hx.runs, fun k hk ht => ?_, by rw [hx.since, hx.expect]; exact h.since_ge,
    fun hd q hq => ?_⟩
  · rw [hx.expect]; exact (hp k hk ht).elim (h.pend_ge k · ht) h.expect_le.trans
  · rw [hl, hx.since]; exact h.log_eq (hx.dropped ▸ hd) q (hx.expect ▸ hq)

theorem rec_of_rv {l l' : List STrial} (h : l'.map rv = l.map rv) (u : Nat) (x' : STrial) (hx' : l'[u]? = some x') :
    ∃ x, l[u]? = some x ∧ SameSince x x' := by
  obtain ⟨x, hx, hrv⟩ := map_get h hx'
  simp only [rv, Prod.mk.injEq] at hrv
  exact ⟨x, hx, Nat.le_of_eq hrv.1, hrv.2.1.symm, hrv.2.2.1.symm, hrv.2.2.2.1.symm, hrv.2.2.2.2.symm⟩

theorem ResumeInv.weaken {s s' : Sim J} (h : ResumeInv s)
    (hrec : ∀ (u : Nat) x', s'.trials[u]? = some x' → ∃ x, s.trials[u]? = some x ∧ SameSince x x')
    (hp : ∀ k : Tok, k.Pend s' → k.Pend s ∨ runsOf s k.trial ≤ k.tag.run) (hl : s'.log = s.log) : ResumeInv s' := by
  intro t x' hx' hq
  obtain ⟨x, hx, hxx⟩ := hrec t x' hx'
  refine (h t x hx (hxx.queued.symm.trans hq)).weaken
    (fun k hk ht => (hp k hk).imp_right fun hb => ?_) (fun q => by unfold logIdx; rw [hl]) hxx
  rwa [ht, runsOf_some hx] at hb

theorem ResumeInv.of_flush {s : Sim J} (h : ResumeInv s) {t : Nat} {l : List Arrived} (hl : alookup t s.next = some l) (d : Bool) :
    ResumeInv (flush s t l d) := by
  intro u x' hx' hq
  have hlog : ∀ q, logIdx (flush s t l d) u q =
      logIdx s u q ++ if t = u then (l.filter (fun a => a.tag.run == q)).map (·.tag.idx) else [] :=
    fun q => logIdx_append_map s.log l t u q d
  have hpend : ∀ k : Tok, k.Pend (flush s t l d) → k.Pend s := fun k hk => hk.of_sub (fun _ h => h) (fun _ => mem_adel)
  obtain ⟨x, hx, ⟨hu, rfl⟩ | ⟨rfl, rfl⟩⟩ := getElem?_modifyAt_some hx'
  · refine (h u x hx hq).weaken (fun k hk _ => Or.inl (hpend k hk)) (fun q => ?_) .rfl
    rw [hlog, if_neg (Ne.symm hu), List.append_nil]
  · have h0 := h u x hx (by cases d <;> exact hq)
    have hr2 := fun k hk => h0.pend_ge k (hpend k hk)
    cases d with
    | true =>
      refine ⟨h0.expect_le, hr2, ?_, ?_⟩
      · intro tag htag
        rcases List.mem_append.mp htag with htag | htag
        · exact h0.since_ge tag htag
        · obtain ⟨a, ha, rfl⟩ := List.mem_map.mp htag
          exact h0.pend_ge ⟨u, a.res, a.time, a.tag⟩ (Or.inr ⟨l, mem_of_alookup hl, ha⟩) rfl
      · intro hd q hq'
        rw [hlog, h0.log_eq hd q hq']
        simp only [flushT, if_true, List.filter_append, List.map_append, List.filter_map, List.map_map]
        rfl
    | false =>
      refine ⟨h0.expect_le, hr2, h0.since_ge, ?_⟩
      intro hd q hq'
      simp only [flushT, Bool.or_eq_false_iff, decide_eq_false_iff_not, not_not] at hd
      rw [hlog, hd.2]
      simp only [List.filter_nil, List.map_nil, ite_self, List.append_nil]
      exact h0.log_eq hd.1 q hq'

/-- `ResumeInv` is kept only together with `Inv1`: a trial that is new or just resumed has no log entry of a run
not yet started -/
def Inv2 (s : Sim J) : Prop := Inv1 s ∧ ResumeInv s

theorem Inv2.prim {A : Arith} {job : JobFn J} {H : J → J → Prop} {Q : J → Prop} (hA : AddMono A)
    (hjob : SortedOn H Q job) (s s' : Sim J) (hp : Prim A job H s s') (h : Q s.js ∧ Inv2 s) : Q s'.js ∧ Inv2 s' := by
  obtain ⟨hq, h1, h2⟩ := h
  refine ⟨hjob.keeps hp hq, Inv1.prim hA hjob _ _ hp hq h1, ?_⟩
  have hpend : ∀ k : Tok, k.Pend s' → k.Pend s ∨ runsOf s k.trial ≤ k.tag.run :=
    fun k hk => (hp.pend hk).imp_right fun hb => Nat.le_of_eq hb.run_eq
  have same : ∀ (u : Nat) x', s.trials[u]? = some x' → ∃ x, s.trials[u]? = some x ∧ SameSince x x' :=
    fun _ x' hx' => ⟨x', hx', .rfl⟩
  cases hp with
  | @event _ e rest _ _ hev =>
    rcases processEvent_cases hev with ⟨x, js', st, rs, _, _, _, rfl⟩ | ⟨st, nat, _, _, rfl⟩ | ⟨_, rfl⟩ | ⟨res, tag, _, _, rfl⟩
    · -- a start event: `runs` of the trial grows by one
      refine h2.weaken (fun u x' hx' => ?_) hpend rfl
      obtain ⟨x0, hx0, ⟨_, rfl⟩ | ⟨_, rfl⟩⟩ := getElem?_modifyAt_some hx'
      · exact ⟨x0, hx0, .rfl⟩
      · exact ⟨x0, hx0, Nat.le_succ _, rfl, rfl, rfl, rfl⟩
    · exact h2.weaken (rec_of_rv (map_updT _ _ (fun y => rfl))) hpend rfl
    · exact h2.weaken same hpend rfl
    · exact h2.weaken (rec_of_rv (map_updT ({ s with heap := rest } : Sim J) _ (fun y => by split <;> rfl))) hpend rfl
  | newTrial =>
    intro u x hx hq
    rcases newTrial_get hx with hx | ⟨hu, rfl⟩
    · exact (h2 u x hx hq).weaken (fun k hk _ => Or.inl hk) (fun _ => rfl) .rfl
    · refine ⟨Nat.le_refl _, fun _ _ _ => Nat.zero_le _, (by intro tag htag; cases htag), ?_⟩
      intro _ q _
      have hro : runsOf s u = 0 := by
        unfold runsOf
        rw [List.getElem?_eq_none (by omega)]; rfl
      exact logIdx_fresh h1.fresh (t := u) (r := q) (by omega)
  | flags hrv _ => exact h2.weaken (rec_of_rv hrv) hpend rfl
  | deliver ids => exact deliver_induct ResumeInv (fun _ _ _ d hl h => h.of_flush hl d) s ids h2
  | _ => exact h2.weaken same hpend rfl

theorem Inv2.resumeTrial {A : Arith} {job : JobFn J} {H : J → J → Prop} {Q : J → Prop} (hA : AddMono A)
    (hjob : SortedOn H Q job) (hjs : JobStatusOK job) {s s' : Sim J} {t : Nat} {setCfg : J → J}
    (hH : H s.js (setCfg s.js)) (hc : CmdInv s) (h : Q s.js ∧ Inv2 s)
    (hs : s.resumeTrial A job t setCfg = .ok s') : Q s'.js ∧ Inv2 s' := by
  obtain ⟨s2, x2, hp, _, hx2, hno, rfl⟩ := hc.resume_pre hjs hs
  have i2 : Q s2.js ∧ Inv2 s2 := Path.keeps (Inv2.prim hA hjob) (hp.head (.hook s hH)) h
  have i3 := (Inv2.prim hA hjob _ _ (.push s2 (A.add s2.now s2.cfg.dStart) t (k := .start) (by intro _ _ hk; cases hk) (by intro _ _ hk; cases hk)) i2)
  refine ⟨i3.1, i3.2.1.frame rfl rfl rfl rfl (fun u => runsOf_updT _ _ _ _ (fun y => rfl)), ?_⟩
  intro u x' hx' hq
  obtain ⟨y, hy, ⟨_, rfl⟩ | ⟨rfl, rfl⟩⟩ := getElem?_modifyAt_some hx'
  · exact (i3.2.2 u y hy hq).weaken (fun k hk _ => Or.inl hk) (fun _ => rfl) .rfl
  · cases hx2.symm.trans hy
    have hq' : (alookup u s2.next).isSome = false := hq
    refine ⟨Nat.le_refl _, fun k hk ht => ?_, (by intro tag htag; cases htag), ?_⟩
    · -- nothing of the trial waits: no event, and the queue is empty
      rcases hk.of_push (s := s2) (by intro _ _ hk; cases hk) with ⟨e, he, ht', _⟩ | ⟨l, hl, _⟩
      · exact absurd (ht'.trans ht) (hno e he)
      · rw [Option.isSome_eq_false_iff, Option.isNone_iff_eq_none, alookup_eq_none_iff] at hq'
        exact absurd (List.mem_map.mpr ⟨_, hl, ht⟩) hq'
    · intro _ q hq'
      exact logIdx_fresh i2.2.1.fresh (t := u) (r := q) (by rw [runsOf_some hx2]; exact hq')

theorem Inv2.step {A : Arith} {job : JobFn TabState} {Q : TabState → Prop} (hA : AddMono A)
    (hjob : SortedOn TabHook Q job) (hjs : JobStatusOK job) {s s' : TB} {op : SOp} (hc : CmdInv s)
    (h : Q s.js ∧ Inv2 s) (hs : TB.step A job s op = .ok s') : Q s'.js ∧ Inv2 s' := by
  cases op with
  | resume t nc =>
    simp only [TB.step] at hs
    exact Inv2.resumeTrial hA hjob hjs (by cases nc <;> exact ⟨rfl, rfl⟩) hc h hs
  | _ =>
    obtain ⟨s1, hp, rfl | ⟨_, _, _, hop, _⟩⟩ := step_path hs
    · exact hp.keeps (Inv2.prim hA hjob) h
    · cases hop

theorem Inv2.run {A : Arith} {job : JobFn TabState} {Q : TabState → Prop} (hA : AddMono A) (hA2 : AddGe A)
    (hjob : SortedOn TabHook Q job) (hjs : JobStatusOK job) (ops : List SOp) {s s' : TB}
    (hc : CmdInv s) (h : Q s.js ∧ Inv2 s) (hs : TB.run A job s ops = .ok s') : Inv2 s' :=
  (run_steps (P := fun s => CmdInv s ∧ Q s.js ∧ Inv2 s)
    (fun _ _ _ h h1 => ⟨h.1.step hA2 hjs h1, Inv2.step hA hjob hjs h.1 h.2 h1⟩) ops ⟨hc, h⟩ hs).2.2

theorem Inv2.init (cfg : SimCfg) (js : TabState) : Inv2 (TB.init cfg js) :=
  ⟨Inv1.init cfg js, fun t x hx => by simp [TB.init] at hx⟩

/-- `C02.sim_resume_fresh_partial` for a general job -/
theorem sim_resume_fresh_run {Q : TabState → Prop} (A : Arith) (job : JobFn TabState) (hA : AddMono A) (hA2 : AddGe A)
    (hjob : SortedOn TabHook Q job) (hjs : JobStatusOK job)
    (cfg : SimCfg) (js : TabState) (hq : Q js) (hg : 0 ≤ cfg.guard) (ops : List SOp) (s' : TB)
    (h : TB.run A job (TB.init cfg js) ops = .ok s') :
    ∀ (t : Nat) (x : STrial), s'.trials[t]? = some x → x.queuedAtResume = false → x.droppedSince = false →
      ∀ tag, x.since.head? = some tag → tag.idx = 0 ∧ x.expectRun ≤ tag.run := by
  obtain ⟨i1, i2⟩ := Inv2.run hA hA2 hjob hjs ops (CmdInv.init cfg js hg) ⟨hq, Inv2.init cfg js⟩ h
  intro t x hx hq hd tag htag
  have h0 := i2 t x hx hq
  cases hsince : x.since with
  | nil => rw [hsince] at htag; cases htag
  | cons tg rest =>
    rw [hsince] at htag
    cases htag
    have hrun : x.expectRun ≤ tag.run := h0.since_ge tag (by rw [hsince]; exact List.mem_cons_self)
    refine ⟨?_, hrun⟩
    -- the delivered indices of the run start the sequence `0, 1, …`
    have h4 := h0.log_eq hd tag.run hrun
    rw [hsince] at h4
    simp only [List.filter_cons, beq_self_eq_true, if_true, List.map_cons] at h4
    obtain ⟨m, hm⟩ := i1.pre t tag.run
    rw [h4] at hm
    cases m with
    | zero => simp at hm
    | succ m =>
      rw [List.range_succ_eq_map] at hm
      exact (List.cons.inj hm).1

end SyneTune.SimL
