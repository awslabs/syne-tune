import SyneTune.Lemmas.TunerBasic
/-
Lemmas about `Model/TuningStatus.lean`.  For C17: order facts about `XRat.lt`, the per-key view (`KStat`) of
`MetricsStatistics.add`, `firstMin`, `argBest`.  For the loop (C01b, C12, C12b, C13-loop): `TuningStatus.update` and
`mark_running_job_as_stopped` field by field, and the counters `numIn`, `numStarted`.
-/
namespace SyneTune.Tuner
open SyneTune AL

theorem XRat.lt_irrefl (a : XRat) : a.lt a = false := by
  cases a <;> simp [XRat.lt]

theorem XRat.lt_ne_nan {a b : XRat} (h : a.lt b = true) : a ≠ .nan ∧ b ≠ .nan := by
  cases a <;> cases b <;> simp_all [XRat.lt]

theorem XRat.lt_trans {a b c : XRat} (h1 : a.lt b = true) (h2 : b.lt c = true) : a.lt c = true := by
  cases a <;> cases b <;> cases c <;> simp_all [XRat.lt]
  exact Rat.not_le.mp fun hca => Rat.not_le.mpr h2 (Rat.le_trans hca (Rat.le_of_lt h1))

theorem XRat.lt_total {a b : XRat} (ha : a ≠ .nan) (hb : b ≠ .nan) :
    a.lt b = true ∨ a = b ∨ b.lt a = true := by
  cases a <;> cases b <;> simp_all [XRat.lt]
  rename_i a b
  by_cases h : a ≤ b
  · exact (Rat.le_iff_lt_or_eq.mp h).imp_right Or.inl
  · exact Or.inr (Or.inr (Rat.not_le.mp h))

theorem XRat.lt_asymm {a b : XRat} (h : a.lt b = true) : b.lt a = false := by
  cases hba : b.lt a
  · rfl
  · have := XRat.lt_trans h hba
    rw [XRat.lt_irrefl] at this; cases this

theorem XRat.lt_negtrans {a b c : XRat} (hb : b ≠ .nan)
    (h1 : a.lt b = false) (h2 : b.lt c = false) : a.lt c = false := by
  cases hac : a.lt c
  · rfl
  · rcases XRat.lt_total (XRat.lt_ne_nan hac).1 hb with h | rfl | h
    · rw [h] at h1; cases h1
    · rw [hac] at h2; cases h2
    · rw [XRat.lt_trans h hac] at h2; cases h2

theorem XRat.lt_pinf (x : XRat) : x.lt .pinf = true ↔ x ≠ .nan ∧ x ≠ .pinf := by
  cases x <;> simp [XRat.lt]

theorem XRat.ninf_lt (x : XRat) : XRat.ninf.lt x = true ↔ x ≠ .nan ∧ x ≠ .ninf := by
  cases x <;> simp [XRat.lt]

theorem XRat.pinf_lt (x : XRat) : XRat.pinf.lt x = false := by
  cases x <;> simp [XRat.lt]

theorem XRat.lt_ninf (x : XRat) : x.lt .ninf = false := by
  cases x <;> simp [XRat.lt]

theorem XRat.neg_neg (x : XRat) : x.neg.neg = x := by
  cases x <;> simp [XRat.neg]

theorem XRat.neg_ne_nan {x : XRat} : x.neg ≠ .nan ↔ x ≠ .nan := by
  cases x <;> simp [XRat.neg]

theorem XRat.neg_lt_neg (a b : XRat) : a.neg.lt b.neg = b.lt a := by
  cases a <;> cases b <;> simp [XRat.neg, XRat.lt]

/-- `a` strictly better than `b` under the mode (`true`: `<`, `false`: `>`).  Python's `min(a, b)` and
`max(a, b)` both keep `a` unless `b` is strictly better, so one set of lemmas serves both. -/
def better (useMin : Bool) (a b : XRat) : Bool := if useMin then a.lt b else b.lt a

theorem better_irrefl (u : Bool) (a : XRat) : better u a a = false := by
  cases u <;> exact XRat.lt_irrefl a

theorem better_ne_nan {u : Bool} {a b : XRat} (h : better u a b = true) : a ≠ .nan ∧ b ≠ .nan := by
  cases u
  · exact (XRat.lt_ne_nan h).symm
  · exact XRat.lt_ne_nan h

theorem better_asymm {u : Bool} {a b : XRat} (h : better u a b = true) : better u b a = false := by
  cases u <;> exact XRat.lt_asymm h

theorem better_negtrans {u : Bool} {a b c : XRat} (hb : b ≠ .nan)
    (h1 : better u a b = false) (h2 : better u b c = false) : better u a c = false := by
  cases u
  · exact XRat.lt_negtrans hb h2 h1
  · exact XRat.lt_negtrans hb h1 h2

theorem pyMin_better (a b : XRat) : pyMin a b = if better true b a then b else a := rfl
theorem pyMax_better (a b : XRat) : pyMax a b = if better false b a then b else a := rfl

section pick
variable {u : Bool} {f : XRat → XRat → XRat} (hf : ∀ a b, f a b = if better u b a then b else a)
include hf

theorem pick_ne_nan {a : XRat} (b : XRat) (ha : a ≠ .nan) : f a b ≠ .nan := by
  rw [hf]; split
  · next h => exact (better_ne_nan h).1
  · exact ha

theorem pick_left (a b : XRat) : better u a (f a b) = false := by
  rw [hf]; split
  · next h => exact better_asymm h
  · exact better_irrefl u a

/-- vacuous when `b` is NaN: every comparison is false -/
theorem pick_right (a b : XRat) : better u b (f a b) = false := by
  rw [hf]; split
  · exact better_irrefl u b
  · next h => simpa using h

theorem pick_eq (a b : XRat) : f a b = a ∨ f a b = b := by
  rw [hf]; split
  · exact Or.inr rfl
  · exact Or.inl rfl

/-- running optimum: never NaN (for a non-NaN start), at least as good as the start and as every
non-NaN element, and attained. -/
theorem foldl_pick_spec (xs : List XRat) (a : XRat) (ha : a ≠ .nan) :
    xs.foldl f a ≠ .nan ∧ better u a (xs.foldl f a) = false ∧
    (∀ v ∈ xs, v ≠ .nan → better u v (xs.foldl f a) = false) ∧
    (xs.foldl f a = a ∨ xs.foldl f a ∈ xs) := by
  induction xs generalizing a with
  | nil => exact ⟨ha, better_irrefl u a, nofun, Or.inl rfl⟩
  | cons x xs ih =>
    have ha' := pick_ne_nan hf x ha
    obtain ⟨h1, h2, h3, h4⟩ := ih (f a x) ha'
    refine ⟨h1, better_negtrans ha' (pick_left hf a x) h2, fun v hv hvn => ?_, ?_⟩
    · rcases List.mem_cons.mp hv with rfl | hv
      · exact better_negtrans ha' (pick_right hf a v) h2
      · exact h3 v hv hvn
    · rcases h4 with h4 | h4
      · rw [List.foldl_cons, h4]
        exact (pick_eq hf a x).imp id fun e => by rw [e]; exact List.mem_cons_self
      · exact Or.inr (List.mem_cons_of_mem _ h4)

end pick

/-- the numeric values reported for key `k` in a sequence of result dicts, in order -/
def valsOf (k : Nat) (rs : List Metrics) : List XRat :=
  rs.filterMap (fun m => match alookup k m with | some (Val.num x) => some x | _ => none)

/-- every value reported for `k` is a number -/
def AllNum (k : Nat) (rs : List Metrics) : Prop :=
  ∀ m ∈ rs, ∀ v, alookup k m = some v → v.isNum = true

/-- dict keys are unique -/
def KeysUnique (m : Metrics) : Prop := (m.map (·.1)).Nodup

/-- `for r in rs: stats.add(r)` -/
def foldAdd (s : MStat) (rs : List Metrics) : MStat := rs.foldl MStat.add s

theorem foldAdd_nil (s : MStat) : foldAdd s [] = s := rfl
theorem foldAdd_cons (s : MStat) (m : Metrics) (rs : List Metrics) :
    foldAdd s (m :: rs) = foldAdd (s.add m) rs := rfl

theorem addOne_count (s : MStat) (kv : Nat × Val) : (s.addOne kv).count = s.count := by
  unfold MStat.addOne
  split
  · cases kv.2 <;> rfl
  · rfl

theorem foldl_addOne_count (m : Metrics) (s : MStat) : (m.foldl MStat.addOne s).count = s.count := by
  induction m generalizing s with
  | nil => rfl
  | cons kv m ih => simp only [List.foldl_cons]; rw [ih, addOne_count]

theorem add_count (s : MStat) (m : Metrics) : (s.add m).count = s.count + 1 := by
  unfold MStat.add
  simp only [foldl_addOne_count]

theorem foldAdd_count (rs : List Metrics) (s : MStat) : (foldAdd s rs).count = s.count + rs.length := by
  induction rs generalizing s with
  | nil => rfl
  | cons m rs ih => rw [foldAdd_cons, ih, add_count, List.length_cons]; omega

/-- no value stored in the association list is NaN -/
def NoNan (l : List (Nat × XRat)) : Prop := ∀ k x, alookup k l = some x → x ≠ .nan

theorem NoNan_nil : NoNan [] := nofun

theorem NoNan_aset {l : List (Nat × XRat)} (h : NoNan l) (k : Nat) {v : XRat} (hv : v ≠ .nan) :
    NoNan (aset k v l) := by
  intro k' x hx
  rw [alookup_aset] at hx
  split at hx
  · injection hx with hx; rw [← hx]; exact hv
  · exact h k' x hx

theorem getD_ne_nan {o : Option XRat} {d : XRat} (h : ∀ x, o = some x → x ≠ .nan) (hd : d ≠ .nan) :
    o.getD d ≠ .nan := by
  cases o with
  | none => exact hd
  | some x => exact h x rfl

theorem addOne_noNan (s : MStat) (kv : Nat × Val) (h : NoNan s.mins ∧ NoNan s.maxs) :
    NoNan (s.addOne kv).mins ∧ NoNan (s.addOne kv).maxs := by
  unfold MStat.addOne
  split
  · cases kv.2 with
    | num x =>
      exact ⟨NoNan_aset h.1 _ (pick_ne_nan pyMin_better _ (getD_ne_nan (h.1 _) nofun)),
             NoNan_aset h.2 _ (pick_ne_nan pyMax_better _ (getD_ne_nan (h.2 _) nofun))⟩
    | other => exact h
  · exact h

theorem add_noNan (s : MStat) (m : Metrics) (h : NoNan s.mins ∧ NoNan s.maxs) :
    NoNan (s.add m).mins ∧ NoNan (s.add m).maxs := by
  show NoNan (m.foldl MStat.addOne s).mins ∧ NoNan (m.foldl MStat.addOne s).maxs
  induction m generalizing s with
  | nil => exact h
  | cons kv m ih => exact ih _ (addOne_noNan s kv h)

theorem foldAdd_noNan (rs : List Metrics) (s : MStat) (h : NoNan s.mins ∧ NoNan s.maxs) :
    NoNan (foldAdd s rs).mins ∧ NoNan (foldAdd s rs).maxs := by
  induction rs generalizing s with
  | nil => exact h
  | cons m rs ih => exact ih _ (add_noNan s m h)

/-- the statistics of one metric key: `is_numeric.get(k)`, `min_metrics.get(k)`, … -/
structure KStat where
  isNum : Option Bool := none
  mins : Option XRat := none
  maxs : Option XRat := none
  sums : Option XRat := none

def MStat.proj (s : MStat) (k : Nat) : KStat :=
  ⟨alookup k s.isNum, alookup k s.mins, alookup k s.maxs, alookup k s.sums⟩

/-- the loop body of `MetricsStatistics.add` seen from the key it touches. -/
def KStat.step (p : KStat) (v : Val) : KStat :=
  if p.isNum.getD true then
    match v with
    | .num x => ⟨some true, some (pyMin (p.mins.getD .pinf) x), some (pyMax (p.maxs.getD .ninf) x),
                  some ((p.sums.getD (.fin 0)).add x)⟩
    | .other => { p with isNum := some false }
  else p

theorem proj_empty (k : Nat) : ({} : MStat).proj k = {} := by
  simp [MStat.proj, alookup]

theorem proj_addOne (s : MStat) (kv : Nat × Val) (k : Nat) :
    (s.addOne kv).proj k = if kv.1 = k then (s.proj k).step kv.2 else s.proj k := by
  obtain ⟨k', v⟩ := kv
  by_cases h : k' = k
  · subst h
    simp only [if_true]
    unfold MStat.addOne KStat.step MStat.proj
    cases hn : (alookup k' s.isNum).getD true
    · simp
    · cases v <;> simp [MStat.addNum, alookup_aset_self]
  · have h' : k ≠ k' := fun e => h e.symm
    simp only [h, if_false]
    unfold MStat.addOne MStat.proj
    split
    · cases v <;> simp [MStat.addNum, alookup_aset_ne h']
    · rfl

theorem KStat.step_latched {p : KStat} (h : p.isNum = some false) (v : Val) : p.step v = p := by
  unfold KStat.step; simp [h]

/-- **latch**: once `is_numeric[k]` is `False`, nothing stored for `k` changes. -/
theorem proj_foldl_addOne_latched (m : Metrics) (s : MStat) (k : Nat)
    (h : (s.proj k).isNum = some false) : (m.foldl MStat.addOne s).proj k = s.proj k := by
  induction m generalizing s with
  | nil => rfl
  | cons kv m ih =>
    have e : (s.addOne kv).proj k = s.proj k := by
      rw [proj_addOne]; split
      · exact KStat.step_latched h _
      · rfl
    simp only [List.foldl_cons]
    rw [ih _ (by rw [e]; exact h), e]

theorem proj_add (s : MStat) (m : Metrics) (k : Nat) :
    (s.add m).proj k = (m.foldl MStat.addOne s).proj k := rfl

theorem proj_foldAdd_latched (rs : List Metrics) (s : MStat) (k : Nat) (h : (s.proj k).isNum = some false) :
    (foldAdd s rs).proj k = s.proj k := by
  induction rs generalizing s with
  | nil => rfl
  | cons m rs ih =>
    have e : (s.add m).proj k = s.proj k := proj_foldl_addOne_latched m s k h
    rw [foldAdd_cons, ih _ (e ▸ h), e]

theorem alookup_eq_none_of_not_mem {β} (k : Nat) (l : List (Nat × β)) (h : k ∉ l.map (·.1)) :
    alookup k l = none :=
  alookup_eq_none_iff.mpr h

theorem proj_foldl_addOne_not_mem (m : Metrics) (s : MStat) (k : Nat) (h : k ∉ m.map (·.1)) :
    (m.foldl MStat.addOne s).proj k = s.proj k := by
  induction m generalizing s with
  | nil => rfl
  | cons kv m ih =>
    simp only [List.map_cons, List.mem_cons, not_or] at h
    simp only [List.foldl_cons]
    rw [ih _ h.2, proj_addOne]
    have : kv.1 ≠ k := fun e => h.1 e.symm
    simp [this]

def KStat.stepOpt (p : KStat) : Option Val → KStat
  | none => p
  | some v => p.step v

/-- with unique keys the dict loop is one `step` with the value stored under the key. -/
theorem proj_foldl_addOne (m : Metrics) (hm : KeysUnique m) (s : MStat) (k : Nat) :
    (m.foldl MStat.addOne s).proj k = (s.proj k).stepOpt (alookup k m) := by
  induction m generalizing s with
  | nil => rfl
  | cons kv m ih =>
    obtain ⟨k', v⟩ := kv
    unfold KeysUnique at hm
    simp only [List.map_cons, List.nodup_cons] at hm
    simp only [List.foldl_cons]
    by_cases h : k = k'
    · subst h
      rw [proj_foldl_addOne_not_mem _ _ _ hm.1, proj_addOne]
      simp [alookup, KStat.stepOpt]
    · rw [ih hm.2, proj_addOne]
      have : k' ≠ k := fun e => h e.symm
      simp [alookup, h, this]

theorem proj_foldAdd (rs : List Metrics) (h : ∀ m ∈ rs, KeysUnique m) (s : MStat) (k : Nat) :
    (foldAdd s rs).proj k = (rs.filterMap (fun m => alookup k m)).foldl KStat.step (s.proj k) := by
  induction rs generalizing s with
  | nil => rfl
  | cons m rs ih =>
    rw [foldAdd_cons, ih (fun m' hm' => h m' (List.mem_cons_of_mem _ hm')), proj_add,
      proj_foldl_addOne m (h m (by simp))]
    cases hk : alookup k m <;> simp [hk, KStat.stepOpt]

theorem filterMap_allNum (k : Nat) (rs : List Metrics) (h : AllNum k rs) :
    rs.filterMap (fun m => alookup k m) = (valsOf k rs).map Val.num := by
  induction rs with
  | nil => rfl
  | cons m rs ih =>
    have ih' := ih (fun m' hm' => h m' (List.mem_cons_of_mem _ hm'))
    have hm := h m (by simp)
    unfold valsOf at ih' ⊢
    cases hk : alookup k m with
    | none => simp [hk, ih']
    | some v =>
      cases v with
      | num x => simp [hk, ih']
      | other => have := hm _ hk; simp [Val.isNum] at this

theorem KStat.foldl_step_nums (xs : List XRat) (x : XRat) (p : KStat) (hp : p.isNum ≠ some false) :
    ((x :: xs).map Val.num).foldl KStat.step p =
      ⟨some true, some ((x :: xs).foldl pyMin (p.mins.getD .pinf)),
        some ((x :: xs).foldl pyMax (p.maxs.getD .ninf)),
        some ((x :: xs).foldl XRat.add (p.sums.getD (.fin 0)))⟩ := by
  have hstep : ∀ (p : KStat), p.isNum ≠ some false → ∀ y, p.step (.num y) =
      ⟨some true, some (pyMin (p.mins.getD .pinf) y), some (pyMax (p.maxs.getD .ninf) y),
        some ((p.sums.getD (.fin 0)).add y)⟩ := by
    intro p hp y
    have : p.isNum.getD true = true := by
      cases hi : p.isNum with
      | none => rfl
      | some b => cases b
                  · exact absurd hi hp
                  · rfl
    unfold KStat.step; simp [this]
  induction xs generalizing x p with
  | nil => simp [hstep p hp]
  | cons y ys ih =>
    have := ih y (p.step (.num x)) (by rw [hstep p hp]; simp)
    simp only [List.map_cons, List.foldl_cons] at this ⊢
    rw [this, hstep p hp]
    simp

/-- for `g` a field of `KStat` both sides reduce: the left to `alookup k (foldAdd {} rs).field`, the right to `none` /
`some (the fold)`; this is how the `stats_*` properties use it -/
theorem foldAdd_allNum_field {α} (g : KStat → α) (rs : List Metrics) (k : Nat) (hu : ∀ m ∈ rs, KeysUnique m)
    (hn : AllNum k rs) :
    g ((foldAdd {} rs).proj k) =
      if valsOf k rs = [] then g {} else
        g ⟨some true, some ((valsOf k rs).foldl pyMin .pinf), some ((valsOf k rs).foldl pyMax .ninf),
          some ((valsOf k rs).foldl XRat.add (.fin 0))⟩ := by
  rw [proj_foldAdd rs hu, filterMap_allNum k rs hn, proj_empty]
  cases hv : valsOf k rs with
  | nil => simp
  | cons x xs => rw [KStat.foldl_step_nums xs x {} (by simp)]; simp

/-- what the stored optimum `o` of a key says about the values `vs` reported for it -/
theorem best_of_fold {u : Bool} {f : XRat → XRat → XRat} (hf : ∀ a b, f a b = if better u b a then b else a)
    (vs : List XRat) (a : XRat) (ha : a ≠ .nan) {o : Option XRat}
    (ho : o = if vs = [] then none else some (vs.foldl f a)) :
    (o = none ↔ vs = []) ∧
    ∀ m, o = some m → m = vs.foldl f a ∧ (∀ v ∈ vs, v ≠ .nan → better u v m = false) ∧ (m = a ∨ m ∈ vs) := by
  subst ho
  by_cases hv : vs = []
  · rw [if_pos hv]; exact ⟨⟨fun _ => hv, fun _ => rfl⟩, nofun⟩
  · rw [if_neg hv]
    refine ⟨⟨nofun, fun h => absurd h hv⟩, fun m hm => ?_⟩
    cases hm
    obtain ⟨_, _, h3, h4⟩ := foldl_pick_spec hf vs a ha
    exact ⟨rfl, h3, h4⟩

/-- reading a `defaultdict` entry is not changed by creating (empty) entries. -/
theorem getD_alookup_touch (t t' : Nat) (p : List (Nat × MStat)) :
    (alookup t (touch t' p)).getD {} = (alookup t p).getD {} := by
  unfold touch
  cases h : alookup t' p with
  | some _ => rfl
  | none =>
    simp only [alookup_append]
    by_cases e : t = t'
    · subst e; simp [h, alookup]
    · simp [alookup, e]

theorem getD_alookup_foldl_touch (t : Nat) (sd : List (Nat × St)) (p : List (Nat × MStat)) :
    (alookup t (sd.foldl (fun p kv => touch kv.1 p) p)).getD {} = (alookup t p).getD {} := by
  induction sd generalizing p with
  | nil => rfl
  | cons kv sd ih => simp only [List.foldl_cons]; rw [ih, getD_alookup_touch]

theorem addResult_overall (ts : TStatus) (r : Nat × Metrics) :
    (ts.addResult r).overall = ts.overall.add r.2 := rfl

theorem foldl_addResult_overall (res : List (Nat × Metrics)) (ts : TStatus) :
    (res.foldl TStatus.addResult ts).overall = (res.map (·.2)).foldl MStat.add ts.overall := by
  induction res generalizing ts with
  | nil => rfl
  | cons r res ih => simp only [List.foldl_cons, List.map_cons]; rw [ih, addResult_overall]

theorem addResult_perTrial (ts : TStatus) (r : Nat × Metrics) (t : Nat) :
    (alookup t (ts.addResult r).perTrial).getD {} =
      if r.1 = t then ((alookup t ts.perTrial).getD {}).add r.2 else (alookup t ts.perTrial).getD {} := by
  unfold TStatus.addResult
  simp only [alookup_aset]
  by_cases h : t = r.1
  · subst h; simp [getD_alookup_touch]
  · have h' : ¬ r.1 = t := fun e => h e.symm
    simp [h, h', getD_alookup_touch]

theorem foldl_addResult_perTrial (res : List (Nat × Metrics)) (ts : TStatus) (t : Nat) :
    (alookup t (res.foldl TStatus.addResult ts).perTrial).getD {} =
      ((res.filter (fun r => decide (r.1 = t))).map (·.2)).foldl MStat.add
        ((alookup t ts.perTrial).getD {}) := by
  induction res generalizing ts with
  | nil => rfl
  | cons r res ih =>
    simp only [List.foldl_cons]
    rw [ih, addResult_perTrial]
    by_cases h : r.1 = t <;> simp [h]

/-- what `addResult` and the creation of entries keep, `TuningStatus.update` keeps -/
theorem update_perTrial_ind {P : List (Nat × MStat) → Prop}
    (hres : ∀ (ts : TStatus) (r : Nat × Metrics), P ts.perTrial → P (ts.addResult r).perTrial)
    (htouch : ∀ (t : Nat) (p : List (Nat × MStat)), P p → P (touch t p))
    (ts : TStatus) (sd : List (Nat × St)) (res : List (Nat × Metrics)) (h : P ts.perTrial) :
    P (ts.update sd res).perTrial := by
  unfold TStatus.update
  simp only
  have h2 : ∀ (res : List (Nat × Metrics)) (ts : TStatus), P ts.perTrial → P (res.foldl TStatus.addResult ts).perTrial := by
    intro res
    induction res with
    | nil => exact fun _ h => h
    | cons r res ih => exact fun ts h => ih _ (hres ts r h)
  have h3 : ∀ (sd : List (Nat × St)) (p : List (Nat × MStat)), P p → P (sd.foldl (fun p kv => touch kv.1 p) p) := by
    intro sd
    induction sd with
    | nil => exact fun _ h => h
    | cons kv sd ih => exact fun p h => ih _ (htouch kv.1 p h)
  exact h3 _ _ (h2 _ _ h)

theorem addResult_last (ts : TStatus) (r : Nat × Metrics) : (ts.addResult r).last = ts.last := rfl

theorem foldl_addResult_last (res : List (Nat × Metrics)) (ts : TStatus) :
    (res.foldl TStatus.addResult ts).last = ts.last := by
  induction res generalizing ts with
  | nil => rfl
  | cons r rs ih => simp only [List.foldl_cons]; rw [ih, addResult_last]

theorem update_last (ts : TStatus) (sd : List (Nat × St)) (res : List (Nat × Metrics)) :
    (ts.update sd res).last = aupdate ts.last sd := by
  unfold TStatus.update
  simp only []
  rw [foldl_addResult_last]

theorem update_overall (ts : TStatus) (sd : List (Nat × St)) (res : List (Nat × Metrics)) :
    (ts.update sd res).overall = foldAdd ts.overall (res.map (·.2)) := by
  unfold TStatus.update
  exact foldl_addResult_overall res _

theorem update_perTrial (ts : TStatus) (sd : List (Nat × St)) (res : List (Nat × Metrics)) (t : Nat) :
    (alookup t (ts.update sd res).perTrial).getD {} =
      foldAdd ((alookup t ts.perTrial).getD {}) ((res.filter (fun r => decide (r.1 = t))).map (·.2)) := by
  unfold TStatus.update
  simp only
  rw [getD_alookup_foldl_touch]
  exact foldl_addResult_perTrial res _ t

theorem update_count (ts : TStatus) (sd : List (Nat × St)) (res : List (Nat × Metrics)) :
    (ts.update sd res).overall.count = ts.overall.count + res.length := by
  rw [update_overall, foldAdd_count, List.length_map]

theorem alookup_markStopped (ts : TStatus) (t : Nat) :
    alookup t ts.markStopped.last = (alookup t ts.last).map fun v => if v = .inProgress then .stopped else v :=
  alookup_mapv (fun v => if v = St.inProgress then St.stopped else v) t ts.last

theorem markStopped_keys (ts : TStatus) : keys ts.markStopped.last = keys ts.last := by
  unfold TStatus.markStopped keys
  simp only [List.map_map]
  rfl

theorem markStopped_failed (ts : TStatus) (t : Nat) (h : alookup t ts.markStopped.last = some .failed) :
    alookup t ts.last = some .failed := by
  rw [alookup_markStopped] at h
  cases hl : alookup t ts.last with
  | none => rw [hl] at h; cases h
  | some v =>
    rw [hl] at h
    by_cases hv : v = .inProgress
    · simp [hv] at h
    · simpa [hv] using h

theorem numStarted_markStopped (ts : TStatus) : ts.markStopped.numStarted = ts.numStarted :=
  List.length_map _

theorem numIn_markStopped (p : St → Bool) (ts : TStatus) :
    ts.markStopped.numIn p = ts.numIn fun v => p (if v = .inProgress then .stopped else v) := by
  unfold TStatus.numIn TStatus.markStopped
  rw [List.filter_map, List.length_map]
  rfl

theorem numRunning_markStopped (ts : TStatus) : ts.markStopped.numRunning = 0 := by
  unfold TStatus.numRunning
  rw [numIn_markStopped]
  unfold TStatus.numIn
  rw [List.length_eq_zero_iff, List.filter_eq_nil_iff]
  intro kv _
  cases kv.2 <;> decide

theorem numIn_congr {p q : St → Bool} (h : ∀ v, p v = q v) (ts : TStatus) : ts.numIn p = ts.numIn q := by
  rw [funext h]

theorem exists_of_numIn_pos (ts : TStatus) (p : St → Bool) (h : 0 < ts.numIn p) (hn : (keys ts.last).Nodup) :
    ∃ t st, alookup t ts.last = some st ∧ p st = true := by
  unfold TStatus.numIn at h
  obtain ⟨kv, hkv⟩ := List.exists_mem_of_length_pos h
  obtain ⟨h1, h2⟩ := List.mem_filter.mp hkv
  exact ⟨kv.1, kv.2, alookup_of_mem hn h1, h2⟩

theorem numStarted_partition (ts : TStatus) :
    ts.numStarted = ts.numCompleted + ts.numFailed + ts.numIn (· == .stopped) + ts.numIn (· == .stopping)
      + ts.numIn (· == .paused) + ts.numRunning := by
  unfold TStatus.numStarted TStatus.numCompleted TStatus.numFailed TStatus.numRunning TStatus.numIn
  simp only [← List.countP_eq_length_filter]
  induction ts.last with
  | nil => rfl
  | cons kv l ih =>
    obtain ⟨k, v⟩ := kv
    simp only [List.countP_cons, List.length_cons]
    cases v <;> simp <;> omega

theorem nodup_keys_touch (t : Nat) (p : List (Nat × MStat)) (h : (keys p).Nodup) : (keys (touch t p)).Nodup := by
  unfold touch
  cases hk : alookup t p with
  | some _ => exact h
  | none =>
    have : keys (p ++ [(t, ({} : MStat))]) = keys p ++ [t] := List.map_append
    rw [this]
    exact nodup_snoc h (alookup_eq_none_iff.mp hk)

theorem firstMin_eq_none (l : List (Nat × XRat)) : firstMin l = none ↔ l = [] := by
  cases l with
  | nil => simp [firstMin]
  | cons x xs =>
    simp only [firstMin]
    cases firstMin xs with
    | none => simp
    | some y => simp only; split <;> simp

/-- with no NaN key, `firstMin` is the first element of minimal key. -/
theorem firstMin_spec (l : List (Nat × XRat)) (hn : ∀ x ∈ l, x.2 ≠ .nan) (y : Nat × XRat)
    (h : firstMin l = some y) :
    y ∈ l ∧ (∀ x ∈ l, x.2.lt y.2 = false) ∧
    ∃ pre post, l = pre ++ y :: post ∧ ∀ x ∈ pre, y.2.lt x.2 = true := by
  induction l generalizing y with
  | nil => simp [firstMin] at h
  | cons x xs ih =>
    have hn' : ∀ z ∈ xs, z.2 ≠ .nan := fun z hz => hn z (List.mem_cons_of_mem _ hz)
    simp only [firstMin] at h
    cases hf : firstMin xs with
    | none =>
      rw [hf] at h
      simp only [Option.some.injEq] at h
      subst h
      have : xs = [] := (firstMin_eq_none xs).mp hf
      subst this
      exact ⟨by simp, by simp [XRat.lt_irrefl], [], [], rfl, by simp⟩
    | some y0 =>
      rw [hf] at h
      obtain ⟨h1, h2, pre, post, h3, h4⟩ := ih hn' y0 hf
      simp only at h
      by_cases hc : y0.2.lt x.2 = true
      · simp only [hc, if_true, Option.some.injEq] at h
        subst h
        refine ⟨List.mem_cons_of_mem _ h1, ?_, x :: pre, post, by rw [h3]; rfl, ?_⟩
        · intro z hz
          rcases List.mem_cons.mp hz with rfl | hz
          · exact XRat.lt_asymm hc
          · exact h2 z hz
        · intro z hz
          rcases List.mem_cons.mp hz with rfl | hz
          · exact hc
          · exact h4 z hz
      · have hc' : y0.2.lt x.2 = false := by simpa using hc
        simp only [hc', Bool.false_eq_true, if_false, Option.some.injEq] at h
        subst h
        refine ⟨by simp, ?_, [], xs, rfl, by simp⟩
        intro z hz
        rcases List.mem_cons.mp hz with rfl | hz
        · exact XRat.lt_irrefl _
        · exact XRat.lt_negtrans (hn' y0 h1) (h2 z hz) hc'

/-- `firstMin` over `[(trial_id, g(stats)) for trial_id, stats in l]`. -/
theorem firstMin_map_spec {β} (l : List (Nat × β)) (g : β → XRat) (hn : ∀ kv ∈ l, g kv.2 ≠ .nan)
    (t : Nat) (v : XRat) (h : firstMin (l.map (fun kv => (kv.1, g kv.2))) = some (t, v)) :
    (∃ pre b post, l = pre ++ (t, b) :: post ∧ g b = v ∧ (∀ kv ∈ pre, v.lt (g kv.2) = true) ∧
      ((keys l).Nodup → alookup t l = some b)) ∧
    ∀ kv ∈ l, (g kv.2).lt v = false := by
  have hn' : ∀ x ∈ l.map (fun kv => (kv.1, g kv.2)), x.2 ≠ .nan := by
    intro x hx
    obtain ⟨kv, hkv, rfl⟩ := List.mem_map.mp hx
    exact hn kv hkv
  obtain ⟨_, h2, pre, post, h3, h4⟩ := firstMin_spec _ hn' _ h
  constructor
  · obtain ⟨l1, l2, rfl, e1, e2⟩ := List.map_eq_append_iff.mp h3
    obtain ⟨⟨ak, ab⟩, l3, rfl, e3, _⟩ := List.map_eq_cons_iff.mp e2
    simp only [Prod.mk.injEq] at e3
    obtain ⟨rfl, rfl⟩ := e3
    refine ⟨l1, ab, l3, rfl, rfl, fun kv hkv => ?_, fun hnd => alookup_of_mem hnd (by simp)⟩
    exact h4 (kv.1, g kv.2) (by rw [← e1]; exact List.mem_map.mpr ⟨kv, hkv, rfl⟩)
  · intro kv hkv
    exact h2 (kv.1, g kv.2) (List.mem_map.mpr ⟨kv, hkv, rfl⟩)

def TSNoNan (ts : TStatus) : Prop := ∀ kv ∈ ts.perTrial, NoNan kv.2.mins ∧ NoNan kv.2.maxs

theorem TSNoNan_touch (t : Nat) (p : List (Nat × MStat))
    (h : ∀ kv ∈ p, NoNan kv.2.mins ∧ NoNan kv.2.maxs) :
    ∀ kv ∈ touch t p, NoNan kv.2.mins ∧ NoNan kv.2.maxs := by
  intro kv hkv
  unfold touch at hkv
  split at hkv
  · exact h kv hkv
  · rcases List.mem_append.mp hkv with hkv | hkv
    · exact h kv hkv
    · rw [List.mem_singleton.mp hkv]; exact ⟨NoNan_nil, NoNan_nil⟩

theorem TSNoNan_addResult (ts : TStatus) (r : Nat × Metrics) (h : TSNoNan ts) :
    TSNoNan (ts.addResult r) := by
  have ht := TSNoNan_touch r.1 ts.perTrial h
  intro kv hkv
  unfold TStatus.addResult at hkv
  rcases mem_aset hkv with rfl | hkv
  · apply add_noNan
    cases hl : alookup r.1 (touch r.1 ts.perTrial) with
    | none => exact ⟨NoNan_nil, NoNan_nil⟩
    | some s => exact ht _ (mem_of_alookup hl)
  · exact ht kv hkv

theorem argBest_cons (useMin : Bool) (x : XRat) (xs : List XRat) (i : Nat) :
    argBest useMin (x :: xs) i =
      match argBest useMin xs (i + 1) with
      | none => if x = .nan then none else some (i, x)
      | some y => if x = .nan then some y else if better useMin y.2 x then some y else some (i, x) := rfl

theorem argBest_eq_none (useMin : Bool) (col : List XRat) (i0 : Nat) :
    argBest useMin col i0 = none ↔ ∀ x ∈ col, x = .nan := by
  induction col generalizing i0 with
  | nil => simp [argBest]
  | cons x xs ih =>
    rw [argBest_cons]
    cases hr : argBest useMin xs (i0 + 1) with
    | none =>
      have := (ih (i0 + 1)).mp hr
      by_cases hx : x = .nan
      · simpa [hx] using this
      · simp [hx]
    | some y =>
      have hne : ¬ ∀ z ∈ xs, z = XRat.nan := by
        intro hall; rw [(ih (i0 + 1)).mpr hall] at hr; cases hr
      have : ¬ ∀ z ∈ x :: xs, z = XRat.nan := by
        intro hall; exact hne (fun z hz => hall z (List.mem_cons_of_mem _ hz))
      simp only [this, iff_false]
      split
      · simp
      · split <;> simp

/-- the answer `(i, v)` sits at position `j = i - i0`; `v` is a number, no number of the column is
strictly better and every number before position `j` is strictly worse -/
theorem argBest_spec (u : Bool) (col : List XRat) (i0 i : Nat) (v : XRat) (h : argBest u col i0 = some (i, v)) :
    ∃ j, i = i0 + j ∧ col[j]? = some v ∧ v ≠ .nan ∧ (∀ x ∈ col, x ≠ .nan → better u x v = false) ∧
      ∀ k x, k < j → col[k]? = some x → x ≠ .nan → better u v x = true := by
  induction col generalizing i0 i v with
  | nil => simp [argBest] at h
  | cons x xs ih =>
    rw [argBest_cons] at h
    -- the head is the answer when it is a number and no number of the tail is strictly better
    have head : x ≠ .nan → (∀ z ∈ xs, z ≠ .nan → better u z x = false) → (i0, x) = (i, v) →
        ∃ j, i = i0 + j ∧ (x :: xs)[j]? = some v ∧ v ≠ .nan ∧ (∀ z ∈ x :: xs, z ≠ .nan → better u z v = false) ∧
          ∀ k z, k < j → (x :: xs)[k]? = some z → z ≠ .nan → better u v z = true := by
      rintro hx hall ⟨⟩
      refine ⟨0, rfl, rfl, hx, fun z hz hzn => ?_, fun k z hk => absurd hk (Nat.not_lt_zero k)⟩
      rcases List.mem_cons.mp hz with rfl | hz
      · exact better_irrefl u z
      · exact hall z hz hzn
    cases hr : argBest u xs (i0 + 1) with
    | none =>
      simp only [hr] at h
      by_cases hx : x = .nan
      · rw [if_pos hx] at h; cases h
      · rw [if_neg hx] at h
        exact head hx (fun z hz hzn => absurd ((argBest_eq_none u xs _).mp hr z hz) hzn) (Option.some.inj h)
    | some y =>
      simp only [hr] at h
      obtain ⟨j, hj, h2, h3, h4, h5⟩ := ih (i0 + 1) y.1 y.2 hr
      -- the answer of the tail is kept when the head is NaN or strictly worse
      have keep : (x = .nan ∨ better u y.2 x = true) → y = (i, v) →
          ∃ j, i = i0 + j ∧ (x :: xs)[j]? = some v ∧ v ≠ .nan ∧ (∀ z ∈ x :: xs, z ≠ .nan → better u z v = false) ∧
            ∀ k z, k < j → (x :: xs)[k]? = some z → z ≠ .nan → better u v z = true := by
        rintro hk ⟨⟩
        refine ⟨j + 1, by omega, h2, h3, fun z hz hzn => ?_, fun k z hk' hz hzn => ?_⟩
        · rcases List.mem_cons.mp hz with rfl | hz
          · exact hk.elim (absurd · hzn) better_asymm
          · exact h4 z hz hzn
        · cases k with
          | zero =>
            cases hz
            exact hk.elim (absurd · hzn) id
          | succ k => exact h5 k z (by omega) hz hzn
      by_cases hx : x = .nan
      · rw [if_pos hx] at h; exact keep (.inl hx) (Option.some.inj h)
      · rw [if_neg hx] at h
        by_cases hb : better u y.2 x = true
        · rw [if_pos hb] at h; exact keep (.inr hb) (Option.some.inj h)
        · rw [if_neg hb] at h
          exact head hx (fun z hz hzn => better_negtrans h3 (h4 z hz hzn) (by simpa using hb)) (Option.some.inj h)

theorem indexOf?_spec (names : List Nat) (k i : Nat) (h : indexOf? names k = some i) :
    names[i]? = some k ∧ ∀ j < i, names[j]? ≠ some k := by
  unfold indexOf? at h
  rw [List.findIdx?_eq_some_iff_getElem] at h
  obtain ⟨hi, hk, hj⟩ := h
  simp only [beq_iff_eq] at hk hj
  refine ⟨by rw [List.getElem?_eq_getElem hi, hk], ?_⟩
  intro j hji hc
  have hjl : j < names.length := by omega
  rw [List.getElem?_eq_getElem hjl] at hc
  injection hc with hc
  exact hj j hji hc

theorem indexOf?_isSome (names : List Nat) (k : Nat) : (indexOf? names k).isSome ↔ k ∈ names := by
  unfold indexOf?
  rw [List.findIdx?_isSome, List.any_eq_true]
  exact ⟨fun ⟨x, hx, hk⟩ => beq_iff_eq.mp hk ▸ hx, fun hk => ⟨k, hk, beq_self_eq_true k⟩⟩

end SyneTune.Tuner
