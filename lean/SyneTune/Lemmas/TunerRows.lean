import SyneTune.Lemmas.TunerFlow
/-
Behind C17 `rows`: the rows of the `StoreResultsCallback` are the results delivered to the
callbacks, in delivery order.
-/
namespace SyneTune.Tuner
open SyneTune

/-- what identifies a delivered result in a row / in a callback event -/
abbrev RowKey := Nat × Nat × Decision × St

def Row.key (r : Row) : RowKey := (r.tid, r.rid, r.decision, r.status)

/-- the `on_trial_result` callback events of a log, in order -/
def cbResults (l : List Call) : List RowKey :=
  l.filterMap (fun c => match c with | .cb (.result t r d st) => some (t, r, d, st) | _ => none)

theorem cbResults_append (l : List Call) (c : Call) :
    cbResults (l ++ [c]) = cbResults l ++ (match c with | .cb (.result t r d st) => [(t, r, d, st)] | _ => []) := by
  unfold cbResults
  rw [List.filterMap_append]
  cases c with
  | cb e => cases e <;> rfl
  | _ => rfl

theorem pending_cbResult (s : LState) :
    (match pending s with | .cb (.result t r d st) => [(t, r, d, st)] | _ => ([] : List RowKey)) =
      if s.pc = .cbResult then [(s.cur.tid, s.cur.rid, s.curD, s.curSt)] else [] := by
  unfold pending
  cases h : s.pc <;> simp

/-- rows and callback events: every `on_trial_result` event has its row, except the one that is
pending (or, inside the `finally` block, the last one if it was the call that raised) -/
structure RowsInv (s : LState) : Prop where
  noStore : s.cfg.store = false → s.rows = []
  rows : s.cfg.store = true → ∃ tail, cbResults s.log = s.rows.map Row.key ++ tail ∧ tail.length ≤ 1 ∧
      (s.pc = .cbResult → tail = [(s.cur.tid, s.cur.rid, s.curD, s.curSt)]) ∧
      (finPc s.pc = false → s.pc ≠ .cbResult → tail = [])

/-- how a step affects the rows -/
inductive RowsCase (s s' : LState) : Prop
  | toCb (src : s.pc = .decision) (tgt : s'.pc = .cbResult) (rows : s'.rows = s.rows)
  | fromCb (src : s.pc = .cbResult) (tgt : s'.pc ≠ .cbResult) (rows : s'.rows = (addRow s).rows) (inLoop : finPc s'.pc = false)
  | other (tgt : s'.pc ≠ .cbResult) (rows : s'.rows = s.rows) (toFin : s.pc = .cbResult → finPc s'.pc = true)

/-- `cbResult` is entered from `decision` only -/
theorem cbResult_from : EnteredFrom [.decision, .cbResult] (· = .cbResult) := by decide +kernel

theorem RowsCase.of_flow {s s' : LState} (hfl : flow s.pc s'.pc = true) (hr : s'.rows = s.rows) {p : Pc}
    (hpc : s.pc = p) (hp : p ∉ [Pc.decision, .cbResult]) : RowsCase s s' := by
  have hs : s.pc ≠ .cbResult := by rw [hpc]; rintro rfl; exact hp (by decide)
  exact .other (cbResult_from.not hfl hpc hp hs) hr (fun hc => (hs hc).elim)

theorem Trans.rows {s s' : LState} {a : Ans} (t : Trans s a s') : RowsCase s s' := by
  have hfl := t.flow
  cases t
  case decidedNew hpc | decided hpc => exact .toCb hpc rfl rfl
  case cbStop hpc _ _ | cbStopCompleted hpc _ _ | cbPause hpc _ | cbContinue hpc _ => exact .fromCb hpc nofun rfl rfl
  case raiseEnv => exact .other nofun rfl fun _ => rfl
  case fin f =>
    cases f
    case exitRaise => exact .other nofun rfl fun _ => rfl
    all_goals exact .of_flow hfl rfl ‹_› (by decide)
  case scheduled hpc => exact hpc.elim (.of_flow hfl rfl · (by decide)) (.of_flow hfl rfl · (by decide))
  case ctl c => cases c <;> exact .of_flow hfl rfl ‹_› (by decide)
  case item hpc _ i => cases i <;> exact .of_flow hfl rfl hpc (by decide)
  all_goals exact .of_flow hfl rfl ‹_› (by decide)

theorem addRow_rows (s : LState) (hs : s.cfg.store = true) :
    (addRow s).rows = s.rows ++ [{ tid := s.cur.tid, rid := s.cur.rid, cfg := alookup s.cur.tid s.configs,
                                   decision := s.curD, status := s.curSt, m := s.cur.m }] := by
  unfold addRow; simp [hs]

theorem addRow_rows_key (s : LState) (hs : s.cfg.store = true) :
    (addRow s).rows.map Row.key = s.rows.map Row.key ++ [(s.cur.tid, s.cur.rid, s.curD, s.curSt)] := by
  rw [addRow_rows s hs, List.map_append]; rfl

theorem addRow_rows_nostore (s : LState) (hs : s.cfg.store = false) : (addRow s).rows = s.rows := by
  unfold addRow; simp [hs]

theorem step_cbResults (s : LState) (a : Ans) :
    cbResults (step s a).log = cbResults s.log ++
      if (next s a).pc = .cbResult then [((next s a).cur.tid, (next s a).cur.rid, (next s a).curD, (next s a).curSt)]
      else [] :=
  step_log_obs cbResults_append pending_cbResult rfl (by decide) s a

theorem RowsInv_step (s : LState) (a : Ans) (h : RowsInv s) : RowsInv (step s a) := by
  have hl := step_cbResults s a
  -- `step s a` is `next s a` with some log `l'`; the case description speaks of `next s a`
  rw [step_eq_log]
  generalize (step s a).log = l' at hl ⊢
  have hcfg : (next s a).cfg = s.cfg := (next_trans s a).cfg
  cases (next_trans s a).rows with
  | toCb src tgt rows =>
    refine ⟨fun hs => rows.trans (h.noStore (hcfg ▸ hs)), fun hs => ?_⟩
    obtain ⟨tail, ht1, _, _, ht4⟩ := h.rows (hcfg ▸ hs)
    rw [ht4 (by rw [src]; rfl) (by rw [src]; nofun), List.append_nil] at ht1
    refine ⟨[((next s a).cur.tid, (next s a).cur.rid, (next s a).curD, (next s a).curSt)], ?_, Nat.le_refl 1,
      fun _ => rfl, fun _ hne => absurd tgt hne⟩
    show cbResults l' = (next s a).rows.map Row.key ++ _
    rw [hl, if_pos tgt, ht1, rows]
  | fromCb src tgt rows inLoop =>
    refine ⟨fun hs => ?_, fun hs => ?_⟩
    · exact rows.trans ((addRow_rows_nostore s (hcfg ▸ hs)).trans (h.noStore (hcfg ▸ hs)))
    · obtain ⟨tail, ht1, _, ht3, _⟩ := h.rows (hcfg ▸ hs)
      refine ⟨[], ?_, Nat.zero_le 1, fun hc => absurd hc tgt, fun _ _ => rfl⟩
      show cbResults l' = (next s a).rows.map Row.key ++ []
      rw [hl, if_neg tgt, List.append_nil, List.append_nil, ht1, ht3 src, rows, addRow_rows_key s (hcfg ▸ hs)]
  | other tgt rows toFin =>
    refine ⟨fun hs => rows.trans (h.noStore (hcfg ▸ hs)), fun hs => ?_⟩
    obtain ⟨tail, ht1, ht2, _, ht4⟩ := h.rows (hcfg ▸ hs)
    refine ⟨tail, ?_, ht2, fun hc => absurd hc tgt, fun hf _ => ht4 (fin_back (next_trans s a).flow hf) fun hc => ?_⟩
    · show cbResults l' = (next s a).rows.map Row.key ++ tail
      rw [hl, if_neg tgt, List.append_nil, ht1, rows]
    · have hf : finPc (next s a).pc = false := hf
      rw [toFin hc] at hf; cases hf

theorem RowsInv.reach {c : Cfg} {P : LState → Ans → Prop} {s : LState} (h : Reach c P s) : RowsInv s := by
  induction h with
  | init => exact ⟨fun _ => rfl, fun _ => ⟨[], by simp [init, cbResults], by simp, (fun hc => nomatch hc), fun _ _ => rfl⟩⟩
  | step _ _ ih => exact RowsInv_step _ _ ih

end SyneTune.Tuner
