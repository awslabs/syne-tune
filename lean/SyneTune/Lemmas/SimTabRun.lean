import SyneTune.Lemmas.SimSteps
import SyneTune.Lemmas.SimTab
/-
The tabular backend `TB` as an instance of the simulator: what its job and hooks leave alone (`consts`,
`TabHook`, `tabUp`), every operation as a path (`step_path`), and the induction along histories that the
later files call (`run_steps`, `run_induct`, `run_induct_on`).
-/
namespace SyneTune.SimL
open SyneTune SyneTune.Backend SyneTune.SimTab

def consts (js : TabState) : Table × Option Nat × Bool × Bool × Rat :=
  (js.table, js.seedFix, js.checkpointing, js.maxResAttr, js.minStep)

theorem consts_eq {a b : TabState} (h : consts a = consts b) :
    a.table = b.table ∧ a.seedFix = b.seedFix ∧ a.checkpointing = b.checkpointing ∧
    a.maxResAttr = b.maxResAttr ∧ a.minStep = b.minStep := by
  simpa only [consts, Prod.mk.injEq] using h

def TabHook (js js' : TabState) : Prop := consts js' = consts js ∧ js'.seedFor = js.seedFor

theorem consts_minStep {a b : TabState} (h : consts a = consts b) : a.minStep = b.minStep := (consts_eq h).2.2.2.2

structure tabUp (js js' : TabState) : Prop where
  consts_eq : consts js' = consts js
  seeds : ∀ u sd, alookup u js.seedFor = some sd → alookup u js'.seedFor = some sd

theorem tabJob_stable (A : Arith) (js js' : TabState) (t : Nat) (st : St) (rs : List Res)
    (h : tabJob A js t = .ok (js', st, rs)) : tabUp js js' := by
  obtain ⟨_, cfg, sd, all, _, hs, _, _⟩ := tabJob_spec A js js' t st rs h
  obtain ⟨sf, rfl, h1, _⟩ := seedOf_stable js js' t sd hs
  exact ⟨rfl, h1⟩

section
variable {A : Arith} {job : JobFn TabState} {s s' : TB}

theorem step_start_ok {cfg : Cfg} : TB.step A job s (.start cfg) = .ok s' ↔
    ∃ tid, s.startTrial A job (fun tid js => { js with cfgs := aset tid cfg js.cfgs }) = .ok (s', tid) := by
  simp only [TB.step]
  cases s.startTrial A job fun tid js => { js with cfgs := aset tid cfg js.cfgs } with
  | error e => exact ⟨nofun, nofun⟩
  | ok r => exact ⟨fun h => ⟨r.2, by cases h; rfl⟩, fun ⟨_, h⟩ => by cases h; rfl⟩

theorem step_fetch_ok {ids : List Nat} : TB.step A job s (.fetch ids) = .ok s' ↔
    ∃ sts res, s.fetch A job ids = .ok (s', sts, res) := by
  simp only [TB.step]
  cases s.fetch A job ids with
  | error e => exact ⟨nofun, nofun⟩
  | ok r => exact ⟨fun h => ⟨r.2.1, r.2.2, by cases h; rfl⟩, fun ⟨_, _, h⟩ => by cases h; rfl⟩

theorem step_busy_ok : TB.step A job s .busy = .ok s' ↔ Sim.processUntil A job simFuel s = .ok s' := by
  simp only [TB.step, Sim.busyIds]
  cases Sim.processUntil A job simFuel s with
  | error e => exact ⟨nofun, nofun⟩
  | ok r => exact ⟨fun h => by cases h; rfl, fun h => by cases h; rfl⟩

theorem step_path {op : SOp} (hs : TB.step A job s op = .ok s') :
    ∃ s1, Path A job TabHook s s1 ∧
      (s' = s1 ∨ ∃ t nc q, op = .resume t nc ∧ s' = s1.updT t (STrial.resumed q)) := by
  cases op with
  | start cfg =>
    obtain ⟨tid, h1⟩ := step_start_ok.mp hs
    exact ⟨_, startTrial_path (fun _ => ⟨rfl, rfl⟩) h1, Or.inl rfl⟩
  | resume t nc =>
    simp only [TB.step] at hs
    obtain ⟨s1, q, hp, rfl⟩ := resumeTrial_path (H := TabHook) (by cases nc <;> exact ⟨rfl, rfl⟩) hs
    exact ⟨s1, hp, Or.inr ⟨t, nc, q, rfl, rfl⟩⟩
  | pause t lv =>
    simp only [TB.step] at hs
    exact ⟨_, pauseTrial_path (by intro js; cases lv <;> exact ⟨rfl, rfl⟩) hs, Or.inl rfl⟩
  | stop t => exact ⟨_, stopTrial_path hs, Or.inl rfl⟩
  | fetch ids => obtain ⟨sts, res, h1⟩ := step_fetch_ok.mp hs; exact ⟨_, fetch_path h1, Or.inl rfl⟩
  | busy => exact ⟨_, processUntil_path (step_busy_ok.mp hs), Or.inl rfl⟩
  | sleep => exact ⟨_, advance_path hs, Or.inl rfl⟩
  | advance dt => exact ⟨_, advance_path hs, Or.inl rfl⟩
  | tick dt => cases hs; exact ⟨_, .single (.clock s _ s.lastExit fun _ => le_refl _), Or.inl rfl⟩
  | tape d =>
    cases hs
    exact ⟨_, .single (.hook s (js' := { s.js with seedTape := d }) ⟨rfl, rfl⟩), Or.inl rfl⟩
  | stopAll => exact ⟨_, stopAllGo_path _ hs, Or.inl rfl⟩

theorem run_steps {P : TB → Prop} (step : ∀ a b op, P a → TB.step A job a op = .ok b → P b) (ops : List SOp) :
    ∀ {s s' : TB}, P s → TB.run A job s ops = .ok s' → P s' := by
  induction ops with
  | nil => intro s s' h hs; cases hs; exact h
  | cons op ops ih =>
    intro s s' h hs
    unfold TB.run at hs
    cases h1 : TB.step A job s op with
    | error e => rw [h1] at hs; cases hs
    | ok s1 => rw [h1] at hs; exact ih (step s s1 op h h1) hs

theorem run_induct {P : TB → Prop} (prim : ∀ a b, Prim A job TabHook a b → P a → P b)
    (resume : ∀ a t q, P a → P (a.updT t (STrial.resumed q))) (ops : List SOp) {s s' : TB} :
    P s → TB.run A job s ops = .ok s' → P s' := by
  refine run_steps (fun a b op h h1 => ?_) ops
  obtain ⟨s2, hp, rfl | ⟨t, _, q, _, rfl⟩⟩ := step_path h1
  · exact hp.keeps prim h
  · exact resume _ t q (hp.keeps prim h)

theorem cfg_run (ops : List SOp) (h : TB.run A job s ops = .ok s') : s'.cfg = s.cfg :=
  run_induct (P := fun x => x.cfg = s.cfg) (fun _ _ hp h => hp.cfg.trans h) (fun _ _ _ h => h) ops rfl h

theorem run_snoc (ops : List SOp) : ∀ (a b c : TB) (op : SOp),
    TB.run A job a ops = .ok b → TB.step A job b op = .ok c → TB.run A job a (ops ++ [op]) = .ok c := by
  induction ops with
  | nil =>
    intro a b c op h hs
    cases h
    simp only [List.nil_append, TB.run, hs]
  | cons op0 l ih =>
    intro a b c op h hs
    simp only [List.cons_append, TB.run] at h ⊢
    cases h1 : TB.step A job a op0 with
    | error e => rw [h1] at h; cases h
    | ok a1 => rw [h1] at h; simp only at h ⊢; exact ih a1 b c op h hs

theorem run_induct_on {Q : TabState → Prop} {P : TB → Prop}
    (keepQ : ∀ a b, Prim A job TabHook a b → Q a.js → Q b.js)
    (prim : ∀ a b, Prim A job TabHook a b → Q a.js → P a → P b)
    (resume : ∀ a t q, P a → P (a.updT t (STrial.resumed q))) (ops : List SOp) {s s' : TB} (hq : Q s.js) (h : P s)
    (hs : TB.run A job s ops = .ok s') : Q s'.js ∧ P s' :=
  run_induct (P := fun x => Q x.js ∧ P x) (fun a b hp h => ⟨keepQ a b hp h.1, prim a b hp h.1 h.2⟩)
    (fun a t q h => ⟨h.1, resume a t q h.2⟩) ops ⟨hq, h⟩ hs

end

theorem now_le_run {A : Arith} {job : JobFn TabState} (hA : AddGe A) (ops : List SOp) {s s' : TB}
    (h : TB.run A job s ops = .ok s') : s.now ≤ s'.now :=
  run_induct (P := fun x => s.now ≤ x.now) (fun _ _ hp h => le_trans h (hp.now_le hA)) (fun _ _ _ h => h) ops
    (le_refl _) h

end SyneTune.SimL
