import SyneTune.Lemmas.SyncTop
/- Invariant `BWF` of one synchronous Hyperband bracket, kept by `next_free_slot` and `on_result`;
the three outcomes of `on_result` (`ResultCase`).  Only `BKind.hyperband` is treated (`BWF.kind`): the DEHB
brackets of the model are outside every lemma of the chain.  In front: what `List.set` and `++ [a]` do to
`getElem?` and `filterMap`. -/
namespace SyneTune.Sync
open SyneTune

theorem getElem?_lt {α} {l : List α} {i : Nat} {a : α} (h : l[i]? = some a) : i < l.length :=
  (List.getElem?_eq_some_iff.mp h).1

theorem getElem?_set_eq_some {α} {l : List α} {i j : Nat} {a b : α} (h : (l.set i a)[j]? = some b) :
    (j = i ∧ b = a) ∨ (j ≠ i ∧ l[j]? = some b) := by
  rw [List.getElem?_set] at h
  split at h
  · next hij => split at h <;> simp_all
  · next hij => exact Or.inr ⟨Ne.symm hij, h⟩

theorem getElem?_concat_eq_some {α} {l : List α} {j : Nat} {a b : α} (h : (l ++ [a])[j]? = some b) :
    l[j]? = some b ∨ (j = l.length ∧ b = a) := by
  rcases Nat.lt_trichotomy j l.length with hlt | rfl | hgt
  · exact Or.inl (List.getElem?_append_left hlt ▸ h)
  · rw [List.getElem?_concat_length] at h; exact Or.inr ⟨rfl, (Option.some.inj h).symm⟩
  · rw [List.getElem?_eq_none (by simp only [List.length_append, List.length_singleton]; omega)] at h; cases h

theorem filterMap_set_same {α β} (f : α → Option β) {l : List α} {p : Nat} {a b : α}
    (h : l[p]? = some a) (hab : f a = f b) : (l.set p b).filterMap f = l.filterMap f := by
  induction l generalizing p with
  | nil => rfl
  | cons y ys ih =>
    cases p with
    | zero => cases h; simp only [List.set_cons_zero, List.filterMap_cons, hab]
    | succ p => simp only [List.set_cons_succ, List.filterMap_cons, ih (List.getElem?_cons_succ ▸ h)]

theorem filterMap_set_none {α β} (f : α → Option β) {l : List α} {p : Nat} {a b : α}
    (h : l[p]? = some a) (ha : f a = none) : ((l.set p b).filterMap f).Perm ((f b).toList ++ l.filterMap f) := by
  induction l generalizing p with
  | nil => simp at h
  | cons y ys ih =>
    cases p with
    | zero =>
      cases h
      rw [List.set_cons_zero, List.filterMap_cons, List.filterMap_cons, ha]
      cases f b <;> exact .refl _
    | succ p =>
      have := ih (p := p) (List.getElem?_cons_succ ▸ h)
      cases hy : f y with
      | none => simpa [List.filterMap_cons, hy] using this
      | some v =>
        simp only [List.set_cons_succ, List.filterMap_cons, hy]
        exact (this.cons v).trans List.perm_middle.symm

theorem nodup_idx (l : List Slot) (t : Nat) (h : (l.filterMap (·.tid)).Nodup) (i j : Nat) (a b : Slot)
    (hi : l[i]? = some a) (hj : l[j]? = some b) (ha : a.tid = some t) (hb : b.tid = some t) : i = j := by
  rw [List.Nodup, List.pairwise_filterMap, List.pairwise_iff_getElem] at h
  obtain ⟨hil, rfl⟩ := List.getElem?_eq_some_iff.mp hi
  obtain ⟨hjl, rfl⟩ := List.getElem?_eq_some_iff.mp hj
  rcases Nat.lt_trichotomy i j with hlt | heq | hgt
  · exact absurd rfl (h i j hil hjl hlt t ha t hb)
  · exact heq
  · exact absurd rfl (h j i hjl hil hgt t hb t ha)

/-- `(size, level)` of every rung of `_rungs`, materialised or not -/
def Bracket.shape (b : Bracket) : List (Nat × Nat) :=
  b.rungs.map (fun r => (r.slots.length, r.level)) ++ b.todo

def Rung.ids (r : Rung) : List Nat := r.slots.filterMap (·.tid)

def Bracket.HasId (b : Bracket) (t : Nat) : Prop := ∃ r ∈ b.rungs, t ∈ r.ids

/-- the rung `next` was built by `get_top_list` from the completed rung `prev`: slot by slot
it holds the id of the top list; a slot created with id `None` may later have received the
result of a new trial, which then occurs in none of the rungs `lower` below. -/
def TopRel (m : Mode) (lower : List Rung) (prev next : Rung) : Prop :=
  ∃ es, entriesOf prev.slots = some es ∧
    (topList es next.slots.length m).length = next.slots.length ∧
    ∀ (p : Nat) (o : Option Nat) (s : Slot),
      (topList es next.slots.length m)[p]? = some o → next.slots[p]? = some s →
      s.tid = o ∨ (o = none ∧ ∀ t, s.tid = some t → s.metric.isSome = true ∧ ∀ r ∈ lower, t ∉ r.ids)

/-- the bracket has a slot which `next_free_slot` can hand out -/
def Bracket.HasFree (b : Bracket) : Prop :=
  ∃ rg, b.rungs[b.current]? = some rg ∧ b.firstFree < rg.slots.length

/-- a bracket as `_create_new_bracket` leaves it -/
structure Bracket.Fresh (b : Bracket) : Prop where
  noId : ∀ t, ¬ b.HasId t
  firstFree : b.firstFree = 0
  current : b.current = 0
  open_ : b.isComplete = false

/-- invariant of a `SynchronousHyperbandBracket` built from the rung system `spec` -/
structure BWF (spec : List (Nat × Nat)) (b : Bracket) : Prop where
  kind : b.kind = .hyperband
  specOk : checkRungs spec = true
  shape : b.shape = spec
  len : b.rungs.length = min (b.current + 1) spec.length
  done : ∀ k r, k < b.current → b.rungs[k]? = some r → ∀ s ∈ r.slots, s.metric.isSome = true
  free : ∀ r, b.rungs[b.current]? = some r → b.firstFree ≤ r.slots.length ∧
            ∀ p s, r.slots[p]? = some s → b.firstFree ≤ p → s.metric = none
  open_ : ∀ r, b.rungs[b.current]? = some r → ∃ s ∈ r.slots, s.metric = none
  top : ∀ k prev next, b.rungs[k]? = some prev → b.rungs[k + 1]? = some next →
            TopRel b.mode (b.rungs.take (k + 1)) prev next
  nodup : ∀ r ∈ b.rungs, r.ids.Nodup
  base : ∀ r, b.rungs[0]? = some r → ∀ x ∈ r.slots, x.tid.isSome = true → x.metric.isSome = true

/-- everything of the invariant except that the current rung is still open -/
structure PreWF (spec : List (Nat × Nat)) (b : Bracket) : Prop where
  kind : b.kind = .hyperband
  specOk : checkRungs spec = true
  shape : b.shape = spec
  len : b.rungs.length = min (b.current + 1) spec.length
  done : ∀ k r, k < b.current → b.rungs[k]? = some r → ∀ s ∈ r.slots, s.metric.isSome = true
  free : ∀ r, b.rungs[b.current]? = some r → b.firstFree ≤ r.slots.length ∧
            ∀ p s, r.slots[p]? = some s → b.firstFree ≤ p → s.metric = none
  top : ∀ k prev next, b.rungs[k]? = some prev → b.rungs[k + 1]? = some next →
            TopRel b.mode (b.rungs.take (k + 1)) prev next
  nodup : ∀ r ∈ b.rungs, r.ids.Nodup
  base : ∀ r, b.rungs[0]? = some r → ∀ x ∈ r.slots, x.tid.isSome = true → x.metric.isSome = true

theorem PreWF.wf {spec : List (Nat × Nat)} {b : Bracket} (h : PreWF spec b)
    (ho : ∀ r, b.rungs[b.current]? = some r → ∃ s ∈ r.slots, s.metric = none) : BWF spec b :=
  ⟨h.kind, h.specOk, h.shape, h.len, h.done, h.free, ho, h.top, h.nodup, h.base⟩

theorem mem_ids_iff (rg : Rung) (t : Nat) : t ∈ rg.ids ↔ ∃ (q : Nat) (y : Slot), rg.slots[q]? = some y ∧ y.tid = some t := by
  rw [Rung.ids, List.mem_filterMap]
  exact ⟨fun ⟨y, hy, ht⟩ => (List.mem_iff_getElem?.mp hy).elim fun q hq => ⟨q, y, hq, ht⟩,
    fun ⟨q, y, hq, ht⟩ => ⟨y, List.mem_of_getElem? hq, ht⟩⟩

theorem isDecreasing_adj (l : List Nat) (h : isDecreasing l = true) (k a b : Nat)
    (ha : l[k]? = some a) (hb : l[k + 1]? = some b) : b < a := by
  induction l generalizing k with
  | nil => simp at ha
  | cons x xs ih =>
    match xs, hb with
    | y :: ys, hb =>
      simp only [isDecreasing, Bool.and_eq_true, decide_eq_true_eq] at h
      cases k with
      | zero => cases ha; cases hb; exact h.1
      | succ k => exact ih h.2 k ha hb

/-- the five assertions of `assert_check_rungs` -/
theorem checkRungs_iff (spec : List (Nat × Nat)) : checkRungs spec = true ↔
    spec ≠ [] ∧ (∀ r ∈ spec, 1 ≤ r.2) ∧ isIncreasing (spec.map (·.2)) = true ∧
    (∀ r ∈ spec, 1 ≤ r.1) ∧ isDecreasing (spec.map (·.1)) = true := by
  simp only [checkRungs, Bool.and_eq_true, List.all_eq_true, decide_eq_true_eq, Bool.not_eq_true',
    List.isEmpty_eq_false_iff, and_assoc]

theorem checkRungs_ne_nil (spec : List (Nat × Nat)) (h : checkRungs spec = true) : spec ≠ [] :=
  ((checkRungs_iff spec).mp h).1

theorem checkRungs_size_pos (spec : List (Nat × Nat)) (h : checkRungs spec = true) : ∀ r ∈ spec, 1 ≤ r.1 :=
  ((checkRungs_iff spec).mp h).2.2.2.1

theorem checkRungs_decr (spec : List (Nat × Nat)) (h : checkRungs spec = true) (k : Nat) (a b : Nat × Nat)
    (ha : spec[k]? = some a) (hb : spec[k + 1]? = some b) : b.1 < a.1 :=
  isDecreasing_adj _ ((checkRungs_iff spec).mp h).2.2.2.2 k a.1 b.1 (by rw [List.getElem?_map, ha]; rfl)
    (by rw [List.getElem?_map, hb]; rfl)

theorem isIncreasing_pairwise (l : List Nat) (h : isIncreasing l = true) : l.Pairwise (· < ·) := by
  induction l with
  | nil => exact List.Pairwise.nil
  | cons x xs ih =>
    cases xs with
    | nil => simp
    | cons y ys =>
      simp only [isIncreasing, Bool.and_eq_true, decide_eq_true_eq] at h
      have ih' := ih h.2
      refine List.Pairwise.cons ?_ ih'
      intro a ha
      rcases List.mem_cons.mp ha with rfl | ha
      · exact h.1
      · exact Nat.lt_trans h.1 ((List.pairwise_cons.mp ih').1 a ha)

theorem checkRungs_levels (spec : List (Nat × Nat)) (h : checkRungs spec = true) :
    (spec.map (·.2)).Pairwise (· < ·) ∧ ∀ a ∈ spec, 1 ≤ a.2 :=
  ⟨isIncreasing_pairwise _ ((checkRungs_iff spec).mp h).2.2.1, ((checkRungs_iff spec).mp h).2.1⟩

theorem shape_getElem (b : Bracket) (k : Nat) (r : Rung) (h : b.rungs[k]? = some r) :
    b.shape[k]? = some (r.slots.length, r.level) := by
  rw [Bracket.shape, List.getElem?_append_left (by simpa using getElem?_lt h)]
  simp [h]

theorem shape_todo (b : Bracket) (k : Nat) : b.shape[b.rungs.length + k]? = b.todo[k]? := by
  unfold Bracket.shape
  rw [List.getElem?_append_right (by rw [List.length_map]; exact Nat.le_add_right _ _), List.length_map,
    Nat.add_sub_cancel_left]

theorem shape_length (b : Bracket) : b.shape.length = b.numRungs := by
  simp [Bracket.shape, Bracket.numRungs]

theorem eq_of_mem_freeRung {size level : Nat} {s : Slot} (h : s ∈ (freeRung size level).slots) :
    s = ⟨none, none⟩ :=
  List.eq_of_mem_replicate h

theorem freeRung_ids (size level : Nat) : (freeRung size level).ids = [] :=
  List.filterMap_eq_nil_iff.mpr fun s hs => by rw [eq_of_mem_freeRung hs]

/-- the rung `_promote_trials_at_rung_complete` opens -/
def newRung (tl : List (Option Nat)) (ms : Nat) : Rung := { slots := tl.map (fun t => ⟨t, none⟩), level := ms }

theorem newRung_ids (tl : List (Option Nat)) (ms : Nat) : (newRung tl ms).ids = tl.filterMap id := by
  rw [Rung.ids, newRung, List.filterMap_map]; rfl

theorem mkBracket_wf (mode : Mode) (spec : List (Nat × Nat)) (h : checkRungs spec = true) :
    ∃ b, mkBracket .hyperband mode spec = .ok b ∧ BWF spec b ∧ b.mode = mode ∧ b.HasFree ∧ b.Fresh := by
  match spec, checkRungs_ne_nil _ h with
  | (size, level) :: rest, _ =>
    have hpos : 1 ≤ size := checkRungs_size_pos _ h (size, level) (by simp)
    have hlen : 0 < (freeRung size level).slots.length := by simp only [freeRung, List.length_replicate]; omega
    have hwf : BWF ((size, level) :: rest)
        { kind := .hyperband, mode := mode, rungs := [freeRung size level], todo := rest } := by
      refine {
        kind := rfl, specOk := h
        shape := by simp only [Bracket.shape, freeRung, List.map, List.length_replicate]; rfl
        len := (Nat.min_eq_left (Nat.succ_le_succ (Nat.zero_le _))).symm
        done := fun k r hk => absurd hk (Nat.not_lt_zero k)
        top := fun k prev next _ hn => by cases hn
        free := ?free, open_ := ?open_, nodup := ?nodup, base := ?base }
      case free =>
        rintro r ⟨⟩
        exact ⟨Nat.zero_le _, fun p s hs _ => by rw [eq_of_mem_freeRung (List.mem_of_getElem? hs)]⟩
      case open_ =>
        rintro r ⟨⟩
        exact ⟨_, List.getElem_mem hlen, by rw [eq_of_mem_freeRung (List.getElem_mem hlen)]⟩
      case nodup =>
        intro r hr
        rw [List.mem_singleton.mp hr, freeRung_ids]; exact List.nodup_nil
      case base =>
        rintro r ⟨⟩ x hx hxt
        rw [eq_of_mem_freeRung hx] at hxt; cases hxt
    refine ⟨_, ?_, hwf, rfl, ⟨_, rfl, hlen⟩, ?_, rfl, rfl, by simp [Bracket.isComplete, Bracket.numRungs]⟩
    · delta mkBracket
      rw [h]; rfl
    · rintro t ⟨r, hr, ht⟩
      rw [List.mem_singleton.mp hr, freeRung_ids] at ht; cases ht

theorem BWF.numRungs_eq {spec b} (hw : BWF spec b) : b.numRungs = spec.length := by
  rw [← shape_length, hw.shape]

theorem BWF.complete_iff {spec b} (hw : BWF spec b) : b.isComplete = true ↔ spec.length ≤ b.current := by
  simp [Bracket.isComplete, hw.numRungs_eq]

theorem BWF.cur_some {spec b} (hw : BWF spec b) (hc : b.isComplete = false) :
    ∃ rg, b.rungs[b.current]? = some rg := by
  have : ¬ spec.length ≤ b.current := fun h => by rw [hw.complete_iff.mpr h] at hc; cases hc
  exact ⟨_, List.getElem?_eq_getElem (by rw [hw.len]; omega)⟩

theorem BWF.le_cur {spec b k r} (hw : BWF spec b) (hk : b.rungs[k]? = some r) : k ≤ b.current := by
  have := getElem?_lt hk
  have := hw.len
  omega

theorem BWF.len_cur {spec b rg} (hw : BWF spec b) (hrg : b.rungs[b.current]? = some rg) :
    b.rungs.length = b.current + 1 ∧ b.current < spec.length := by
  have := getElem?_lt hrg
  have := hw.len
  omega

theorem BWF.not_complete {spec b rg} (hw : BWF spec b) (hrg : b.rungs[b.current]? = some rg) :
    b.isComplete = false :=
  Bool.eq_false_iff.mpr fun hc => absurd (hw.complete_iff.mp hc) (Nat.not_le_of_lt (hw.len_cur hrg).2)

/-- slot handed out by `next_free_slot` of bracket `br` -/
def slotOf (br : Bracket) (rg : Rung) (x : Slot) : SlotInRung :=
  { rungIndex := br.current, level := rg.level, slotIndex := br.firstFree, tid := x.tid, metric := none }

/-- the bracket after `next_free_slot` handed out slot `firstFree` -/
def bump (br : Bracket) : Bracket := { br with firstFree := br.firstFree + 1 }

theorem nextFreeSlot_of_hasFree {spec b} (hw : BWF spec b) (hf : b.HasFree) :
    ∃ rg x, b.rungs[b.current]? = some rg ∧ rg.slots[b.firstFree]? = some x ∧
      b.nextFreeSlot = .ok (bump b, some (slotOf b rg x)) := by
  obtain ⟨rg, hrg, hlt⟩ := hf
  refine ⟨rg, rg.slots[b.firstFree], hrg, List.getElem?_eq_getElem hlt, ?_⟩
  simp [Bracket.nextFreeSlot, hw.not_complete hrg, Bracket.curRung, hrg, hlt, bump, slotOf]

theorem nextFreeSlot_of_not_hasFree {spec b} (hw : BWF spec b) (hf : ¬ b.HasFree) :
    b.nextFreeSlot = .ok (b, none) := by
  unfold Bracket.nextFreeSlot
  cases hc : b.isComplete with
  | true => simp
  | false =>
    obtain ⟨rg, hrg⟩ := hw.cur_some hc
    have hnone : rg.slots[b.firstFree]? = none :=
      List.getElem?_eq_none (Nat.le_of_not_lt fun h => hf ⟨rg, hrg, h⟩)
    simp [Bracket.curRung, hrg, hnone]

theorem bump_wf {spec b} (hw : BWF spec b) (hf : b.HasFree) : BWF spec (bump b) := by
  obtain ⟨rg, hrg, hlt⟩ := hf
  refine { hw with free := fun r hr => ?_ }
  obtain rfl := Option.mem_unique hrg hr
  exact ⟨hlt, fun p s hs hp => (hw.free _ hrg).2 p s hs (Nat.le_of_succ_le hp)⟩

/-- `res` answers the handed-out, still empty slot `res.slotIndex` of the current rung -/
structure SlotOpen (b : Bracket) (res : SlotInRung) (rg : Rung) (sl : Slot) : Prop where
  hrg : b.rungs[b.current]? = some rg
  ri : res.rungIndex = b.current
  lt : res.slotIndex < b.firstFree
  lvl : res.level = rg.level
  hsl : rg.slots[res.slotIndex]? = some sl
  tid : sl.tid = none ∨ sl.tid = res.tid
  empty : sl.metric = none
  hm : res.metric.isSome = true

/-- a call of `on_result` which answers a pending slot (what the scheduler guarantees) -/
structure LegalRes (b : Bracket) (res : SlotInRung) (rg : Rung) (sl : Slot) : Prop extends SlotOpen b res rg sl where
  fresh : sl.tid = none → ∀ t, res.tid = some t → ¬ b.HasId t

/-- bracket after `rung[pos] = (trial_id, metric_val)` -/
def Bracket.written (b : Bracket) (rg : Rung) (res : SlotInRung) : Bracket :=
  { b with rungs := b.rungs.set b.current (rg.write res) }

/-- `is_complete` of `on_result` -/
def RungDone (rg : Rung) (ff : Nat) : Prop := rg.slots.length ≤ ff ∧ pendingIn rg.slots ff = 0

section written
variable {spec : List (Nat × Nat)} {b : Bracket} {res : SlotInRung} {rg : Rung} {sl : Slot}

theorem checkResult_ok (hl : LegalRes b res rg sl) : b.checkResult res = .ok rg := by
  have h4 : ¬ (b.kind = .hyperband ∧ sl.tid.isSome = true ∧ res.tid ≠ sl.tid) := by
    rintro ⟨_, hs, hne⟩
    rcases hl.tid with h | h
    · rw [h] at hs; cases hs
    · exact hne h.symm
  have h6 : res.metric.isNone = false := by rw [← Option.not_isSome, hl.hm]; rfl
  simp [Bracket.checkResult, hl.ri, hl.lt, Bracket.curRung, hl.hrg, hl.lvl, hl.hsl, h4, hl.empty, h6]

theorem pendingIn_zero_iff (slots : List Slot) (ff : Nat) (h : slots.length ≤ ff) :
    pendingIn slots ff = 0 ↔ ∀ s ∈ slots, s.metric.isSome = true := by
  simp [pendingIn, List.take_of_length_le h, List.filter_eq_nil_iff, Option.isSome_iff_ne_none]

theorem write_length : (rg.write res).slots.length = rg.slots.length := by simp [Rung.write]

theorem write_slot_ne {p : Nat} (hp : p ≠ res.slotIndex) : (rg.write res).slots[p]? = rg.slots[p]? :=
  List.getElem?_set_ne (Ne.symm hp)

theorem write_slot_self (hl : LegalRes b res rg sl) :
    (rg.write res).slots[res.slotIndex]? = some ⟨res.tid, res.metric⟩ :=
  List.getElem?_set_self (getElem?_lt hl.hsl)

theorem write_ids_none (hl : LegalRes b res rg sl) (h : sl.tid = none) :
    (rg.write res).ids.Perm (res.tid.toList ++ rg.ids) :=
  filterMap_set_none Slot.tid (b := ⟨res.tid, res.metric⟩) hl.hsl h

theorem write_ids_same (hl : LegalRes b res rg sl) (h : sl.tid = res.tid) : (rg.write res).ids = rg.ids :=
  filterMap_set_same Slot.tid (b := ⟨res.tid, res.metric⟩) hl.hsl h

theorem write_ids_mem (hl : LegalRes b res rg sl) (x : Nat) :
    x ∈ (rg.write res).ids ↔ x ∈ rg.ids ∨ res.tid = some x := by
  rcases hl.tid with h | h
  · rw [(write_ids_none hl h).mem_iff, List.mem_append, Option.mem_toList, or_comm]
  · rw [write_ids_same hl h, or_iff_left_of_imp]
    exact fun hx => (mem_ids_iff rg x).mpr ⟨_, sl, hl.hsl, h.trans hx⟩

theorem write_ids_nodup (hl : LegalRes b res rg sl) (hn : rg.ids.Nodup) : (rg.write res).ids.Nodup := by
  rcases hl.tid with h | h
  · rw [(write_ids_none hl h).nodup_iff]
    cases ht : res.tid with
    | none => exact hn
    | some t => exact List.nodup_cons.mpr ⟨fun hc => hl.fresh h t ht ⟨rg, List.mem_of_getElem? hl.hrg, hc⟩, hn⟩
  · rwa [write_ids_same hl h]

theorem written_length (hw : BWF spec b) (hl : LegalRes b res rg sl) :
    (b.written rg res).rungs.length = b.current + 1 :=
  List.length_set.trans (hw.len_cur hl.hrg).1

theorem written_cur (hl : LegalRes b res rg sl) :
    (b.written rg res).rungs[b.current]? = some (rg.write res) :=
  List.getElem?_set_self (getElem?_lt hl.hrg)

theorem written_other (k : Nat) (hk : k ≠ b.current) :
    (b.written rg res).rungs[k]? = b.rungs[k]? :=
  List.getElem?_set_ne (Ne.symm hk)

theorem written_getElem? {k : Nat} {r : Rung} (h : (b.written rg res).rungs[k]? = some r) :
    (k = b.current ∧ r = rg.write res) ∨ (k ≠ b.current ∧ b.rungs[k]? = some r) :=
  getElem?_set_eq_some h

theorem written_hasId (hl : LegalRes b res rg sl) (x : Nat) :
    (b.written rg res).HasId x ↔ b.HasId x ∨ res.tid = some x := by
  constructor
  · rintro ⟨r, hr, hx⟩
    rcases List.mem_or_eq_of_mem_set hr with h | rfl
    · exact Or.inl ⟨r, h, hx⟩
    · exact ((write_ids_mem hl x).mp hx).imp_left fun h => ⟨rg, List.mem_of_getElem? hl.hrg, h⟩
  · rintro (⟨r, hr, hx⟩ | h)
    · obtain ⟨k, hk⟩ := List.mem_iff_getElem?.mp hr
      by_cases hkc : k = b.current
      · obtain rfl := Option.mem_unique (hkc ▸ hk) hl.hrg
        exact ⟨_, List.mem_of_getElem? (written_cur hl), (write_ids_mem hl x).mpr (Or.inl hx)⟩
      · exact ⟨r, List.mem_of_getElem? ((written_other k hkc).trans hk), hx⟩
    · exact ⟨_, List.mem_of_getElem? (written_cur hl), (write_ids_mem hl x).mpr (Or.inr h)⟩

theorem written_shape (hl : LegalRes b res rg sl) : (b.written rg res).shape = b.shape := by
  simp only [Bracket.shape, Bracket.written, List.map_set]
  congr 1
  refine List.ext_getElem? fun k => ?_
  rw [List.getElem?_set]
  split
  · next h =>
    obtain ⟨hlt, rfl⟩ := List.getElem?_eq_some_iff.mp hl.hrg
    subst h; simp [Rung.write, hlt]
  · rfl

theorem TopRel.write {m : Mode} {lower : List Rung} {prev : Rung} (hl : LegalRes b res rg sl)
    (hlow : ∀ r ∈ lower, r ∈ b.rungs) (ht : TopRel m lower prev rg) : TopRel m lower prev (rg.write res) := by
  obtain ⟨es, hes, hlen, hpt⟩ := ht
  unfold TopRel
  simp only [write_length]
  refine ⟨es, hes, hlen, fun p o s ho hs => ?_⟩
  rcases getElem?_set_eq_some hs with ⟨rfl, rfl⟩ | ⟨_, hs⟩
  · have hold := hpt _ o sl ho hl.hsl
    rcases hl.tid with hn | he
    · -- the slot had no id: the top list has `None` there, and the trial reporting is new
      have ho' : o = none := hold.elim (fun h => h.symm.trans hn) (·.1)
      exact Or.inr ⟨ho', fun t ht => ⟨hl.hm, fun r hr hc => hl.fresh hn t ht ⟨r, hlow r hr, hc⟩⟩⟩
    · exact hold.imp (fun h => he.symm.trans h) fun ⟨h1, h2⟩ => ⟨h1, fun t ht => ⟨hl.hm, (h2 t (he.trans ht)).2⟩⟩
  · exact hpt p o s ho hs

theorem topRel_new {m : Mode} {lower : List Rung} {prev : Rung} {es : List TEntry} {n ms : Nat}
    (hes : entriesOf prev.slots = some es) (hn : n ≤ es.length) :
    TopRel m lower prev (newRung (topList es n m) ms) := by
  unfold TopRel newRung
  simp only [List.length_map, topList_length es n m hn]
  refine ⟨es, hes, topList_length es n m hn, fun p o s ho hs => Or.inl ?_⟩
  rw [List.getElem?_map, ho] at hs
  cases hs; rfl

theorem written_pre (hw : BWF spec b) (hl : LegalRes b res rg sl) : PreWF spec (b.written rg res) := by
  have hlen : (b.written rg res).rungs.length = b.rungs.length := List.length_set
  refine {
    kind := hw.kind, specOk := hw.specOk, shape := (written_shape hl).trans hw.shape, len := hlen.trans hw.len,
    done := ?done, free := ?free, top := ?top, nodup := ?nodup, base := ?base }
  case done =>
    intro k r (hk : k < b.current) hr
    rw [written_other k (Nat.ne_of_lt hk)] at hr
    exact hw.done k r hk hr
  case free =>
    intro r hr
    obtain rfl := Option.mem_unique (written_cur hl) hr
    have hf := hw.free rg hl.hrg
    refine ⟨write_length.symm ▸ hf.1, fun p s hs hp => hf.2 p s ?_ hp⟩
    rwa [write_slot_ne (Nat.ne_of_gt (Nat.lt_of_lt_of_le hl.lt hp))] at hs
  case top =>
    intro k prev next hprev hnext
    -- rung `k + 1` exists, so `k < current`: `prev` and the rungs below are untouched
    have hk : k < b.current := by have := getElem?_lt hnext; rw [hlen, hw.len] at this; omega
    rw [written_other k (Nat.ne_of_lt hk)] at hprev
    have htake : (b.written rg res).rungs.take (k + 1) = b.rungs.take (k + 1) := List.take_set_of_le hk
    rw [htake]
    rcases written_getElem? hnext with ⟨hkc, rfl⟩ | ⟨_, hnext⟩
    · exact (hw.top k prev rg hprev (hkc ▸ hl.hrg)).write hl fun r hr => List.mem_of_mem_take hr
    · exact hw.top k prev next hprev hnext
  case nodup =>
    intro r hr
    rcases List.mem_or_eq_of_mem_set hr with h | rfl
    · exact hw.nodup r h
    · exact write_ids_nodup hl (hw.nodup rg (List.mem_of_getElem? hl.hrg))
  case base =>
    intro r hr y hy hyt
    rcases written_getElem? hr with ⟨h0, rfl⟩ | ⟨_, hr⟩
    · rcases List.mem_or_eq_of_mem_set hy with h | rfl
      · exact hw.base rg (h0 ▸ hl.hrg) y h hyt
      · exact hl.hm
    · exact hw.base r hr y hy hyt

theorem rungDone_iff (hw : BWF spec b) (hl : LegalRes b res rg sl) :
    RungDone (rg.write res) b.firstFree ↔ ∀ s ∈ (rg.write res).slots, s.metric.isSome = true := by
  refine ⟨fun ⟨h1, h2⟩ => (pendingIn_zero_iff _ _ h1).mp h2, fun hall => ?_⟩
  have hle : (rg.write res).slots.length ≤ b.firstFree := by
    -- a slot not yet handed out is empty
    refine Nat.le_of_not_lt fun hlt => ?_
    have := hall _ (List.getElem_mem hlt)
    rw [((written_pre hw hl).free _ (written_cur hl)).2 _ _ (List.getElem?_eq_getElem hlt) (Nat.le_refl _)] at this
    cases this
  exact ⟨hle, (pendingIn_zero_iff _ _ hle).mpr hall⟩

theorem written_wf_of_not_done (hw : BWF spec b) (hl : LegalRes b res rg sl)
    (hnd : ¬ RungDone (rg.write res) b.firstFree) : BWF spec (b.written rg res) := by
  refine (written_pre hw hl).wf fun r hr => ?_
  obtain rfl := Option.mem_unique (written_cur hl) hr
  refine Classical.not_forall_not.mp fun hc => hnd ((rungDone_iff hw hl).mpr fun s hs => ?_)
  exact Option.isSome_iff_ne_none.mpr fun hm => hc s ⟨hs, hm⟩

end written

/-- the bracket after `on_result` wrote the result that completes the current rung -/
def Bracket.finished (b : Bracket) (rg : Rung) (res : SlotInRung) : Bracket :=
  { b.written rg res with current := b.current + 1, firstFree := 0 }

/-- the same with the next rung filled in by `_promote_trials_at_rung_complete` -/
def Bracket.promoted (b : Bracket) (rg : Rung) (res : SlotInRung) (es : List TEntry) (newLen ms : Nat)
    (rest : List (Nat × Nat)) : Bracket :=
  { b.finished rg res with
      rungs := (b.written rg res).rungs ++ [newRung (topList es newLen b.mode) ms], todo := rest }

/-- the three outcomes of `on_result` -/
inductive ResultCase (b : Bracket) (res : SlotInRung) (rg : Rung) :
    Bracket → Option (List (Option Nat)) → Prop
  | stay (h : ¬ RungDone (rg.write res) b.firstFree) : ResultCase b res rg (b.written rg res) none
  | last (h : RungDone (rg.write res) b.firstFree) (hc : b.numRungs ≤ b.current + 1) :
      ResultCase b res rg (b.finished rg res) none
  | promote (h : RungDone (rg.write res) b.firstFree) (newLen ms : Nat) (rest : List (Nat × Nat))
      (es : List TEntry) (htodo : b.todo = (newLen, ms) :: rest)
      (hes : entriesOf (rg.write res).slots = some es) :
      ResultCase b res rg (b.promoted rg res es newLen ms rest) (some (remainingList es (topList es newLen b.mode)))

section done
variable {spec : List (Nat × Nat)} {b : Bracket} {res : SlotInRung} {rg : Rung} {sl : Slot}

theorem written_done (hw : BWF spec b) (hl : LegalRes b res rg sl) (hd : RungDone (rg.write res) b.firstFree)
    {k : Nat} {r : Rung} (hk : k < b.current + 1) (hr : (b.written rg res).rungs[k]? = some r) :
    ∀ s ∈ r.slots, s.metric.isSome = true := by
  rcases written_getElem? hr with ⟨_, rfl⟩ | ⟨hkc, hr⟩
  · exact (rungDone_iff hw hl).mp hd
  · exact hw.done k r (Nat.lt_of_le_of_ne (Nat.le_of_lt_succ hk) hkc) hr

theorem last_wf (hw : BWF spec b) (hl : LegalRes b res rg sl)
    (hd : RungDone (rg.write res) b.firstFree) (hc : b.numRungs ≤ b.current + 1) :
    BWF spec (b.finished rg res) := by
  have hpre := written_pre hw hl
  have hlen := written_length hw hl
  have hnone : ∀ r, (b.written rg res).rungs[b.current + 1]? ≠ some r :=
    fun r hr => absurd (getElem?_lt hr) (by rw [hlen]; exact Nat.lt_irrefl _)
  refine {
    kind := hpre.kind, specOk := hpre.specOk, shape := hpre.shape, top := hpre.top, nodup := hpre.nodup,
    base := hpre.base, len := ?_, done := fun k r hk hr => written_done hw hl hd hk hr,
    free := fun r hr => absurd hr (hnone r), open_ := fun r hr => absurd hr (hnone r) }
  have := hw.numRungs_eq; have := (hw.len_cur hl.hrg).2
  change (b.written rg res).rungs.length = min (b.current + 1 + 1) _
  rw [hlen]; omega

theorem promote_wf (hw : BWF spec b) (hl : LegalRes b res rg sl)
    (hd : RungDone (rg.write res) b.firstFree)
    (newLen ms : Nat) (rest : List (Nat × Nat)) (es : List TEntry)
    (htodo : b.todo = (newLen, ms) :: rest) (hes : entriesOf (rg.write res).slots = some es) :
    BWF spec (b.promoted rg res es newLen ms rest) := by
  have hpre := written_pre hw hl
  have hblen := (hw.len_cur hl.hrg).1
  have hRlen := written_length hw hl
  have hRcur := written_cur hl
  -- the new rung is smaller than the completed one, and not empty
  have hs1 : spec[b.current + 1]? = some (newLen, ms) := by
    have := shape_todo b 0
    rwa [hw.shape, hblen, htodo] at this
  have hlt : newLen < rg.slots.length := checkRungs_decr spec hw.specOk b.current _ _
    (hw.shape ▸ shape_getElem b _ rg hl.hrg) hs1
  have hpos : 1 ≤ newLen := checkRungs_size_pos spec hw.specOk _ (List.mem_of_getElem? hs1)
  have hle : newLen ≤ es.length := by rw [entriesOf_length hes, write_length]; omega
  have htl : (topList es newLen b.mode).length = newLen := topList_length es newLen b.mode hle
  unfold Bracket.promoted
  generalize hnew : newRung (topList es newLen b.mode) ms = new
  have hnewlen : new.slots.length = newLen := by rw [← hnew, newRung, List.length_map, htl]
  have hempty : ∀ s ∈ new.slots, s.metric = none := by
    rw [← hnew, newRung]; intro s hs
    obtain ⟨t, _, rfl⟩ := List.mem_map.mp hs; rfl
  -- below index `current + 1` the new list of rungs is the old one; there it holds the new rung
  have hold : ∀ {k}, k < b.current + 1 → ((b.written rg res).rungs ++ [new])[k]? = (b.written rg res).rungs[k]? :=
    fun hk => List.getElem?_append_left (hRlen ▸ hk)
  have hcur : ((b.written rg res).rungs ++ [new])[b.current + 1]? = some new := hRlen ▸ List.getElem?_concat_length
  refine {
    kind := hpre.kind, specOk := hpre.specOk, shape := ?shape, len := ?len,
    done := fun k r hk hr => written_done hw hl hd hk ((hold hk).symm.trans hr),
    free := fun r hr => ?free, open_ := fun r hr => ?open_, top := ?top, nodup := ?nodup,
    base := fun r hr => hpre.base r ((hold (Nat.succ_pos _)).symm.trans hr) }
  case shape =>
    have h1 : (b.written rg res).rungs.map _ ++ b.todo = spec := hpre.shape
    rw [← h1, htodo, ← hnew]; simp [Bracket.shape, newRung, htl]
  case len =>
    change ((b.written rg res).rungs ++ [new]).length = min (b.current + 1 + 1) spec.length
    have := getElem?_lt hs1
    simp only [List.length_append, List.length_singleton, hRlen]; omega
  case free =>
    obtain rfl := Option.mem_unique hcur hr
    exact ⟨Nat.zero_le _, fun p s hs _ => hempty s (List.mem_of_getElem? hs)⟩
  case open_ =>
    obtain rfl := Option.mem_unique hcur hr
    have h0 : 0 < new.slots.length := hnewlen ▸ hpos
    exact ⟨_, List.getElem_mem h0, hempty _ (List.getElem_mem h0)⟩
  case top =>
    intro k prev next hprev hnext
    have hk : k < b.current + 1 := by
      have := getElem?_lt hnext
      simp only [List.length_append, List.length_singleton, hRlen] at this; omega
    have hprev' := (hold hk).symm.trans hprev
    change TopRel b.mode (((b.written rg res).rungs ++ [new]).take (k + 1)) prev next
    rw [List.take_append_of_le_length (by omega)]
    rcases Nat.lt_or_eq_of_le (Nat.succ_le_of_lt hk) with hk1 | hk1
    · exact hpre.top k prev next hprev' ((hold hk1).symm.trans hnext)
    · obtain rfl : k = b.current := Nat.succ.inj hk1
      obtain rfl := Option.mem_unique hRcur hprev'
      obtain rfl := Option.mem_unique hcur hnext
      exact hnew ▸ topRel_new hes hle
  case nodup =>
    intro r hr
    rcases List.mem_append.mp hr with h | h
    · exact hpre.nodup r h
    · obtain rfl := List.mem_singleton.mp h
      rw [← hnew, newRung_ids]
      refine topList_nodup es newLen b.mode ?_
      rw [entriesOf_ids hes]
      exact hpre.nodup _ (List.mem_of_getElem? hRcur)

theorem promote_ok {c : Bracket} {newLen ms : Nat} {rest : List (Nat × Nat)} {prev : Rung} {es : List TEntry}
    (hk : c.kind = .hyperband) (ht : c.todo = (newLen, ms) :: rest) (hlen : c.rungs.length = c.current)
    (hprev : c.rungs[c.current - 1]? = some prev) (hes : entriesOf prev.slots = some es) :
    c.promote = .ok
      ({ c with
          rungs := c.rungs ++ [newRung (topList es newLen c.mode) ms],
          todo := rest },
       remainingList es (topList es newLen c.mode)) := by
  simp only [Bracket.promote, hk, ht, hlen, ne_eq, not_true_eq_false, if_false, hprev, hes, getTopList, newRung]

theorem onResult_cases (hw : BWF spec b) (hl : LegalRes b res rg sl) :
    ∃ b' np, b.onResult res = .ok (b', np) ∧ ResultCase b res rg b' np ∧ BWF spec b' := by
  unfold Bracket.onResult
  rw [checkResult_ok hl]
  change ∃ b' np, (b.written rg res).afterWrite (rg.write res) = .ok (b', np) ∧ _
  have hnum : ∀ c, ({ b.written rg res with current := c, firstFree := 0 } : Bracket).isComplete = true ↔
      b.numRungs ≤ c := by
    simp [Bracket.isComplete, Bracket.numRungs, Bracket.written]
  unfold Bracket.afterWrite
  split
  · next hd =>
    replace hd : RungDone (rg.write res) b.firstFree := hd
    dsimp only
    split
    · next hc => exact ⟨_, _, rfl, .last hd ((hnum _).mp hc), last_wf hw hl hd ((hnum _).mp hc)⟩
    · next hc =>
      replace hc : ¬ b.numRungs ≤ b.current + 1 := fun h => hc ((hnum _).mpr h)
      have hblen := (hw.len_cur hl.hrg).1
      obtain ⟨newLen, ms, rest, htodo⟩ : ∃ newLen ms rest, b.todo = (newLen, ms) :: rest := by
        cases ht : b.todo with
        | nil => simp [Bracket.numRungs, ht] at hc; omega
        | cons hd tl => exact ⟨hd.1, hd.2, tl, rfl⟩
      obtain ⟨es, hes⟩ := entriesOf_some (rg.write res).slots ((rungDone_iff hw hl).mp hd)
      rw [promote_ok (c := { b.written rg res with current := (b.written rg res).current + 1, firstFree := 0 })
        hw.kind htodo (written_length hw hl) (written_cur hl) hes]
      exact ⟨_, _, rfl, .promote hd newLen ms rest es htodo hes, promote_wf hw hl hd newLen ms rest es htodo hes⟩
  · next hd => exact ⟨_, _, rfl, .stay hd, written_wf_of_not_done hw hl hd⟩

end done

theorem resultCase_mode {br res rg br' np} (h : ResultCase br res rg br' np) : br'.mode = br.mode := by
  cases h <;> rfl

theorem resultCase_hasId {br res rg sl br' np} (hl : LegalRes br res rg sl)
    (hc : ResultCase br res rg br' np) (t : Nat) : br'.HasId t ↔ br.HasId t ∨ res.tid = some t := by
  rw [← written_hasId hl t]
  cases hc with
  | stay h => rfl
  | last h hc => rfl
  | promote h newLen ms rest es htodo hes =>
    refine ⟨?_, fun ⟨r, hr, ht⟩ => ⟨r, List.mem_append_left _ hr, ht⟩⟩
    rintro ⟨r, hr, ht⟩
    rcases List.mem_append.mp hr with h1 | h1
    · exact ⟨r, h1, ht⟩
    · -- an id of the new rung comes from the completed one
      obtain rfl := List.mem_singleton.mp h1
      refine ⟨rg.write res, List.mem_of_getElem? (written_cur hl), ?_⟩
      rw [newRung_ids, List.mem_filterMap] at ht
      obtain ⟨o, ho, (rfl : o = some t)⟩ := ht
      obtain ⟨e, he, heo⟩ := topList_mem es newLen br.mode _ ho
      rw [Rung.ids, ← entriesOf_ids hes]
      exact List.mem_filterMap.mpr ⟨e, he, heo⟩

theorem resultCase_rungs {br res rg br' np} (hc : ResultCase br res rg br' np) {k : Nat} {r : Rung}
    (h : (br.written rg res).rungs[k]? = some r) : br'.rungs[k]? = some r := by
  cases hc with
  | stay _ => exact h
  | last _ _ => exact h
  | promote _ _ _ _ _ _ _ => exact (List.getElem?_append_left (getElem?_lt h)).trans h

/-- a rung after `on_result` is one of the bracket after the write, or the new, empty one -/
theorem resultCase_rungs_of {br res rg br' np} (hc : ResultCase br res rg br' np) {k : Nat} {r : Rung}
    (h : br'.rungs[k]? = some r) : (br.written rg res).rungs[k]? = some r ∨ ∀ s ∈ r.slots, s.metric = none := by
  cases hc with
  | stay _ => exact Or.inl h
  | last _ _ => exact Or.inl h
  | promote _ _ _ _ _ _ _ =>
    rcases getElem?_concat_eq_some h with h | ⟨_, rfl⟩
    · exact Or.inl h
    · exact Or.inr fun s hs => by obtain ⟨o, _, rfl⟩ := List.mem_map.mp hs; rfl

/-- another unoccupied, handed-out slot in the same rung keeps the rung open -/
theorem stay_of_other_pending {spec br res rg x br' np} (hb : BWF spec br) (hl : LegalRes br res rg x)
    (hc : ResultCase br res rg br' np) (q : Nat) (y : Slot) (hq : rg.slots[q]? = some y)
    (hne : q ≠ res.slotIndex) (hy : y.metric = none) : br' = br.written rg res := by
  have hnd : ¬ RungDone (rg.write res) br.firstFree := fun hd => by
    have := (rungDone_iff hb hl).mp hd y (List.mem_of_getElem? ((write_slot_ne hne).trans hq))
    rw [hy] at this; cases this
  cases hc with
  | stay h => rfl
  | last h _ => exact absurd h hnd
  | promote h _ _ _ _ _ _ => exact absurd h hnd

theorem written_slot {br : Bracket} {res : SlotInRung} {rg rgk : Rung} {k p : Nat} {y : Slot}
    (hrg : br.rungs[br.current]? = some rg) (hk : (br.written rg res).rungs[k]? = some rgk)
    (hp : rgk.slots[p]? = some y) :
    (k = br.current ∧ p = res.slotIndex) ∨ ∃ rgk0, br.rungs[k]? = some rgk0 ∧ rgk0.slots[p]? = some y := by
  rcases written_getElem? hk with ⟨rfl, rfl⟩ | ⟨_, hk⟩
  · rcases getElem?_set_eq_some hp with ⟨rfl, _⟩ | ⟨_, hp⟩
    · exact Or.inl ⟨rfl, rfl⟩
    · exact Or.inr ⟨rg, hrg, hp⟩
  · exact Or.inr ⟨rgk, hk, hp⟩

end SyneTune.Sync
