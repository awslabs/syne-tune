import SyneTune.Model.PollBackend
/-
What both back-end models use below their own lemma files: `modifyAt` is core's `List.modify`, and its lemmas
restate core's in the form the models' proofs use; the two bounds of `maxRat` are proved from the definition,
because the `max` of Mathlib's order on `ℚ` would pull its imports into files that need nothing else of it.
-/
namespace SyneTune.Backend

theorem modifyAt_eq_modify {α} (f : α → α) (n : Nat) (l : List α) : modifyAt f n l = l.modify n f := by
  induction l generalizing n with
  | nil => cases n <;> rfl
  | cons x xs ih => cases n <;> simp [modifyAt, ih]

theorem length_modifyAt {α} (f : α → α) (n : Nat) (l : List α) : (modifyAt f n l).length = l.length := by
  rw [modifyAt_eq_modify, List.length_modify]

theorem getElem?_modifyAt {α} (f : α → α) (n i : Nat) (l : List α) :
    (modifyAt f n l)[i]? = if i = n then (l[i]?).map f else l[i]? := by
  rw [modifyAt_eq_modify, List.getElem?_modify]
  by_cases h : n = i
  · subst h; cases l[n]? <;> simp
  · cases l[i]? <;> simp [h, Ne.symm h]

theorem modifyAt_id {α} (n : Nat) (l : List α) : modifyAt (fun x => x) n l = l := by
  rw [modifyAt_eq_modify]; exact List.modify_id n l

theorem modifyAt_modifyAt {α} (f g : α → α) (n : Nat) (l : List α) :
    modifyAt f n (modifyAt g n l) = modifyAt (fun x => f (g x)) n l := by
  rw [modifyAt_eq_modify, modifyAt_eq_modify, modifyAt_eq_modify, List.modify_modify_eq]; rfl

theorem getElem?_modifyAt_of {α} {f : α → α} {n i : Nat} {l : List α} {x : α} (h : l[i]? = some x) :
    (modifyAt f n l)[i]? = some (if i = n then f x else x) := by
  rw [getElem?_modifyAt, h]; split <;> rfl

theorem getElem?_modifyAt_some {α} {f : α → α} {n i : Nat} {l : List α} {y : α} (h : (modifyAt f n l)[i]? = some y) :
    ∃ x, l[i]? = some x ∧ ((i ≠ n ∧ x = y) ∨ (i = n ∧ f x = y)) := by
  rw [getElem?_modifyAt] at h
  cases hx : l[i]? with
  | none => rw [hx] at h; split at h <;> cases h
  | some x =>
    rw [hx] at h
    split at h
    · exact ⟨x, rfl, Or.inr ⟨‹_›, Option.some.inj h⟩⟩
    · exact ⟨x, rfl, Or.inl ⟨‹_›, Option.some.inj h⟩⟩

theorem mem_modifyAt {α} (f : α → α) (n : Nat) (l : List α) (y : α) (h : y ∈ modifyAt f n l) :
    y ∈ l ∨ ∃ x, l[n]? = some x ∧ y = f x := by
  obtain ⟨i, hi⟩ := List.getElem?_of_mem h
  obtain ⟨x, hx, ⟨_, rfl⟩ | ⟨rfl, rfl⟩⟩ := getElem?_modifyAt_some hi
  · exact Or.inl (List.mem_of_getElem? hx)
  · exact Or.inr ⟨x, hx, rfl⟩

end SyneTune.Backend

namespace SyneTune.SimTab

theorem le_maxRat_left (a b : Rat) : a ≤ maxRat a b := by
  unfold maxRat; split
  · exact Rat.le_of_lt ‹_›
  · exact Rat.le_refl

theorem le_maxRat_right (a b : Rat) : b ≤ maxRat a b := by
  unfold maxRat; split
  · exact Rat.le_refl
  · exact Rat.not_lt.mp ‹_›

end SyneTune.SimTab
