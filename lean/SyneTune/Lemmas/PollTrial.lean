import SyneTune.Lemmas.BackendBasic
/-
One trial of the generic poll model: the stamp sort of a poll's batch, the reports a job appends (`newReps`), and
the per-trial invariant `TInv` with its preservation by every primitive change of a trial's record.
-/
namespace SyneTune.PollL
open SyneTune SyneTune.Backend

/-- a batch in the order `fetch_status_results` returns it: by worker time stamp -/
def StampSorted (l : List (Nat × Rep)) : Prop := l.Pairwise (fun a b => a.2.stamp ≤ b.2.stamp)

theorem mem_insertByStamp (x y : Nat × Rep) (l : List (Nat × Rep)) :
    y ∈ insertByStamp x l ↔ y = x ∨ y ∈ l := by
  induction l with
  | nil => simp [insertByStamp]
  | cons z zs ih =>
    unfold insertByStamp
    split
    · simp
    · simp only [List.mem_cons, ih]
      constructor
      · rintro (h | h | h) <;> simp [h]
      · rintro (h | h | h) <;> simp [h]

theorem insertByStamp_sorted (x : Nat × Rep) (l : List (Nat × Rep)) (h : StampSorted l) :
    StampSorted (insertByStamp x l) := by
  induction l with
  | nil => simp [insertByStamp, StampSorted]
  | cons z zs ih =>
    unfold StampSorted at h ih ⊢
    rw [List.pairwise_cons] at h
    unfold insertByStamp
    split
    · rename_i hlt
      rw [List.pairwise_cons]
      refine ⟨?_, List.pairwise_cons.mpr h⟩
      intro a ha
      rcases List.mem_cons.mp ha with rfl | ha
      · omega
      · have := h.1 a ha; omega
    · rename_i hge
      rw [List.pairwise_cons]
      refine ⟨?_, ih h.2⟩
      intro a ha
      rcases (mem_insertByStamp x a zs).mp ha with rfl | ha
      · omega
      · exact h.1 a ha

theorem sortByStamp_sorted (l : List (Nat × Rep)) : StampSorted (sortByStamp l) := by
  induction l with
  | nil => simp [sortByStamp, StampSorted]
  | cons x xs ih => exact insertByStamp_sorted x _ ih

theorem insertByStamp_of_lt (x : Nat × Rep) (l : List (Nat × Rep))
    (h : ∀ z ∈ l, x.2.stamp < z.2.stamp) : insertByStamp x l = x :: l := by
  cases l with
  | nil => rfl
  | cons z zs => simp [insertByStamp, h z (by simp)]

theorem filter_insertByStamp (p : Nat × Rep → Bool) (x : Nat × Rep) (l : List (Nat × Rep))
    (h : StampSorted l) :
    (insertByStamp x l).filter p = if p x then insertByStamp x (l.filter p) else l.filter p := by
  induction l with
  | nil => simp [insertByStamp]; split <;> simp_all
  | cons z zs ih =>
    unfold StampSorted at h ih
    rw [List.pairwise_cons] at h
    by_cases hlt : x.2.stamp < z.2.stamp
    · have hall : ∀ w ∈ (z :: zs).filter p, x.2.stamp < w.2.stamp := by
        intro w hw
        have hw' := (List.mem_filter.mp hw).1
        rcases List.mem_cons.mp hw' with rfl | hw'
        · exact hlt
        · have := h.1 w hw'; omega
      rw [insertByStamp_of_lt x (z :: zs) (by
        intro w hw
        rcases List.mem_cons.mp hw with rfl | hw
        · exact hlt
        · have := h.1 w hw; omega)]
      by_cases hp : p x
      · simp only [hp, if_true]
        rw [insertByStamp_of_lt x _ hall, List.filter_cons_of_pos hp]
      · simp only [hp]
        rw [List.filter_cons_of_neg hp]; simp
    · have : insertByStamp x (z :: zs) = z :: insertByStamp x zs := by
        simp [insertByStamp, hlt]
      rw [this]
      by_cases hz : p z
      · rw [List.filter_cons_of_pos hz, List.filter_cons_of_pos hz, ih h.2]
        split
        · simp [insertByStamp, hlt]
        · rfl
      · rw [List.filter_cons_of_neg hz, List.filter_cons_of_neg hz, ih h.2]

theorem filter_sortByStamp (p : Nat × Rep → Bool) (l : List (Nat × Rep)) :
    (sortByStamp l).filter p = sortByStamp (l.filter p) := by
  induction l with
  | nil => simp [sortByStamp]
  | cons x xs ih =>
    have h1 : sortByStamp (x :: xs) = insertByStamp x (sortByStamp xs) := rfl
    rw [h1, filter_insertByStamp p x _ (sortByStamp_sorted xs), ih]
    by_cases hp : p x
    · simp only [hp, if_true]; rw [List.filter_cons_of_pos hp]; rfl
    · simp only [hp]; rw [List.filter_cons_of_neg hp]; simp

theorem sortByStamp_of_sorted (l : List (Nat × Rep))
    (h : l.Pairwise (fun a b => a.2.stamp < b.2.stamp)) : sortByStamp l = l := by
  induction l with
  | nil => rfl
  | cons x xs ih =>
    rw [List.pairwise_cons] at h
    have h1 : sortByStamp (x :: xs) = insertByStamp x (sortByStamp xs) := rfl
    rw [h1, ih h.2, insertByStamp_of_lt x xs h.1]

theorem newReps_length (run k c n : Nat) : (newReps run k c n).length = n := by
  induction n generalizing k c with
  | zero => rfl
  | succ n ih => simp [newReps, ih]

theorem newReps_run (run k c n : Nat) : ∀ r ∈ newReps run k c n, r.run = run := by
  induction n generalizing k c with
  | zero => simp [newReps]
  | succ n ih =>
    intro r hr
    simp only [newReps, List.mem_cons] at hr
    rcases hr with rfl | hr
    · rfl
    · exact ih _ _ r hr

theorem newReps_idx (run k c n : Nat) : (newReps run k c n).map (·.idx) = List.range' k n := by
  induction n generalizing k c with
  | zero => rfl
  | succ n ih => simp [newReps, ih, List.range'_succ]

theorem newReps_stamp_bounds (run k c n : Nat) : ∀ r ∈ newReps run k c n, c ≤ r.stamp ∧ r.stamp < c + n := by
  induction n generalizing k c with
  | zero => simp [newReps]
  | succ n ih =>
    intro r hr
    simp only [newReps, List.mem_cons] at hr
    rcases hr with rfl | hr
    · simp
    · have := ih (k + 1) (c + 1) r hr; omega

theorem newReps_stamp_sorted (run k c n : Nat) :
    (newReps run k c n).Pairwise (fun a b => a.stamp < b.stamp) := by
  induction n generalizing k c with
  | zero => simp [newReps]
  | succ n ih =>
    simp only [newReps, List.pairwise_cons]
    refine ⟨?_, ih _ _⟩
    intro r hr
    have := newReps_stamp_bounds run (k + 1) (c + 1) n r hr
    simp; omega

def runReps (k : Nat) (out : List Rep) : List Rep := out.filter (fun r => r.run == k)

/-- `c` is the global emission counter.  Four fields carry C02's theorems: `all_idx` (with `deliv_eq`) prefix,
`quiet` why nothing comes after the decision, `after` that nothing did, `fresh` what is delivered after a clean
resume -/
structure TInv (c : Nat) (x : PTrial) : Prop where
  cursor_le : x.cursor ≤ x.out.length
  deliv_eq : x.deliv = x.out.take x.cursor
  stamps : x.out.Pairwise (fun a b => a.stamp < b.stamp)
  stamps_lt : ∀ r ∈ x.out, r.stamp < c
  run_le : ∀ r ∈ x.out, r.run ≤ x.run
  cur_idx : (runReps x.run x.out).map (·.idx) = List.range x.nrep
  all_idx : ∀ k, ∃ n, (runReps k x.out).map (·.idx) = List.range n
  fresh : x.staleAtResume = false → x.since ++ x.out.drop x.cursor = runReps x.run x.out
  quiet : x.decided = true → x.status.hidden = true ∨ (x.proc ≠ .running ∧ x.cursor = x.out.length)
  after : x.afterDec = []

abbrev Drained (x : PTrial) : Prop := x.proc ≠ .running ∧ x.cursor = x.out.length

/-- no later poll returns anything for the trial (the conclusion of `TInv.quiet`) -/
abbrev Quiet (x : PTrial) : Prop := x.status.hidden = true ∨ Drained x

theorem TInv.since_head {c : Nat} {x : PTrial} {r : Rep} (h : TInv c x) (hclean : x.staleAtResume = false)
    (hr : x.since.head? = some r) : r.run = x.run ∧ r.idx = 0 := by
  have hf := h.fresh hclean
  cases hs : x.since with
  | nil => rw [hs] at hr; cases hr
  | cons r0 tl =>
    rw [hs] at hr hf
    simp only [List.head?_cons, Option.some.injEq] at hr
    subst hr
    have hmem : r0 ∈ runReps x.run x.out := by rw [← hf]; simp
    have hrun : r0.run = x.run := by
      have := (List.mem_filter.mp hmem).2
      simpa using this
    refine ⟨hrun, ?_⟩
    have hidx := h.cur_idx
    rw [← hf] at hidx
    simp only [List.cons_append, List.map_cons] at hidx
    cases hn : x.nrep with
    | zero => rw [hn] at hidx; simp at hidx
    | succ n =>
      rw [hn, List.range_succ_eq_map] at hidx
      simp only [List.cons.injEq] at hidx
      exact hidx.1

theorem TInv.mono {c c' : Nat} {x : PTrial} (h : TInv c x) (hc : c ≤ c') : TInv c' x :=
  { h with stamps_lt := fun r hr => Nat.lt_of_lt_of_le (h.stamps_lt r hr) hc }

theorem TInv.init (c : Nat) : TInv c {} := by
  constructor <;> simp [runReps, PTrial.status, St.hidden]

theorem runReps_append (k : Nat) (a b : List Rep) : runReps k (a ++ b) = runReps k a ++ runReps k b := by
  simp [runReps]

theorem runReps_newReps_same (run k c n : Nat) : runReps run (newReps run k c n) = newReps run k c n := by
  unfold runReps
  rw [List.filter_eq_self]
  intro r hr
  simp [newReps_run run k c n r hr]

theorem runReps_newReps_other (run run' k c n : Nat) (h : run ≠ run') : runReps run' (newReps run k c n) = [] := by
  unfold runReps
  rw [List.filter_eq_nil_iff]
  intro r hr
  have := newReps_run run k c n r hr
  simp [this, h]

theorem status_emit (x : PTrial) (c n : Nat) : (x.emit c n).status = x.status := by
  unfold PTrial.emit
  split <;> simp [PTrial.status, *]

theorem emit_of_not_running {x : PTrial} (h : x.proc ≠ .running) (c n : Nat) : x.emit c n = x := by
  unfold PTrial.emit
  split
  · exact absurd ‹_› h
  · rfl

theorem TInv.emit {c : Nat} {x : PTrial} (h : TInv c x) (n : Nat) : TInv (c + n) (x.emit c n) := by
  by_cases hp : x.proc = .running
  · have he : x.emit c n = { x with out := x.out ++ newReps x.run x.nrep c n, nrep := x.nrep + n } := by
      simp [PTrial.emit, hp]
    have hst := status_emit x c n
    rw [he] at hst ⊢
    have hcur : (runReps x.run (x.out ++ newReps x.run x.nrep c n)).map (·.idx) = List.range (x.nrep + n) := by
      rw [runReps_append, runReps_newReps_same, List.map_append, h.cur_idx, newReps_idx, List.range_eq_range',
        List.range_eq_range', ← List.range'_append_1, Nat.zero_add]
    refine {
      cursor_le := Nat.le_trans h.cursor_le (by simp)
      deliv_eq := ?deliv_eq
      stamps := ?stamps
      stamps_lt := ?stamps_lt
      run_le := ?run_le
      cur_idx := hcur
      all_idx := ?all_idx
      fresh := ?fresh
      quiet := ?quiet
      after := h.after }
    case deliv_eq =>
      show x.deliv = _
      rw [List.take_append_of_le_length h.cursor_le]; exact h.deliv_eq
    case stamps =>
      refine List.pairwise_append.mpr ⟨h.stamps, newReps_stamp_sorted _ _ _ _, fun a ha b hb => ?_⟩
      exact Nat.lt_of_lt_of_le (h.stamps_lt a ha) (newReps_stamp_bounds x.run x.nrep c n b hb).1
    case stamps_lt =>
      intro r hr
      rcases List.mem_append.mp hr with hr | hr
      · exact Nat.lt_of_lt_of_le (h.stamps_lt r hr) (Nat.le_add_right c n)
      · exact (newReps_stamp_bounds x.run x.nrep c n r hr).2
    case run_le =>
      intro r hr
      rcases List.mem_append.mp hr with hr | hr
      · exact h.run_le r hr
      · exact Nat.le_of_eq (newReps_run _ _ _ _ r hr)
    case all_idx =>
      intro k
      by_cases hk : x.run = k
      · exact hk ▸ ⟨_, hcur⟩
      · obtain ⟨m, hm⟩ := h.all_idx k
        exact ⟨m, by rw [runReps_append, runReps_newReps_other _ _ _ _ _ hk, List.append_nil]; exact hm⟩
    case fresh =>
      intro hs
      show x.since ++ List.drop x.cursor (x.out ++ _) = _
      rw [List.drop_append_of_le_length h.cursor_le, ← List.append_assoc, h.fresh hs, runReps_append,
        runReps_newReps_same]
    case quiet =>
      intro hd
      rcases h.quiet hd with hq | hq
      · exact Or.inl (hst ▸ hq)
      · exact absurd hp hq.1
  · rw [emit_of_not_running hp]; exact h.mono (Nat.le_add_right c n)

/-- what `TInv` reads of a trial besides `decided` and the status -/
def hist (x : PTrial) : List Rep × Nat × Nat × Nat × List Rep × List Rep × Bool × List Rep :=
  (x.out, x.cursor, x.run, x.nrep, x.deliv, x.since, x.staleAtResume, x.afterDec)

theorem TInv.of_same {c : Nat} {x y : PTrial} (h : TInv c x) (he : hist y = hist x)
    (hq : y.decided = true → Quiet y) : TInv c y := by
  simp only [hist, Prod.mk.injEq] at he
  obtain ⟨hout, hcur, hrun, hnrep, hdel, hsince, hstale, hafter⟩ := he
  constructor
  · rw [hout, hcur]; exact h.cursor_le
  · rw [hout, hcur, hdel]; exact h.deliv_eq
  · rw [hout]; exact h.stamps
  · rw [hout]; exact h.stamps_lt
  · rw [hout, hrun]; exact h.run_le
  · rw [hout, hrun, hnrep]; exact h.cur_idx
  · rw [hout]; exact h.all_idx
  · rw [hout, hcur, hrun, hsince, hstale]; exact h.fresh
  · exact hq
  · rw [hafter]; exact h.after

theorem hidden_iff (x : PTrial) :
    x.status.hidden = true ↔ (x.stopFile = true ∨ x.pauseFile = true ∨ x.stopReq = true) := by
  unfold PTrial.status
  cases h1 : x.stopFile <;> cases h2 : x.pauseFile <;> cases h3 : x.stopReq <;> simp [St.hidden]
  cases x.proc with
  | running => simp
  | exited ok => cases ok <;> simp
  | killed => simp

theorem hidden_of_stopFile (x : PTrial) (h : x.stopFile = true) : x.status.hidden = true :=
  (hidden_iff x).mpr (Or.inl h)

theorem hidden_of_pauseFile (x : PTrial) (h : x.pauseFile = true) : x.status.hidden = true :=
  (hidden_iff x).mpr (Or.inr (Or.inl h))

theorem hidden_of_stopReq (x : PTrial) (h : x.stopReq = true) : x.status.hidden = true :=
  (hidden_iff x).mpr (Or.inr (Or.inr h))

theorem TInv.setProc {c : Nat} {x : PTrial} (h : TInv c x) (hp : x.proc = .running) (p : Proc) :
    TInv c { x with proc := p } := by
  refine h.of_same rfl fun hd => ?_
  rcases h.quiet hd with hq | hq
  · left; rw [hidden_iff] at hq ⊢; exact hq
  · exact absurd hp hq.1

theorem TInv.exit {c : Nat} {x : PTrial} (h : TInv c x) (ok : Bool) : TInv c (x.exit ok) := by
  unfold PTrial.exit
  split
  · rename_i hp
    split
    · exact h.of_same rfl fun _ => Or.inl (hidden_of_stopFile _ rfl)
    · exact h.setProc hp _
  · exact h

theorem TInv.kill {c : Nat} {x : PTrial} (h : TInv c x) : TInv c x.kill := by
  unfold PTrial.kill
  split
  · exact h.setProc ‹_› _
  · exact h

theorem TInv.pause {c : Nat} {x : PTrial} (h : TInv c x) : TInv c x.pause := by
  unfold PTrial.pause
  refine h.kill.of_same rfl ?_
  intro _; left; exact hidden_of_pauseFile _ rfl

theorem hidden_stop (d : Bool) (x : PTrial) : (PTrial.stop d x).status.hidden = true := by
  unfold PTrial.stop
  cases d with
  | false => simp only [Bool.false_eq_true, if_false]; exact hidden_of_stopFile _ rfl
  | true =>
    simp only [if_true]
    split
    · exact hidden_of_stopReq _ rfl
    · exact hidden_of_stopFile _ rfl

theorem hist_stop (d : Bool) (x : PTrial) : hist (PTrial.stop d x) = hist x := by
  unfold PTrial.stop PTrial.kill
  cases d with
  | false => simp only [Bool.false_eq_true, if_false]; split <;> rfl
  | true => simp only [if_true]; split <;> rfl

theorem TInv.stop {c : Nat} {x : PTrial} (h : TInv c x) (d : Bool) : TInv c (PTrial.stop d x) :=
  h.of_same (hist_stop d x) fun _ => Or.inl (hidden_stop d x)

theorem TInv.resume {c : Nat} {x : PTrial} (h : TInv c x) : TInv c x.resume := by
  unfold PTrial.resume
  have hnil : runReps (x.run + 1) x.out = [] :=
    List.filter_eq_nil_iff.mpr fun r hr => by have := h.run_le r hr; simp; omega
  refine {
    cursor_le := h.cursor_le
    deliv_eq := h.deliv_eq
    stamps := h.stamps
    stamps_lt := h.stamps_lt
    run_le := ?run_le
    cur_idx := ?cur_idx
    all_idx := h.all_idx
    fresh := ?fresh
    quiet := ?quiet
    after := h.after }
  case run_le =>
    intro r hr; have := h.run_le r hr; simp; omega
  case cur_idx =>
    simp only; rw [hnil]; rfl
  case fresh =>
    intro hs
    simp only [decide_eq_false_iff_not, Nat.not_lt] at hs
    simp only [List.nil_append]
    rw [hnil, List.drop_eq_nil_iff]; exact hs
  case quiet =>
    intro hd; simp at hd

theorem fetchOne_pos (x : PTrial) (h : x.out.length > 0 ∧ ¬ x.status.hidden = true) :
    x.fetchOne = ({ x with dictSt := x.status, cursor := x.cursor + (x.out.drop x.cursor).length },
                  x.out.drop x.cursor) := by
  simp only [PTrial.fetchOne]; rw [if_pos h]

theorem fetchOne_neg (x : PTrial) (h : ¬ (x.out.length > 0 ∧ ¬ x.status.hidden = true)) :
    x.fetchOne = ({ x with dictSt := x.status }, []) := by
  simp only [PTrial.fetchOne]; rw [if_neg h]

/-- the trial after a poll: `x.fetchOne.1` with the fetched results recorded -/
def polled (x : PTrial) : PTrial := x.fetchOne.1.record x.fetchOne.2

theorem cursor_after {x : PTrial} (h : x.cursor ≤ x.out.length) :
    x.cursor + (x.out.drop x.cursor).length = x.out.length := by
  rw [List.length_drop]; omega

theorem TInv.polled {c : Nat} {x : PTrial} (h : TInv c x) : TInv c (polled x) := by
  unfold PollL.polled
  by_cases hcond : x.out.length > 0 ∧ ¬ x.status.hidden = true
  · rw [fetchOne_pos x hcond]
    simp only [PTrial.record]
    have hcur := cursor_after h.cursor_le
    refine {
      cursor_le := ?cursor_le
      deliv_eq := ?deliv_eq
      stamps := h.stamps
      stamps_lt := h.stamps_lt
      run_le := h.run_le
      cur_idx := h.cur_idx
      all_idx := h.all_idx
      fresh := ?fresh
      quiet := ?quiet
      after := ?after }
    case cursor_le =>
      simp only; omega
    case deliv_eq =>
      simp only; rw [hcur, List.take_length, h.deliv_eq, List.take_append_drop]
    case fresh =>
      intro hs
      simp only at hs ⊢
      rw [hcur, List.drop_length, List.append_nil]
      exact h.fresh hs
    case quiet =>
      intro hd
      right
      simp only at hd
      constructor
      · rcases h.quiet hd with hq | hq
        · exfalso; exact hcond.2 hq
        · exact hq.1
      · exact hcur
    case after =>
      simp only
      split
      · rename_i hd
        rcases h.quiet hd with hq | hq
        · exfalso; exact hcond.2 hq
        · rw [h.after, hq.2, List.drop_length]; rfl
      · exact h.after
  · rw [fetchOne_neg x hcond]
    simp only [PTrial.record, List.append_nil]
    refine h.of_same ?_ fun hd => h.quiet hd
    simp only [hist, Prod.mk.injEq, true_and]; split <;> rfl

theorem TInv.hand {c : Nat} {x : PTrial} (h : TInv c x) (r : Rep) (hd : x.decided = false) :
    TInv c (x.hand r) := by
  unfold PTrial.hand
  refine h.of_same ?_ fun hd' => absurd (hd.symm.trans hd') Bool.false_ne_true
  simp [hist, hd]

theorem TInv.markDecided {c : Nat} {x : PTrial} (h : TInv c x) (d : Decision)
    (hq : d ≠ .continue → Quiet x) :
    TInv c (x.markDecided d) := by
  unfold PTrial.markDecided
  refine h.of_same rfl ?_
  intro hd
  simp only [Bool.or_eq_true, decide_eq_true_eq] at hd
  rcases hd with hd | hd
  · exact h.quiet hd
  · exact hq hd

end SyneTune.PollL
