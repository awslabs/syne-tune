import SyneTune.Lemmas.C14SyncRun
/- C14 synchronous composition, `searcher_data = "all"`: if the training scripts report EVERY resource level of a run (`ConsecRun`, an
assumption on top of the contract `OpOKS`, which only asks for increasing levels), every level of the window
`(prev_level, milestone]` up to the last report is in the data. -/
namespace SyneTune.Sync.C14S
open SyneTune.C14Comp

/-- the report of a running trial carries a finite value and is the level following its last one;
the first report of a run is level 1 (training from scratch) or `prev_level + 1` (training resumed
from the checkpoint) -/
def ConsecRes (s : Sched) (o : Option (Nat × SlotInRung)) (last r : Nat) (v : Metric) : Prop :=
  match o with
  | some (id, sl) => v.isNan = false ∧ (r = last + 1 ∨ (last = 0 ∧ r = s.prevLvl id sl.rungIndex + 1))
  | none => True

instance (s : Sched) (o : Option (Nat × SlotInRung)) (last r : Nat) (v : Metric) :
    Decidable (ConsecRes s o last r v) :=
  match o with
  | some (id, sl) =>
    inferInstanceAs (Decidable (v.isNan = false ∧ (r = last + 1 ∨ (last = 0 ∧ r = s.prevLvl id sl.rungIndex + 1))))
  | none => isTrue trivial

/-- extra assumption on the training scripts: no resource level is left out (and no NaN reported) -/
def ConsecOK (y : SysS) : Op → Prop
  | .result t r v => ConsecRes y.sched (alookup t y.sched.pending) (y.lastOf t) r v
  | _ => True

instance (y : SysS) (op : Op) : Decidable (ConsecOK y op) :=
  match op with
  | .result t r v => inferInstanceAs (Decidable (ConsecRes y.sched (alookup t y.sched.pending) (y.lastOf t) r v))
  | .suggest _ _ => isTrue trivial
  | .error _ => isTrue trivial
  | .complete _ _ _ => isTrue trivial
  | .remove _ => isTrue trivial
  | .takeRemovable => isTrue trivial

def ConsecRun : SysS → List Op → Prop
  | _, [] => True
  | y, op :: ops => ConsecOK y op ∧ ConsecRun (stepCS y op) ops

instance instDecidableConsecRun : (y : SysS) → (ops : List Op) → Decidable (ConsecRun y ops)
  | _, [] => isTrue trivial
  | y, op :: ops =>
    have := instDecidableConsecRun (stepCS y op) ops
    (inferInstance : Decidable (ConsecOK y op ∧ ConsecRun (stepCS y op) ops))

/-- `searcher_data = "all"`: every level of the window of a running trial up to its last report,
and every level of the window of a finished run with a finite milestone report, is in the data -/
def AllInv (y : SysS) : Prop :=
  y.sched.searcherAll = true →
    (∀ t id sl, alookup t y.sched.pending = some (id, sl) →
      ∀ r, y.sched.prevLvl id sl.rungIndex < r → r ≤ y.lastOf t → y.st.isLabeled t r = true) ∧
    (∀ t id k p x, y.sched.mgr.SlotAt id k p ⟨some t, some (.val x)⟩ →
      ∀ r, y.sched.prevLvl id k < r → r ≤ y.sched.lvl id k → y.st.isLabeled t r = true)

theorem labeled_received (st : SState) (t r : Nat) (x : Rat) : (received st t r (.val x) true).isLabeled t r = true := by
  rw [lab_iff, obsAt_received_self]; rfl

theorem allInv_step {y : SysS} (h : CInvS y) (op : Op) (hok : OpOKS y op) (hcon : ConsecOK y op)
    (hall : AllInv y) : AllInv (stepCS y op) := by
  generalize hy : stepCS y op = y'
  have he := hy ▸ (step_eff h op hok).2
  have hs := he.schedTr h
  have hlab : ∀ t r, y.st.isLabeled t r = true → y'.st.isLabeled t r = true := fun t r hl => by
    rw [lab_iff] at hl ⊢
    obtain ⟨c, hc⟩ := Option.isSome_iff_exists.mp hl
    rw [obsAt_stays ((he.obs h).2 t r) hc]; rfl
  intro hsa'
  have hsa : y.sched.searcherAll = true := hs.sa ▸ hsa'
  obtain ⟨A1, A2⟩ := hall hsa
  -- only the trial whose run, and the slot whose content, the operation changes need an argument
  suffices hch : (∀ u id sl, alookup u y'.sched.pending = some (id, sl) →
        (alookup u y.sched.pending = some (id, sl) ∧ y'.lastOf u = y.lastOf u) ∨
        ∀ q, y.sched.prevLvl id sl.rungIndex < q → q ≤ y'.lastOf u → y'.st.isLabeled u q = true) ∧
      (∀ j k p u x, y'.sched.mgr.SlotAt j k p ⟨some u, some (.val x)⟩ →
        y.sched.mgr.SlotAt j k p ⟨some u, some (.val x)⟩ ∨
        ∀ q, y.sched.prevLvl j k < q → q ≤ y.sched.lvl j k → y'.st.isLabeled u q = true) by
    refine ⟨fun u id sl hl q h1 h2 => ?_, fun u j k p x hsl q h1 h2 => ?_⟩
    · rw [hs.prevLvl] at h1
      rcases hch.1 u id sl hl with ⟨hl0, he⟩ | hnew
      · exact hlab _ _ (A1 u id sl hl0 q h1 (he ▸ h2))
      · exact hnew q h1 h2
    · rw [hs.prevLvl] at h1; rw [hs.lvl] at h2
      rcases hch.2 j k p u x hsl with hold | hnew
      · exact hlab _ _ (A2 u j k p x hold q h1 h2)
      · exact hnew q h1 h2
  -- the levels of the window of `t` up to `r`, when `r` follows on the last report and is stored
  have hup : ∀ {t id sl r}, alookup t y.sched.pending = some (id, sl) →
      (r = y.lastOf t + 1 ∨ (y.lastOf t = 0 ∧ r = y.sched.prevLvl id sl.rungIndex + 1)) →
      y'.st.isLabeled t r = true → ∀ q, y.sched.prevLvl id sl.rungIndex < q → q ≤ r → y'.st.isLabeled t q = true := by
    intro t id sl r hl hc hr q q1 q2
    by_cases hq : q = r
    · rw [hq]; exact hr
    · exact hlab _ _ (A1 t id sl hl q q1 (by omega))
  cases he with
  | quiet _ hv => exact ⟨fun u id sl hl => Or.inl ⟨hv.pend ▸ hl, rfl⟩, fun _ _ _ _ _ hsl => Or.inl ((hv.fin _ _ _ _ _).mp hsl)⟩
  | stop => exact ⟨fun u id sl hl => Or.inl ⟨hl, rfl⟩, fun _ _ _ _ _ hsl => Or.inl hsl⟩
  | @report t r id sl v hl h1 h2 =>
    have hc : ConsecRes y.sched (alookup t y.sched.pending) (y.lastOf t) r v := hcon
    rw [hl] at hc
    refine ⟨fun u id' sl' hl' => ?_, fun _ _ _ _ _ hsl => Or.inl hsl⟩
    by_cases hu : u = t
    · subst hu
      rw [hl] at hl'; cases hl'
      refine Or.inr fun q q1 q2 => ?_
      rw [lastOf_aset, if_pos rfl] at q2
      refine hup hl hc.2 ?_ q q1 q2
      have hpr : y.sched.prevLvl id sl.rungIndex < r := by have := hc.2; omega
      cases v with
      | nan => cases hc.1
      | val x => simp only [hpr, hsa, decide_true, Bool.and_self]; exact labeled_received _ _ _ _
    · exact Or.inl ⟨hl', by rw [lastOf_aset, if_neg hu]⟩
  | @milestone t id sl s' v ha =>
    have hc : ConsecRes y.sched (alookup t y.sched.pending) (y.lastOf t) sl.level v := hcon
    rw [ha.look] at hc
    refine ⟨fun u id' sl' hl' => ?_, fun j k p u x hsl => ?_⟩
    · obtain ⟨hu, hl0⟩ := (ha.run _ _).mp hl'
      exact Or.inl ⟨hl0, by rw [lastOf_aset, if_neg hu]⟩
    · rcases (ha.fin _ _ _ _ _).mp hsl with hold | ⟨he, rfl, rfl⟩
      · exact Or.inl hold
      · cases he
        rw [← (pend_level h.inv ha.look).1]
        exact Or.inr (hup ha.look hc.2 (labeled_received _ _ _ _))
  | failed ha =>
    refine ⟨fun u id' sl' hl' => ?_, fun j k p u x hsl => ?_⟩
    · exact Or.inl ⟨((ha.run _ _).mp hl').2, rfl⟩
    · exact Or.inl (((ha.fin _ _ _ _ _).mp hsl).resolve_right fun he => by cases he.2.2)
  | registered hr =>
    refine ⟨fun u id' sl' hl' => ?_, fun _ _ _ _ _ hsl => Or.inl ((hr.fin _ _ _ _ _).mp hsl)⟩
    rcases (hr.run _ _).mp hl' with ⟨rfl, _⟩ | ⟨hu, hl0⟩
    · exact Or.inr fun q q1 q2 => by rw [lastOf_aset, if_pos rfl] at q2; omega
    · exact Or.inl ⟨hl0, by rw [lastOf_aset, if_neg hu]⟩

theorem allInv_run {y : SysS} (h : CInvS y) (ops : List Op) (hok : OpsOKS y ops) (hcon : ConsecRun y ops)
    (hall : AllInv y) : AllInv (runCS y ops) := by
  induction ops generalizing y with
  | nil => exact hall
  | cons op ops ih =>
    exact ih (cinvS_step' h op hok.1) hok.2 hcon.2 (allInv_step h op hok.1 hcon.1 hall)

theorem allInv_init (mode : Mode) (systems : List (List (Nat × Nat))) (a b : Bool) (s : Sched)
    (h : Sched.init mode systems a b = .ok s) (m : Mode) :
    AllInv { sched := s, st := { mode := m }, last := [] } := by
  refine fun _ => ⟨fun t id sl hl => ?_, fun t id k p x hs => (init_no_slot h hs).elim⟩
  obtain ⟨g, -, rfl⟩ := init_ok_eq h
  cases hl

end SyneTune.Sync.C14S
