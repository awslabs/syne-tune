import SyneTune.Lemmas.DyHPORung
import SyneTune.Props.C04
/-
Histories of operations of one DyHPO rung system (`DPOp`, `stepDP`, `runDP`): each operation is a `RungStep` on every
rung (`stepDP_steps`).
-/
namespace SyneTune.DyHPO
open SyneTune SyneTune.C04

/-- operations on one DyHPO rung system: those of `C04.POp` (the inherited
`PromotionRungSystem` methods) and DyHPO's `on_task_schedule` -/
inductive DPOp
  | old (op : POp)
  | scheduleDy (sh : Bool) (hint pick : Option Nat)

def stepDP (m : Mode) (s : RungSys) : DPOp → RungSys
  | .old op => stepP .promotion m s op
  | .scheduleDy sh hint pick => match s.dyhpoSchedule m sh hint pick with | .ok res => res.1 | .error _ => s

def runDP (m : Mode) (s : RungSys) (ops : List DPOp) : RungSys := ops.foldl (stepDP m) s

theorem stepDP_steps (m : Mode) (s : RungSys) (op : DPOp) :
    RungSteps m s.rungs (stepDP m s op).rungs := by
  cases op with
  | old op => exact stepP_steps .promotion m s op
  | scheduleDy sh hint pick =>
    simp only [stepDP]
    cases h : s.dyhpoSchedule m sh hint pick with
    | error e => exact RungSteps.refl m _
    | ok res => exact (dyhpoSchedule_eff s res.1 m sh hint pick res.2.1 res.2.2 h).steps

end SyneTune.DyHPO
