import SyneTune.Lemmas.TunerBasic
/-
Every branch of `next` (`Model/Tuner.lean`) as a constructor of `Trans`, with the guard under which it is
taken; an invariant of the machine is proved by `cases` on the transition.  Every target state is a literal
update `{ s with … }` of the source, or one of the model's `raiseFin`, `exitRaise`, `started`, `afterUpdate`,
which unfold to one; where the model calls `addRow` or `scheduled` (which branch) the changed fields are
projections of the helper's result.  So the fields a transition does not mention are definitionally those of `s`.
`Trans` is an upper bound of `next`, not its graph: the two exception constructors carry no guard on the answer,
and `exitRaise` is also admitted at `done`, where `next` stays put.  Two groups of transitions are one constructor
each, carrying a case description of their own: those that start inside the `finally` block (`Fin`: an invariant
that speaks of the loop only disposes of them in one line, `Fin.tgt`) and the seven branches of the second loop
of `_update_running_trials` on one item (`Item`).
-/
namespace SyneTune.Tuner
open SyneTune

/-- control points of the `finally` block -/
def finPc : Pc → Bool
  | .finTuningEnd | .finAll | .finStatus | .finStop | .finStopDel | .finDel | .hfOut | .hfErr | .done
  | .finStatusNext | .finDelAll | .finDelNext | .finMark => true
  | _ => false

/-- moves of the control point that change nothing else: `Ctl s a p` is the guard under which `s`,
answered `a`, goes on at `p`. -/
inductive Ctl (s : LState) : Ans → Pc → Prop
  | tuningStarted (hpc : s.pc = .tuningStart) : Ctl s .ret .evalStop
  | askClock {a} (hpc : s.pc = .evalStop) (h : s.cfg.crit.maxWallclock.isSome = true) : Ctl s a .clock
  | enterLoop {a} (hpc : s.pc = .loopHead) (h : (!s.stopReached || (s.cfg.wait && !s.running.isEmpty)) = true) :
      Ctl s a .loopStart
  | leaveLoop {a} (hpc : s.pc = .loopHead) (h : ¬(!s.stopReached || (s.cfg.wait && !s.running.isEmpty)) = true) :
      Ctl s a .finTuningEnd
  | loopStarted (hpc : s.pc = .loopStart) : Ctl s .ret .fetch
  | fetched (hpc : s.pc = .cbFetch) (h : s.running.length ≤ s.cfg.nWorkers) : Ctl s .ret .nextRes
  | itemsDone {a} (hpc : s.pc = .second) (hi : s.items = []) : Ctl s a .afterUpd
  | stdoutRead (hpc : s.pc = .stdoutNM) : Ctl s .ret .stderrNM
  | sleptWait (hpc : s.pc = .sleepWait) : Ctl s .ret .loopEnd
  | saturated {a} (hpc : s.pc = .schedNew) (hw : s.cfg.swd = true) (h : threshold s.cfg ≤ s.running.length) :
      Ctl s a .sleepSched
  | askBusy {a} (hpc : s.pc = .schedNew) (hw : ¬s.cfg.swd = true) : Ctl s a .busy
  | busySaturated {l} (hpc : s.pc = .busy) (h : threshold s.cfg ≤ l.length) : Ctl s (.ids l) .sleepSched
  | sleptSched (hpc : s.pc = .sleepSched) : Ctl s .ret .loopEnd
  | askSuggest {a k} (hpc : s.pc = .suggestNext) (hk : s.k = k + 1) : Ctl s a .suggest
  | copyCkpt (hpc : s.pc = .startCmd) (h : s.sCkpt.isSome = true) : Ctl s .ret .copyCmd
  | askRemovable (hpc : s.pc = .loopEnd) (h : s.cfg.ckptCb = true) : Ctl s .ret .removable
  | loopEnded (hpc : s.pc = .loopEnd) (h : ¬s.cfg.ckptCb = true) : Ctl s .ret .evalStop
  | delsDone {a} (hpc : s.pc = .delNext) (hd : s.dels = []) : Ctl s a .evalStop

/-- the transitions that start inside the `finally` block -/
inductive Fin (s : LState) : Ans → LState → Prop
  | halt {a} (hpc : s.pc = .done) : Fin s a s
  | exitRaise {a} (hpc : finPc s.pc = true) (hs : s.pc.silent = false) : Fin s a (exitRaise s)
  | tuningEnded (hpc : s.pc = .finTuningEnd) :
      Fin s .ret { s with pc := .finAll, stored := if s.cfg.store then some s.rows else none }
  | allResults {l} (hpc : s.pc = .finAll) : Fin s (.ids l) { s with dels := l, visible := l, pc := .finStatusNext }
  | finStatusNext {a t rest} (hpc : s.pc = .finStatusNext) (hd : s.dels = t :: rest) :
      Fin s a { s with pc := .finStatus, t := t, dels := rest }
  | statusesDone {a} (hpc : s.pc = .finStatusNext) (hd : s.dels = []) : Fin s a { s with pc := .finDelAll }
  | finStatus {st} (hpc : s.pc = .finStatus) (h : st = .inProgress) :
      Fin s (.status st) { s with bst := aset s.t st s.bst, pc := .finStop }
  | finStatusOther {st} (hpc : s.pc = .finStatus) (h : ¬st = .inProgress) :
      Fin s (.status st) { s with bst := aset s.t st s.bst, pc := .finStatusNext }
  | finStopped (hpc : s.pc = .finStop) (h : s.cfg.deleteCkpt = true) :
      Fin s .ret { s with bst := aset s.t .stopped s.bst, pc := .finStopDel }
  | finStoppedKeep (hpc : s.pc = .finStop) (h : ¬s.cfg.deleteCkpt = true) :
      Fin s .ret { s with bst := aset s.t .stopped s.bst, pc := .finStatusNext }
  | finStopDeleted (hpc : s.pc = .finStopDel) : Fin s .ret { s with pc := .finStatusNext, deleted := s.t :: s.deleted }
  | deleteAll {a} (hpc : s.pc = .finDelAll) (h : s.cfg.deleteCkpt = true) :
      Fin s a { s with dels := List.range s.nStarted, pc := .finDelNext }
  | keepCkpts {a} (hpc : s.pc = .finDelAll) (h : ¬s.cfg.deleteCkpt = true) : Fin s a { s with pc := .finMark }
  | finDelNext {a t rest} (hpc : s.pc = .finDelNext) (hd : s.dels = t :: rest) :
      Fin s a { s with pc := .finDel, t := t, dels := rest }
  | finDelsDone {a} (hpc : s.pc = .finDelNext) (hd : s.dels = []) : Fin s a { s with pc := .finMark }
  | finDeleted (hpc : s.pc = .finDel) : Fin s .ret { s with pc := .finDelNext, deleted := s.t :: s.deleted }
  | markFailed {a t} (hpc : s.pc = .finMark) (h : s.cfg.maxFailures < s.status.markStopped.numFailed)
      (hf : firstFailed s.doneAll = some t) : Fin s a { s with status := s.status.markStopped, pc := .hfOut, t := t }
  | markDone {a} (hpc : s.pc = .finMark)
      (h : ¬s.cfg.maxFailures < s.status.markStopped.numFailed ∨ firstFailed s.doneAll = none) :
      Fin s a { s with status := s.status.markStopped, pc := .done }
  | hfStdoutRead (hpc : s.pc = .hfOut) : Fin s .ret { s with pc := .hfErr }
  | failed (hpc : s.pc = .hfErr) : Fin s .ret { s with err := some (.failed s.t), pc := .done }

theorem Fin.src {s s' : LState} {a : Ans} (f : Fin s a s') : finPc s.pc = true := by
  cases f
  case exitRaise hpc _ => exact hpc
  all_goals exact ‹s.pc = _› ▸ rfl

theorem Fin.tgt {s s' : LState} {a : Ans} (f : Fin s a s') : finPc s'.pc = true := by
  cases f
  case halt hpc => exact hpc ▸ rfl
  all_goals rfl

theorem Fin.loc {s s' : LState} {a : Ans} (f : Fin s a s') : s'.loc = s.loc := by
  cases f <;> rfl

/-- the branches of `secondItem` on the item `(t, st)`, with their guards -/
inductive Item (s : LState) (t : Nat) (rest : List (Nat × St)) : St → LState → Prop
  | noMetrics (hl : alookup t s.lastSeen = none) :
      Item s t rest .completed { s with pc := .stdoutNM, t := t, items := rest }
  | complete {rid} (hl : alookup t s.lastSeen = some rid) (hd : t ∉ AL.keys s.done) :
      Item s t rest .completed { s with pc := .completeS, t := t, tSt := .completed, tRid := rid, items := rest }
  | completeCb {rid} (hl : alookup t s.lastSeen = some rid) (hd : t ∈ AL.keys s.done)
      (hp : alookup t s.done ≠ some .paused) :
      Item s t rest .completed { s with pc := .completeCb, t := t, tSt := .completed, tRid := rid, items := rest }
  | pausedCompleted {rid} (hl : alookup t s.lastSeen = some rid) (hp : alookup t s.done = some .paused) :
      Item s t rest .completed { s with items := rest }
  | failed : Item s t rest .failed { s with pc := .errorS, t := t, tSt := .failed, items := rest }
  | stoppedAlone (h : t ∉ s.schedStopped) :
      Item s t rest .stopped { s with pc := .errorS, t := t, tSt := .stopped, items := rest }
  | skip {st} (h1 : st ≠ .completed) (h2 : st ≠ .failed) (h3 : st = .stopped → t ∈ s.schedStopped) :
      Item s t rest st { s with items := rest }

theorem secondItem_item (s : LState) (t : Nat) (st : St) (rest : List (Nat × St)) :
    Item s t rest st (secondItem s t st rest) := by
  unfold secondItem
  split
  · dsimp only
    split
    · exact .noMetrics ‹_›
    · rename_i rid hl
      by_cases hp : alookup t s.done = some St.paused
      · have hd : hasKey t s.done = true := by unfold hasKey; rw [hp]; rfl
        simp only [hp, hd, if_true, Bool.not_true, Bool.false_eq_true, if_false, reduceCtorEq]
        -- `done_trials[t] = paused` rewrites the entry with what it holds
        rw [aset_eq_self hp]
        exact .pausedCompleted hl hp
      · simp only [hp, if_false, if_true]
        split
        · exact .complete hl ((AL.hasKey_false_iff _ _).mp (by simpa using ‹(!hasKey t s.done) = true›))
        · exact .completeCb hl ((AL.hasKey_iff_mem_keys _ _).mp (by simpa using ‹¬(!hasKey t s.done) = true›)) hp
  · exact .failed
  · split
    · exact .skip (by decide) (by decide) (fun _ => ‹_›)
    · exact .stoppedAlone ‹_›
  · exact .skip ‹_› ‹_› (fun h => absurd h ‹_›)

/-- `Trans s a s'`: the machine in state `s`, answered `a`, is in state `s'` next. -/
inductive Trans (s : LState) : Ans → LState → Prop
  | ctl {a p} (h : Ctl s a p) : Trans s a { s with pc := p }
  | raiseEnv {a} (hpc : finPc s.pc = false) (hs : s.pc.silent = false) : Trans s a (raiseFin s .env)
  | assertFail (hpc : s.pc = .cbFetch) (h : ¬s.running.length ≤ s.cfg.nWorkers) : Trans s .ret (raiseFin s .assertion)
  | keyError {a r rest} (hpc : s.pc = .nextRes) (hr : s.rest = r :: rest) (hd : ¬hasKey r.tid s.done = true)
      (hk : alookup r.tid s.sd = none) : Trans s a (raiseFin { s with rest := rest } .keyError)
  | noMetrics (hpc : s.pc = .stderrNM) : Trans s .ret (raiseFin s (.noMetrics s.t))
  | evalStop {a} (hpc : s.pc = .evalStop) (h : ¬s.cfg.crit.maxWallclock.isSome = true) :
      Trans s a { s with stopReached := stopCond s 0, pc := .loopHead }
  | clock {t} (hpc : s.pc = .clock) : Trans s (.clock t) { s with stopReached := stopCond s t, pc := .loopHead }
  -- `_process_new_results`
  | poll {sd res} (hpc : s.pc = .fetch) :
      Trans s (.poll sd res) { s with pc := .cbFetch, sd := sd, allRes := res, rest := res, done := [], bst := aupdate s.bst sd }
  | resultsDone {a} (hpc : s.pc = .nextRes) (hr : s.rest = []) : Trans s a { s with pc := .second, items := s.sd }
  | skipResult {a r rest} (hpc : s.pc = .nextRes) (hr : s.rest = r :: rest) (hd : hasKey r.tid s.done = true) :
      Trans s a { s with rest := rest }
  | takeResult {a r rest st} (hpc : s.pc = .nextRes) (hr : s.rest = r :: rest) (hd : ¬hasKey r.tid s.done = true)
      (hk : alookup r.tid s.sd = some st) :
      Trans s a { s with pc := .decision, cur := r, curSt := st, rest := rest, lastSeen := aset r.tid r.rid s.lastSeen }
  | decidedNew {d m'} (hpc : s.pc = .decision) :
      Trans s (.decision d (some m'))
        { s with pc := .cbResult, curD := d, cur := s.cur.withMetrics m', allRes := setMetrics s.cur.rid m' s.allRes }
  | decided {d} (hpc : s.pc = .decision) : Trans s (.decision d none) { s with pc := .cbResult, curD := d }
  | cbStop (hpc : s.pc = .cbResult) (hd : s.curD = .stop) (hc : s.curSt ≠ .completed) :
      Trans s .ret { s with rows := (addRow s).rows, pc := .stopCmd }
  | cbStopCompleted (hpc : s.pc = .cbResult) (hd : s.curD = .stop) (hc : ¬s.curSt ≠ .completed) :
      Trans s .ret { s with rows := (addRow s).rows, pc := .removeS }
  | cbPause (hpc : s.pc = .cbResult) (hd : s.curD = .pause) : Trans s .ret { s with rows := (addRow s).rows, pc := .pauseCmd }
  | cbContinue (hpc : s.pc = .cbResult) (hd : s.curD = .continue) :
      Trans s .ret { s with rows := (addRow s).rows, pc := .nextRes }
  | stopped (hpc : s.pc = .stopCmd) (h : s.cfg.deleteCkpt = true) :
      Trans s .ret { s with curSt := .stopped, bst := aset s.cur.tid .stopped s.bst, pc := .stopDel }
  | stoppedKeep (hpc : s.pc = .stopCmd) (h : ¬s.cfg.deleteCkpt = true) :
      Trans s .ret { s with curSt := .stopped, bst := aset s.cur.tid .stopped s.bst, pc := .removeS }
  | stopDeleted (hpc : s.pc = .stopDel) : Trans s .ret { s with pc := .removeS, deleted := s.cur.tid :: s.deleted }
  | removedStopped (hpc : s.pc = .removeS) :
      Trans s .ret { s with pc := .nextRes, done := aset s.cur.tid s.curSt s.done,
                            schedStopped := sadd s.cur.tid s.schedStopped, kst := aset s.cur.tid .dead s.kst }
  | paused (hpc : s.pc = .pauseCmd) : Trans s .ret { s with pc := .removeP, bst := aset s.cur.tid .paused s.bst }
  | removedPaused (hpc : s.pc = .removeP) :
      Trans s .ret { s with pc := .nextRes, done := aset s.cur.tid .paused s.done, kst := aset s.cur.tid .paused s.kst }
  -- `_update_running_trials`
  | item {a t st rest s'} (hpc : s.pc = .second) (hi : s.items = (t, st) :: rest) (i : Item s t rest st s') : Trans s a s'
  | completeTold (hpc : s.pc = .completeS) (h : s.tSt = .completed) :
      Trans s .ret { s with pc := .completeCb, kst := aset s.t .dead s.kst }
  | completeToldPaused (hpc : s.pc = .completeS) (h : ¬s.tSt = .completed) :
      Trans s .ret { s with pc := .second, kst := aset s.t .dead s.kst, done := aset s.t s.tSt s.done }
  | completeCalled (hpc : s.pc = .completeCb) : Trans s .ret { s with pc := .second, done := aset s.t s.tSt s.done }
  | errorTold (hpc : s.pc = .errorS) :
      Trans s .ret { s with pc := .second, done := aset s.t s.tSt s.done, kst := aset s.t .dead s.kst }
  | updated {a} (hpc : s.pc = .afterUpd) : Trans s a (afterUpdate s)
  -- `_schedule_new_tasks`
  | free {a} (hpc : s.pc = .schedNew) (hw : s.cfg.swd = true) (h : ¬threshold s.cfg ≤ s.running.length) :
      Trans s a { s with k := s.cfg.nWorkers - s.running.length, loc := none, pc := .suggestNext }
  | busyFree {l} (hpc : s.pc = .busy) (h : ¬threshold s.cfg ≤ l.length) :
      Trans s (.ids l) { s with k := s.cfg.nWorkers - l.length,
                                loc := if l.length < s.running.length then some (dedup l) else none, pc := .suggestNext }
  | suggestDone {a} (hpc : s.pc = .suggestNext) (hk : s.k = 0) : Trans s a { s with loc := none, pc := .loopEnd }
  | exhausted (hpc : s.pc = .suggest) : Trans s (.sugg .none) { s with exhausted := true, loc := none, pc := .loopEnd }
  | suggestStart {cfg ckpt} (hpc : s.pc = .suggest) :
      Trans s (.sugg (.start cfg ckpt)) { s with pc := .startCmd, sId := s.nStarted, sCfg := cfg, sCkpt := ckpt }
  | suggestResume {id cfg} (hpc : s.pc = .suggest) :
      Trans s (.sugg (.resume id cfg)) { s with pc := .resumeCmd, sId := id, sRCfg := cfg }
  | startedPlain (hpc : s.pc = .startCmd) (h : ¬s.sCkpt.isSome = true) : Trans s .ret (started s)
  | startedCopied (hpc : s.pc = .copyCmd) : Trans s .ret (started s)
  | addTold (hpc : s.pc = .addS) : Trans s .ret { s with pc := .startCb, kst := aset s.sId .live s.kst }
  | scheduled (hpc : s.pc = .startCb ∨ s.pc = .resumeCb) :
      Trans s .ret { s with running := (scheduled s s.sId).running, loc := (scheduled s s.sId).loc, k := s.k - 1,
                            status := s.status.update [(s.sId, .inProgress)] [], pc := .suggestNext }
  | resumed (hpc : s.pc = .resumeCmd) :
      Trans s .ret { s with pc := .resumeCb,
                            configs := (match s.sRCfg with | some c => aset s.sId c s.configs | none => s.configs),
                            bst := aset s.sId .inProgress s.bst, kst := aset s.sId .live s.kst }
  -- `RemoveCheckpointsCallback.on_loop_end`
  | removable {l} (hpc : s.pc = .removable) :
      Trans s (.ids l) { s with dels := l, removableSaid := l ++ s.removableSaid, pc := .delNext }
  | delNext {a t rest} (hpc : s.pc = .delNext) (hd : s.dels = t :: rest) : Trans s a { s with pc := .delRem, t := t, dels := rest }
  | removed (hpc : s.pc = .delRem) : Trans s .ret { s with pc := .delNext, deleted := s.t :: s.deleted }
  | fin {a s'} (h : Fin s a s') : Trans s a s'

theorem addRow_eq (s : LState) : addRow s = { s with rows := (addRow s).rows } := by
  unfold addRow; split <;> rfl

theorem scheduled_eq (s : LState) (t : Nat) :
    scheduled s t = { s with running := (scheduled s t).running, loc := (scheduled s t).loc, k := s.k - 1,
                             status := s.status.update [(t, .inProgress)] [], pc := .suggestNext } := by
  unfold scheduled addRunning; split <;> rfl

theorem next_evalStop {s : LState} (a : Ans) (hp : s.pc = .evalStop) (hw : s.cfg.crit.maxWallclock = none) :
    next s a = { s with stopReached := stopCond s 0, pc := .loopHead } := by
  delta next; rw [hp]; dsimp only; rw [hw]; rfl

theorem next_clock {s : LState} (t : Rat) (hp : s.pc = .clock) :
    next s (.clock t) = { s with stopReached := stopCond s t, pc := .loopHead } := by
  delta next; rw [hp]

theorem next_loopHead {s : LState} (a : Ans) (hp : s.pc = .loopHead) :
    next s a = { s with pc := if (!s.stopReached || (s.cfg.wait && !s.running.isEmpty)) then .loopStart else .finTuningEnd } := by
  delta next; rw [hp]; dsimp only; split <;> rfl

theorem next_afterUpd {s : LState} (a : Ans) (hp : s.pc = .afterUpd) : next s a = afterUpdate s := by
  delta next; rw [hp]

theorem next_errorS {s : LState} (hp : s.pc = .errorS) :
    next s .ret = { s with pc := .second, done := aset s.t s.tSt s.done, kst := aset s.t .dead s.kst } := by
  delta next; rw [hp]

theorem next_finMark_failed {s : LState} (a : Ans) {t : Nat} (hp : s.pc = .finMark)
    (hmax : s.cfg.maxFailures < s.status.markStopped.numFailed) (hff : firstFailed s.doneAll = some t) :
    next s a = { s with status := s.status.markStopped, pc := .hfOut, t := t } := by
  delta next; rw [hp]; dsimp only; rw [if_pos hmax, hff]

theorem next_finTuningEnd {s : LState} (a : Ans) (hp : s.pc = .finTuningEnd) :
    next s a = match a with
      | .ret => { s with pc := .finAll, stored := if s.cfg.store then some s.rows else none }
      | _ => exitRaise s := by
  delta next; rw [hp]; cases a <;> rfl

theorem next_second_cons {s : LState} (a : Ans) {t : Nat} {st : St} {rest : List (Nat × St)} (hp : s.pc = .second)
    (hi : s.items = (t, st) :: rest) : next s a = secondItem s t st rest := by
  delta next; rw [hp]; dsimp only; rw [hi]

/-- `next` only takes transitions of `Trans`; the bullets follow the branches of `next` in order. -/
theorem next_trans (s : LState) (a : Ans) : Trans s a (next s a) := by
  have env : ∀ {p}, s.pc = p → finPc p = false ∧ p.silent = false → Trans s a (raiseFin s .env) :=
    fun h hp => .raiseEnv (h ▸ hp.1) (h ▸ hp.2)
  have exit : ∀ {p}, s.pc = p → finPc p = true ∧ p.silent = false → Trans s a (exitRaise s) :=
    fun h hp => .fin (.exitRaise (h ▸ hp.1) (h ▸ hp.2))
  unfold next
  split <;> rename_i hpc
  · split
    · exact .ctl (.tuningStarted hpc)
    · exact env hpc ⟨rfl, rfl⟩
  · split
    · exact .ctl (.askClock hpc ‹_›)
    · exact .evalStop hpc ‹_›
  · split
    · exact .clock hpc
    · exact env hpc ⟨rfl, rfl⟩
  · split
    · exact .ctl (.enterLoop hpc ‹_›)
    · exact .ctl (.leaveLoop hpc ‹_›)
  · split
    · exact .ctl (.loopStarted hpc)
    · exact env hpc ⟨rfl, rfl⟩
  · split
    · exact .poll hpc
    · exact env hpc ⟨rfl, rfl⟩
  · split
    · split
      · exact .ctl (.fetched hpc ‹_›)
      · exact .assertFail hpc ‹_›
    · exact env hpc ⟨rfl, rfl⟩
  · split
    · exact .resultsDone hpc ‹_›
    · split
      · exact .skipResult hpc ‹_› ‹_›
      · split
        · exact .keyError hpc ‹_› ‹_› ‹_›
        · exact .takeResult hpc ‹_› ‹_› ‹_›
  · split
    · split
      · exact .decidedNew hpc
      · exact .decided hpc
    · exact env hpc ⟨rfl, rfl⟩
  · split
    · rw [addRow_eq]; split
      · split
        · exact .cbStop hpc ‹_› ‹_›
        · exact .cbStopCompleted hpc ‹_› ‹_›
      · exact .cbPause hpc ‹_›
      · exact .cbContinue hpc ‹_›
    · exact env hpc ⟨rfl, rfl⟩
  · split
    · split
      · exact .stopped hpc ‹_›
      · exact .stoppedKeep hpc ‹_›
    · exact env hpc ⟨rfl, rfl⟩
  · split
    · exact .stopDeleted hpc
    · exact env hpc ⟨rfl, rfl⟩
  · split
    · exact .removedStopped hpc
    · exact env hpc ⟨rfl, rfl⟩
  · split
    · exact .paused hpc
    · exact env hpc ⟨rfl, rfl⟩
  · split
    · exact .removedPaused hpc
    · exact env hpc ⟨rfl, rfl⟩
  · split
    · exact .ctl (.itemsDone hpc ‹_›)
    · exact .item hpc ‹_› (secondItem_item ..)
  · split
    · exact .ctl (.stdoutRead hpc)
    · exact env hpc ⟨rfl, rfl⟩
  · split
    · exact .noMetrics hpc
    · exact env hpc ⟨rfl, rfl⟩
  · split
    · split
      · exact .completeTold hpc ‹_›
      · exact .completeToldPaused hpc ‹_›
    · exact env hpc ⟨rfl, rfl⟩
  · split
    · exact .completeCalled hpc
    · exact env hpc ⟨rfl, rfl⟩
  · split
    · exact .errorTold hpc
    · exact env hpc ⟨rfl, rfl⟩
  · exact .updated hpc
  · split
    · exact .ctl (.sleptWait hpc)
    · exact env hpc ⟨rfl, rfl⟩
  · split
    · split
      · exact .ctl (.saturated hpc ‹_› ‹_›)
      · exact .free hpc ‹_› ‹_›
    · exact .ctl (.askBusy hpc ‹_›)
  · split
    · split
      · exact .ctl (.busySaturated hpc ‹_›)
      · exact .busyFree hpc ‹_›
    · exact env hpc ⟨rfl, rfl⟩
  · split
    · exact .ctl (.sleptSched hpc)
    · exact env hpc ⟨rfl, rfl⟩
  · split
    · exact .suggestDone hpc ‹_›
    · exact .ctl (.askSuggest hpc ‹_›)
  · split
    · exact .exhausted hpc
    · exact .suggestStart hpc
    · exact .suggestResume hpc
    · exact env hpc ⟨rfl, rfl⟩
  · split
    · split
      · exact .ctl (.copyCkpt hpc ‹_›)
      · exact .startedPlain hpc ‹_›
    · exact env hpc ⟨rfl, rfl⟩
  · split
    · exact .startedCopied hpc
    · exact env hpc ⟨rfl, rfl⟩
  · split
    · exact .addTold hpc
    · exact env hpc ⟨rfl, rfl⟩
  · split
    · rw [scheduled_eq]; exact .scheduled (.inl hpc)
    · exact env hpc ⟨rfl, rfl⟩
  · split
    · exact .resumed hpc
    · exact env hpc ⟨rfl, rfl⟩
  · split
    · rw [scheduled_eq]; exact .scheduled (.inr hpc)
    · exact env hpc ⟨rfl, rfl⟩
  · split
    · split
      · exact .ctl (.askRemovable hpc ‹_›)
      · exact .ctl (.loopEnded hpc ‹_›)
    · exact env hpc ⟨rfl, rfl⟩
  · split
    · exact .removable hpc
    · exact env hpc ⟨rfl, rfl⟩
  · split
    · exact .ctl (.delsDone hpc ‹_›)
    · exact .delNext hpc ‹_›
  · split
    · exact .removed hpc
    · exact env hpc ⟨rfl, rfl⟩
  · split
    · exact .fin (.tuningEnded hpc)
    · exact exit hpc ⟨rfl, rfl⟩
  · split
    · exact .fin (.allResults hpc)
    · exact exit hpc ⟨rfl, rfl⟩
  · split
    · exact .fin (.statusesDone hpc ‹_›)
    · exact .fin (.finStatusNext hpc ‹_›)
  · split
    · split
      · exact .fin (.finStatus hpc ‹_›)
      · exact .fin (.finStatusOther hpc ‹_›)
    · exact exit hpc ⟨rfl, rfl⟩
  · split
    · split
      · exact .fin (.finStopped hpc ‹_›)
      · exact .fin (.finStoppedKeep hpc ‹_›)
    · exact exit hpc ⟨rfl, rfl⟩
  · split
    · exact .fin (.finStopDeleted hpc)
    · exact exit hpc ⟨rfl, rfl⟩
  · split
    · exact .fin (.deleteAll hpc ‹_›)
    · exact .fin (.keepCkpts hpc ‹_›)
  · split
    · exact .fin (.finDelsDone hpc ‹_›)
    · exact .fin (.finDelNext hpc ‹_›)
  · split
    · exact .fin (.finDeleted hpc)
    · exact exit hpc ⟨rfl, rfl⟩
  · simp only []
    split
    · split
      · exact .fin (.markFailed hpc ‹_› ‹_›)
      · exact .fin (.markDone hpc (.inr ‹_›))
    · exact .fin (.markDone hpc (.inl ‹_›))
  · split
    · exact .fin (.hfStdoutRead hpc)
    · exact exit hpc ⟨rfl, rfl⟩
  · split
    · exact .fin (.failed hpc)
    · exact exit hpc ⟨rfl, rfl⟩
  · exact .fin (.halt hpc)

end SyneTune.Tuner
