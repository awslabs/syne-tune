import SyneTune.Lemmas.DomainsNN
import SyneTune.Lemmas.DomainsFin
/- The domains of `config_space.py` by kind, without an encoder: membership, and the theorems over `Domain` on sampling
and `cast` behind those of `Props/C07.lean`. -/
namespace SyneTune.Dom
open SyneTune

theorem member_cat {env : Env} {d : CatDom} (hok : catsOk d.cats = true) {v : Val} (hv : v ∈ d.cats) :
    (Domain.cat d).member env v = true :=
  (Bool.and_eq_true _ _).mpr ⟨beq_iff_eq.mpr (vtypeOf_mem hok hv), pyIn_of_mem hv⟩

theorem member_nn {env : Env} {d : NNDom} (hok : d.ok = true) {v : Val} (hv : v ∈ d.cats) :
    (Domain.nn d).member env v = true :=
  member_cat (env := env) (d := ⟨d.cats, false⟩) (nn_catsOk hok) hv

theorem member_fin {env : Env} {d : FinDom} {v : Val} (hv : v ∈ d.values env) :
    (Domain.fin d).member env v = true :=
  List.contains_iff_mem.mpr hv

theorem member_flt {env : Env} {d : FloatDom} {x : ℚ} (h : d.lower ≤ x ∧ x ≤ d.upper) :
    (Domain.flt d).member env (.flt x) = true :=
  decide_eq_true h

theorem member_int {env : Env} {d : IntDom} {k : ℤ} (h : d.lower ≤ k ∧ k ≤ d.upper) :
    (Domain.int d).member env (.int k) = true :=
  decide_eq_true h

theorem of_member_flt {env : Env} {d : FloatDom} {v : Val} (h : (Domain.flt d).member env v = true) :
    ∃ x, v = .flt x ∧ d.lower ≤ x ∧ x ≤ d.upper := by
  cases v with
  | flt x => exact ⟨x, rfl, of_decide_eq_true h⟩
  | int _ => cases h
  | str _ => cases h

theorem of_member_int {env : Env} {d : IntDom} {v : Val} (h : (Domain.int d).member env v = true) :
    ∃ k, v = .int k ∧ d.lower ≤ k ∧ k ≤ d.upper := by
  cases v with
  | int k => exact ⟨k, rfl, of_decide_eq_true h⟩
  | flt _ => cases h
  | str _ => cases h

theorem Domain.sample_member {env : Env} {c : Consts} {d : Domain} (hok : d.ok = true)
    {dr : Draw} (hdr : C07.DrawOK d dr) (hs : C07.SampleHyp env d) :
    ∃ v, d.sample env c dr = .ok v ∧ d.member env v = true := by
  cases d with
  | flt f =>
    cases dr with
    | idx _ => exact hdr.elim
    | unit u =>
      obtain ⟨v, hv, h1, h2⟩ := float_sampleRaw_mem hok hs hdr
      simp only [Domain.sample, FloatDom.sample, hv]
      exact ⟨_, rfl, member_flt (float_applyQ_mem hs h1 h2)⟩
  | int f =>
    obtain ⟨k, hk, h1, h2⟩ := int_sampleRaw_mem hok hs hdr
    simp only [Domain.sample, IntDom.sample, hk]
    exact ⟨_, rfl, member_int (int_applyQ_mem hs h1 h2)⟩
  | cat f =>
    cases dr with
    | unit _ => simp [C07.DrawOK] at hdr
    | idx k =>
      simp only [C07.DrawOK] at hdr
      simp only [Domain.ok] at hok
      obtain ⟨v, hv, hm⟩ := cat_sample_member (c := c) hok hdr.1 hdr.2
      exact ⟨v, hv, member_cat hok hm⟩
  | nn f =>
    cases dr with
    | idx _ => simp [C07.DrawOK] at hdr
    | unit u =>
      simp only [Domain.ok] at hok
      obtain ⟨v, hv, hm⟩ := nn_sample_member env f hs u
      exact ⟨v, hv, member_nn hok hm⟩
  | fin f =>
    cases dr with
    | unit _ => simp [C07.DrawOK] at hdr
    | idx k =>
      simp only [C07.DrawOK] at hdr
      obtain ⟨v, hv, hm⟩ := fin_sample_member env f k hdr.1 hdr.2
      exact ⟨v, hv, member_fin hm⟩

theorem Domain.cast_member_self {env : Env} {c : Consts} {d : Domain} (hok : d.ok = true) {v : Val}
    (hv : d.member env v = true) (hfin : ∀ f, d = .fin f → f.log = false ∧ f.castInt = false)
    (hmono : ∀ f, d = .nn f → LogMono env f.log) : d.cast env c v = .ok v := by
  cases d with
  | flt f =>
    obtain ⟨x, rfl, _⟩ := of_member_flt hv
    rfl
  | int f =>
    obtain ⟨k, rfl, _⟩ := of_member_int hv
    exact int_cast_member f k
  | cat f =>
    simp only [Domain.ok] at hok
    exact cat_cast_member hok (mem_of_member_cats hv hok)
  | nn f =>
    simp only [Domain.ok] at hok
    exact nn_cast_self hok (hmono f rfl) (mem_of_member_cats hv (nn_catsOk hok))
  | fin f =>
    obtain ⟨hl, hc⟩ := hfin f rfl
    obtain ⟨k, hk, rfl⟩ := fin_mem_values (List.contains_iff_mem.mp hv)
    have e : f.valueAt env k = .flt (f.valuePre env k) := by
      simp only [FinDom.valueAt, hc, Bool.false_eq_true, if_false]
    rw [e]
    exact (fin_cast_idem_lin env f hok hl hc hk).trans (congrArg Except.ok e)

theorem Domain.cast_member_id {env : Env} {c : Consts} {d : Domain} (hok : d.ok = true) {v : Val}
    (hv : d.member env v = true) (hnf : ∀ f, d ≠ .fin f)
    (hmono : ∀ f, d = .nn f → LogMono env f.log) : d.cast env c v = .ok v :=
  Domain.cast_member_self hok hv (fun f h => absurd h (hnf f)) hmono

theorem Domain.cast_member {env : Env} {c : Consts} {d : Domain} (hok : d.ok = true) {v : Val}
    (hv : d.member env v = true) : ∃ v', d.cast env c v = .ok v' ∧ d.member env v' = true := by
  cases d with
  | flt f | int f | cat f =>
    exact ⟨v, Domain.cast_member_id hok hv (fun _ h => nomatch h) (fun _ h => nomatch h), hv⟩
  | nn f =>
    simp only [Domain.ok] at hok
    have hm := mem_of_member_cats hv (nn_catsOk hok)
    obtain ⟨x, hx⟩ := nn_num_some hok hm
    have hne : f.cats ≠ [] := List.ne_nil_of_mem hm
    obtain ⟨v', hv', hm'⟩ := nn_castInt_member env f hne (f.toInternal env x)
    refine ⟨v', ?_, member_nn hok hm'⟩
    simp only [Domain.cast, NNDom.cast, hx, hv']
  | fin f =>
    simp only [Domain.ok] at hok
    have hm : v ∈ f.values env := List.contains_iff_mem.mp hv
    obtain ⟨k, _, rfl⟩ := fin_mem_values hm
    obtain ⟨v', hv', hm'⟩ := fin_cast_member env f hok _ _ (fin_valueAt_num env f k)
    exact ⟨v', hv', member_fin hm'⟩

end SyneTune.Dom
