import SyneTune.Props.C04K
import SyneTune.Props.C14
/-
C14, composed system: the `HyperbandScheduler` model (`Sched`) and the model of the
searcher's data bookkeeping (`SState`) run together.  Every `SCall` the scheduler emits is
fed, in order, into `SState.apply`.

Definitions only (system, step, the operation contract `OpOK`, the invariant `CInv`);
the proofs are in `Lemmas/C14Comp*.lean`, the property theorems in `Props/C14Comp.lean`.
-/
namespace SyneTune.C14Comp
open SyneTune SyneTune.C04K SyneTune.C14

/-- scheduler + searcher bookkeeping -/
structure Sys where
  sched : Sched
  st : SState

/-- one scheduler operation: new scheduler state and the searcher calls it issued, in order;
an operation the scheduler model rejects (Python exception) leaves the scheduler unchanged
and issues no call (same convention as `C04K.stepS`). -/
def opStep (s : Sched) : SOp → Sched × List SCall
  | .suggest n b h => match s.suggest n b h with | .ok res => (res.1, res.2.2.1) | .error _ => (s, [])
  | .result t r v h c e => match s.onResult t r v h c e with | .ok res => (res.1, res.2.calls) | .error _ => (s, [])
  | .remove t => (s.onRemove t, [])
  | .error t => s.onError t
  | .complete t r v => match s.onComplete t r v with | .ok res => res | .error _ => (s, [])

/-- one step of the composed system.  The calls are applied in the order the scheduler
issues them.  If the searcher raised on one of them (`SState.apply` has two assertions:
"already has observation, cannot be pending" and the key checks of `remove_case`), the
exception would propagate out of the scheduler method: the operation is rejected as a whole
and, by the model's convention, leaves the state unchanged.  `calls_accepted` proves that this
branch is unreachable from every reachable state. -/
def stepC (y : Sys) (op : SOp) : Sys :=
  match y.st.applyAll (opStep y.sched op).2 with
  | .ok st' => { sched := (opStep y.sched op).1, st := st' }
  | .error _ => y

def runC (y : Sys) (ops : List SOp) : Sys := ops.foldl stepC y

/-! ### what the scheduler knows about a trial -/

/-- resource of the last result of the trial the scheduler took into account
(`reported_result`), 0 before the first one -/
def lastRep (rec : TrialInfo) : Nat := match rec.reported with | some p => p.2 | none => 0

/-- smallest level above `l` in a decreasing list of levels, `d` if there is none
(the `next_milestone` variable of `StoppingRungSystem.on_task_report`) -/
def nextLevel (l : Nat) : Nat → List Nat → Nat
  | d, [] => d
  | d, x :: xs => if l < x then nextLevel l x xs else d

/-- the bracket manager's view of trial `t`: its `_running` record (promotion types) and the
milestone levels of its bracket (decreasing) -/
def trialView (g : Manager) (t : Nat) : Option (Option (Nat × Option Nat) × List Nat) :=
  match alookup t g.taskInfo with
  | none => none
  | some b =>
    match g.systems[(g.sysFor b).1]? with
    | none => none
    | some sys => some (alookup t sys.running, sys.milestones (g.sysFor b).2)

/-- the milestone trial `t` is currently running to, `l` being the last level it reported:
promotion types: `_running[t]["milestone"]`; stopping types: the next rung level of its
bracket above `l`, or `max_t`.  0 for a trial the manager does not know. -/
def milestoneOf (g : Manager) (t l : Nat) : Nat :=
  match trialView g t with
  | none => 0
  | some vw =>
    if g.type.pauseResume then (match vw.1 with | some mr => mr.1 | none => 0)
    else nextLevel l g.maxT vw.2

/-- the report is one of a resumed trial re-reporting a level `≤ resume_from` (training
restarted from scratch, no checkpointing): exactly the condition under which the scheduler
ignores it (`ignore_data`; the rung system is consulted only for `r < max_t`) -/
def resumedBelow (g : Manager) (t r : Nat) : Bool :=
  g.type.pauseResume && decide (r < g.maxT) &&
    (match trialView g t with
     | some vw => (match vw.1 with | some mr => ignoreOf mr.2 r | none => false)
     | none => false)

/-! ### contract of the operation stream -/

/-- What the caller of the scheduler (the `Tuner` loop and the training scripts) guarantees
for one operation; nothing is asked of `suggest` and `error`.

* `result t r`: for a trial the scheduler considers running, `r` is the level following the
  last one it took into account — the training script reports every resource level
  `1, 2, 3, …` in order (requirement of `HyperbandScheduler`: `resource_attr` values are
  positive integers reported consecutively; a promotion-type trial must hit its milestone
  exactly, the rung system asserts it) — or the run was resumed without checkpointing and
  re-reports a level `≤ resume_from`.  Reports for trials which are not running are
  unconstrained (the scheduler passes them on with `update=False`).
* `remove t`: `t` is not running.  `TrialScheduler.on_trial_remove` "is called when the trial
  is in PAUSED or PENDING state"; the `Tuner` calls it only right after a STOP / PAUSE
  decision of `on_trial_result` (tuner.py `_update_running_trials`); trials stopped
  independently of the scheduler are signalled by `on_trial_error`.
* `complete t r v`: `r` is not above the last level reported — the `Tuner` passes the last
  result seen, for which "`on_trial_result` is called with the same result before". -/
def OpOK (y : Sys) : SOp → Prop
  | .result t r _ _ _ _ =>
    ∀ rec, alookup t y.sched.active = some rec → rec.decision = .continue →
      (r = lastRep rec + 1 ∨ resumedBelow y.sched.mgr t r = true)
  | .remove t => ∀ rec, alookup t y.sched.active = some rec → rec.decision ≠ .continue
  | .complete t r _ => ∀ rec, alookup t y.sched.active = some rec → r ≤ lastRep rec
  | _ => True

/-- a statement about the value of an `Option`, decided by looking at it -/
instance decOptAll {α} (o : Option α) (P : α → Prop) [∀ a, Decidable (P a)] :
    Decidable (∀ a, o = some a → P a) :=
  match o with
  | none => isTrue (fun _ h => by cases h)
  | some a =>
    if h : P a then isTrue (fun b hb => by cases hb; exact h)
    else isFalse (fun hf => h (hf a rfl))

instance (y : Sys) (op : SOp) : Decidable (OpOK y op) :=
  match op with
  | .result t r _ _ _ _ =>
    decOptAll (alookup t y.sched.active)
      (fun rec => rec.decision = .continue → (r = lastRep rec + 1 ∨ resumedBelow y.sched.mgr t r = true))
  | .remove t => decOptAll (alookup t y.sched.active) (fun rec => rec.decision ≠ .continue)
  | .complete t r _ => decOptAll (alookup t y.sched.active) (fun rec => r ≤ lastRep rec)
  | .suggest _ _ _ => isTrue trivial
  | .error _ => isTrue trivial

/-- the contract evaluated along a run -/
def OpsOK : Sys → List SOp → Prop
  | _, [] => True
  | y, op :: ops => OpOK y op ∧ OpsOK (stepC y op) ops

instance instDecidableOpsOK : (y : Sys) → (ops : List SOp) → Decidable (OpsOK y ops)
  | _, [] => isTrue trivial
  | y, op :: ops =>
    have := instDecidableOpsOK (stepC y op) ops
    (inferInstance : Decidable (OpOK y op ∧ OpsOK (stepC y op) ops))

/-! ### the invariant -/

/-- signature of a rung system: `max_t` and the rung levels (never change) -/
def sig (sys : RungSys) : Nat × List Nat := (sys.maxT, sys.rungs.map (·.level))

/-- the manager is well formed: positive `max_t`, `rung_levels` below `max_t`, every rung
system has the manager's `max_t` and strictly decreasing rung levels, all of them positive,
below `max_t` and among the manager's `rung_levels` -/
def MgrWF (g : Manager) : Prop :=
  1 ≤ g.maxT ∧ (∀ l ∈ g.rungLevels, l < g.maxT) ∧
  ∀ x ∈ g.systems.map sig, x.1 = g.maxT ∧ x.2.Pairwise (fun a b => b < a) ∧
    ∀ l ∈ x.2, 1 ≤ l ∧ l < g.maxT ∧ l ∈ g.rungLevels

/-- `e` is an entry of the rung of level `L` of one of the rung systems -/
def EntIn (ss : List RungSys) (L : Nat) (e : Entry) : Prop :=
  ∃ sys ∈ ss, ∃ rg ∈ sys.rungs, rg.level = L ∧ e ∈ rg.data

/-- every rung entry belongs to a known trial which has reported the rung's level; in
promotion types a not-yet-promoted entry sits at the last level its trial reported -/
def EntOK (s : Sched) : Prop :=
  ∀ L e, EntIn s.mgr.systems L e →
    ∃ rec, alookup e.tid s.active = some rec ∧ L ≤ lastRep rec ∧
      (s.mgr.type.pauseResume = true → e.promoted = false → lastRep rec ≤ L)

/-- a running trial is heading for a milestone above its last report, which is a rung level
or `max_t` -/
def RunningOK (s : Sched) : Prop :=
  ∀ t rec, alookup t s.active = some rec → rec.decision = .continue →
    lastRep rec < milestoneOf s.mgr t (lastRep rec) ∧
    (milestoneOf s.mgr t (lastRep rec) = s.mgr.maxT ∨ milestoneOf s.mgr t (lastRep rec) ∈ s.mgr.rungLevels)

/-- a pending evaluation belongs to a running trial, at a level above its last report and
not above its current milestone (for `searcher_data = "rungs"`: exactly the milestone) -/
def PendOK (y : Sys) : Prop :=
  ∀ p ∈ y.st.pending, ∃ rec, alookup p.1 y.sched.active = some rec ∧ rec.decision = .continue ∧
    lastRep rec < p.2 ∧ p.2 ≤ milestoneOf y.sched.mgr p.1 (lastRep rec) ∧
    (y.sched.searcherData = .rungs → p.2 = milestoneOf y.sched.mgr p.1 (lastRep rec))

/-- observations exist only for known trials at levels they have reported -/
def ObsOK (y : Sys) : Prop :=
  ∀ t r, y.st.isLabeled t r = true → ∃ rec, alookup t y.sched.active = some rec ∧ r ≤ lastRep rec

/-- `rungs_and_last`: the case `remove_case` will be called for is in the data -/
def LastOK (y : Sys) : Prop :=
  y.sched.searcherData = .rungsAndLast →
    ∀ t rec, alookup t y.sched.active = some rec → ∀ p, rec.reported = some p → rec.keepCase = false →
      y.st.isLabeled t p.2 = true

/-- `largest_update_resource` is a level the trial has reported -/
def UpdOK (s : Sched) : Prop :=
  ∀ t rec, alookup t s.active = some rec → ∀ l, rec.largestUpdate = some l → l ≤ lastRep rec

/-- **The invariant of the composed system.** -/
structure CInv (y : Sys) : Prop where
  wf : MgrWF y.sched.mgr
  kinv : y.sched.mgr.type.pauseResume = true → KInv y.sched
  ent : EntOK y.sched
  run : RunningOK y.sched
  upd : UpdOK y.sched
  pnd : y.st.pending.Nodup
  pend : PendOK y
  owf : ObsWF y.st
  obs : ObsOK y
  last : LastOK y

end SyneTune.C14Comp
