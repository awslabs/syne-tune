import SyneTune.Model.HB
import SyneTune.Lemmas.Round
/- `successive_halving_rung_levels` with a reduction factor: the levels before the final `dropLast` (`rawLevelsRF`) are
positive, strictly increasing and at most `max_t`; `Props/C03` draws the strict bound.  The levels with a fixed
increment (`rungLevelsInc_props`); the promotion quantiles of a list of levels lie in `(0, 1)`
(`promoteQuantiles_mem_unit`) and are as many as the levels (`promoteQuantiles_length`, `zipWith_rung_levels`). -/
namespace SyneTune

theorem roundHalfEven_lt (x y : ℚ) (hx : 1 ≤ x) (hy : 2 * x ≤ y) : roundHalfEven x < roundHalfEven y := by
  have a2 := (rhe_bounds x).1
  have b1 := (rhe_bounds y).2
  rcases hx.eq_or_lt with rfl | hgt
  · rw [show roundHalfEven 1 = 1 by simpa using rhe_int 1]
    have : ((1 : ℤ) : ℚ) < roundHalfEven y := by rw [Int.cast_one]; linarith only [b1, hy]
    exact_mod_cast this
  · -- `round y - round x ≥ y - x - 1 ≥ x - 1 > 0`
    have : (roundHalfEven x : ℚ) < roundHalfEven y := by linarith only [a2, b1, hy, hgt]
    exact_mod_cast this

theorem powRat_ge_one (b : ℚ) (hb : 1 ≤ b) (k : ℕ) : 1 ≤ powRat b k := by
  induction k with
  | zero => exact le_refl _
  | succ k ih => exact one_le_mul_of_one_le_of_one_le ih hb

theorem maxRungs_spec (minT : ℕ) (rf : ℚ) (maxT : ℕ) (fuel k : ℕ)
    (hprev : ∀ j, j < k → (minT : ℚ) * powRat rf j < (maxT : ℚ)) :
    ∀ j, j < maxRungs minT rf maxT fuel k → (minT : ℚ) * powRat rf j < (maxT : ℚ) := by
  induction fuel generalizing k with
  | zero => exact hprev
  | succ f ih =>
    unfold maxRungs
    split
    · rename_i hc
      refine ih (k + 1) fun j hj => ?_
      rcases Nat.lt_succ_iff_lt_or_eq.mp hj with hjk | rfl
      · exact hprev j hjk
      · exact hc
    · exact hprev

def rawLevelsRF (minT : ℕ) (rf : ℚ) (maxT : ℕ) : List ℕ :=
  (List.range (maxRungs minT rf maxT maxT 0)).map (fun j => (roundHalfEven ((minT : ℚ) * powRat rf j)).toNat)

/-- The un-rounded levels `x j = min_t * rf^j` satisfy `1 ≤ x j` and `2 * x j ≤ x (j + 1)`, so their
roundings are positive and strictly increasing; below the loop bound `x j < max_t`, so the rounding is
at most `max_t`. -/
theorem rawLevelsRF_props (minT : ℕ) (rf : ℚ) (maxT : ℕ) (hm : 1 ≤ minT) (hrf : 2 ≤ rf) :
    (rawLevelsRF minT rf maxT).Pairwise (· < ·) ∧ ∀ l ∈ rawLevelsRF minT rf maxT, 0 < l ∧ l ≤ maxT := by
  have hx1 : ∀ j, (1 : ℚ) ≤ (minT : ℚ) * powRat rf j := fun j =>
    one_le_mul_of_one_le_of_one_le (by exact_mod_cast hm) (powRat_ge_one rf (by linarith only [hrf]) j)
  have hpos : ∀ j, (0 : ℤ) < roundHalfEven ((minT : ℚ) * powRat rf j) := by
    intro j
    have : ((0 : ℤ) : ℚ) < roundHalfEven ((minT : ℚ) * powRat rf j) := by
      rw [Int.cast_zero]; linarith only [hx1 j, (rhe_bounds ((minT : ℚ) * powRat rf j)).2]
    exact_mod_cast this
  have hmono : StrictMono fun j => (roundHalfEven ((minT : ℚ) * powRat rf j)).toNat := by
    refine strictMono_nat_of_lt_succ fun j => (Int.toNat_lt_toNat (hpos (j + 1))).mpr ?_
    refine roundHalfEven_lt _ _ (hx1 j) ?_
    rw [show powRat rf (j + 1) = powRat rf j * rf from rfl, ← mul_assoc (minT : ℚ), mul_comm 2]
    exact mul_le_mul_of_nonneg_left hrf (le_trans zero_le_one (hx1 j))
  constructor
  · exact List.pairwise_map.mpr (List.pairwise_lt_range.imp fun hab => hmono hab)
  · intro l hl
    obtain ⟨j, hj, rfl⟩ := List.mem_map.mp hl
    have hlt := maxRungs_spec minT rf maxT maxT 0 (fun _ h => absurd h (Nat.not_lt_zero _)) j (List.mem_range.mp hj)
    have : (roundHalfEven ((minT : ℚ) * powRat rf j) : ℚ) < ((maxT + 1 : ℤ) : ℚ) := by
      push_cast; linarith only [hlt, (rhe_bounds ((minT : ℚ) * powRat rf j)).1]
    have h4 : roundHalfEven ((minT : ℚ) * powRat rf j) < (maxT + 1 : ℤ) := by exact_mod_cast this
    have := hpos j
    omega

theorem getLast?_of_mem_bound (l : List ℕ) (b : ℕ) (hp : l.Pairwise (· < ·)) (hle : ∀ x ∈ l, x ≤ b) (hb : b ∈ l) :
    l.getLast? = some b := by
  obtain ⟨pre, post, hsplit⟩ := List.append_of_mem hb
  have hpost : post = [] := by
    cases post with
    | nil => rfl
    | cons c cs =>
      exfalso
      rw [hsplit, List.pairwise_append] at hp
      have h1 := hp.2.1
      rw [List.pairwise_cons] at h1
      have := h1.1 c (by simp)
      have := hle c (by rw [hsplit]; simp)
      omega
  rw [hsplit, hpost]; simp

theorem dropLast_pairwise_lt_bound (l : List ℕ) (b : ℕ) (hp : l.Pairwise (· < ·)) (hle : ∀ x ∈ l, x ≤ b) :
    ∀ x ∈ l.dropLast, x < b := by
  induction l with
  | nil => simp
  | cons a as ih =>
    cases as with
    | nil => simp
    | cons c cs =>
      rw [List.pairwise_cons] at hp
      intro x hx
      simp only [List.dropLast_cons_cons, List.mem_cons] at hx
      rcases hx with rfl | hx
      · have := hp.1 c (by simp); have := hle c (by simp); omega
      · exact ih hp.2 (fun y hy => hle y (List.mem_cons_of_mem _ hy)) x hx

theorem dropLast_bound (l : List ℕ) (b : ℕ) (hp : l.Pairwise (· < ·)) (hle : ∀ x ∈ l, x ≤ b) :
    (if l.getLast? = some b then l.dropLast else l).Pairwise (· < ·) ∧
    ∀ x ∈ (if l.getLast? = some b then l.dropLast else l), x ∈ l ∧ x < b := by
  split
  · exact ⟨hp.sublist (List.dropLast_sublist _), fun x hx =>
      ⟨(List.dropLast_sublist _).subset hx, dropLast_pairwise_lt_bound l b hp hle x hx⟩⟩
  · rename_i hne
    exact ⟨hp, fun x hx => ⟨hx, Nat.lt_of_le_of_ne (hle x hx) fun he => hne (getLast?_of_mem_bound l b hp hle (he ▸ hx))⟩⟩

theorem rungLevelsInc_props (minT inc maxT : Nat) (hinc : 0 < inc) (hmin : 0 < minT) :
    (∀ l ∈ rungLevelsInc minT inc maxT, 0 < l ∧ l < maxT) ∧
    (rungLevelsInc minT inc maxT).Pairwise (· < ·) := by
  unfold rungLevelsInc
  constructor
  · intro l hl
    simp only [List.mem_map, List.mem_range] at hl
    obtain ⟨j, hj, rfl⟩ := hl
    constructor
    · omega
    · have h1 : j * inc < (maxT - minT + inc - 1) / inc * inc := Nat.mul_lt_mul_of_pos_right hj hinc
      have h2 : (maxT - minT + inc - 1) / inc * inc ≤ maxT - minT + inc - 1 := Nat.div_mul_le_self _ _
      have h3 : j + 1 ≤ (maxT - minT + inc - 1) / inc := hj
      have h4 : (j + 1) * inc ≤ (maxT - minT + inc - 1) / inc * inc := Nat.mul_le_mul_right _ h3
      have h5 : (j + 1) * inc = j * inc + inc := by ring
      omega
  · rw [List.pairwise_map]
    refine List.Pairwise.imp ?_ (List.pairwise_lt_range)
    intro a b hab
    have : a * inc < b * inc := Nat.mul_lt_mul_of_pos_right hab hinc
    omega

theorem promoteQuantiles_mem_unit (levels : List Nat) (maxT : Nat)
    (hpos : ∀ l ∈ levels, 0 < l) (hinc : (levels ++ [maxT]).Pairwise (· < ·)) :
    ∀ q ∈ promoteQuantiles levels maxT, 0 < q ∧ q < 1 := by
  have key : ∀ a b : ℕ, 0 < a → a < b → (0:ℚ) < (a:ℚ) / b ∧ (a:ℚ) / b < 1 := fun a b ha hab => by
    have h1 : (0:ℚ) < a := by exact_mod_cast ha
    have h2 : (a:ℚ) < b := by exact_mod_cast hab
    exact ⟨div_pos h1 (by linarith), by rw [div_lt_one (by linarith)]; exact h2⟩
  unfold promoteQuantiles
  induction levels with
  | nil => simp
  | cons l ls ih =>
    intro q hq
    have hl : 0 < l := hpos l (by simp)
    rw [List.cons_append, List.pairwise_cons] at hinc
    cases ls with
    | nil =>
      simp only [List.drop_succ_cons, List.drop_nil, List.nil_append, List.zipWith_cons_cons,
        List.zipWith_nil_right, List.mem_singleton] at hq
      subst hq
      exact key l maxT hl (hinc.1 maxT (by simp))
    | cons l2 ls2 =>
      simp only [List.drop_succ_cons, List.drop_zero, List.cons_append, List.zipWith_cons_cons,
        List.mem_cons] at hq
      rcases hq with rfl | hq
      · exact key l l2 hl (hinc.1 l2 (by simp))
      · apply ih (fun x hx => hpos x (List.mem_cons_of_mem _ hx)) hinc.2
        simpa using hq

theorem zipWith_rung_levels (levels : List Nat) (qs : List Rat) (h : qs.length = levels.length) :
    (List.zipWith (fun l q => ({ level := l, q := q, data := [] } : Rung)) levels qs).map (·.level) = levels := by
  induction levels generalizing qs with
  | nil => simp
  | cons l ls ih =>
    cases qs with
    | nil => simp at h
    | cons q qs' => simp only [List.zipWith_cons_cons, List.map_cons]; rw [ih qs' (by simpa using h)]

theorem promoteQuantiles_length (levels : List Nat) (maxT : Nat) :
    (promoteQuantiles levels maxT).length = levels.length := by
  unfold promoteQuantiles; simp; omega

end SyneTune
