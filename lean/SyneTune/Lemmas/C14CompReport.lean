import SyneTune.Lemmas.C14CompMgrView
/- C14 composed system: what a report does to one rung system (stopping and promotion
families), and what `terminator.on_task_report` changes and answers. -/
namespace SyneTune.C14Comp
open SyneTune

/-- `ReportEff` in the terms `CInv` reads: `sig` (levels only) for the rungs, membership for the entries -/
structure SysRep (sys sys' : RungSys) (tid r : Nat) (o : RepOut) : Prop where
  running : sys'.running = sys.running
  sig : sig sys' = sig sys
  ents : ∀ rg' ∈ sys'.rungs, ∀ e ∈ rg'.data, (∃ rg ∈ sys.rungs, rg.level = rg'.level ∧ e ∈ rg.data) ∨
          (o.reached = true ∧ rg'.level = r ∧ e.tid = tid ∧ e.promoted = false)

theorem SysRep.of_eff {m : Mode} {sys sys' : RungSys} {tid r : Nat} {o : RepOut}
    (e : ReportEff m sys sys' tid r o) : SysRep sys sys' tid r o := by
  refine ⟨e.running, sig_of_const (RungSys.const_eq e.maxT e.steps), fun rg' hrg' x hx => ?_⟩
  rcases e.rungs with h | ⟨hr, a⟩
  · exact .inl ⟨rg', h ▸ hrg', rfl, hx⟩
  · exact (a.entries rg' hrg' x hx).imp_right fun c => ⟨hr, c⟩

theorem nextLevel_lastLevel (r next : Nat) (pre : List Rung) (rg : Rung) (post : List Rung)
    (hpre : ∀ p ∈ pre, r < p.level) (hl : rg.level = r) :
    nextLevel r next ((pre ++ rg :: post).map (·.level)) = lastLevel next pre := by
  induction pre generalizing next with
  | nil => simp [nextLevel, lastLevel, hl]
  | cons p ps ih =>
    simp only [List.cons_append, List.map_cons, nextLevel, hpre p (List.mem_cons_self ..), if_true, lastLevel]
    exact ih p.level fun q hq => hpre q (List.mem_cons_of_mem _ hq)

theorem stopScan_ans (m : Mode) (tid r : Nat) (v : Rat) (hint : Bool) (next : Nat) (rs : List Rung) :
    ((stopScan m tid r v hint next rs).2.continues = false → (stopScan m tid r v hint next rs).2.reached = true) ∧
    (stopScan m tid r v hint next rs).2.ignoreData = false ∧
    (RungsDecr rs → (∀ rg ∈ rs, rg.contains tid = true → rg.level < r) →
      (r ∈ rs.map (·.level) → (stopScan m tid r v hint next rs).2.reached = true ∧
          (stopScan m tid r v hint next rs).2.next = some (nextLevel r next (rs.map (·.level)))) ∧
      (r ∉ rs.map (·.level) → (stopScan m tid r v hint next rs).2.reached = false)) := by
  obtain ⟨pre, hpre, ⟨he, hrs⟩ | ⟨rg, post, rfl, hl, _, he⟩⟩ := stopScan_out m tid r v hint next rs <;> rw [he]
  · -- nothing is recorded: a passed rung is above `r` or holds the trial, so it is not at `r`, and the rest lies below
    refine ⟨nofun, rfl, fun hd hc => ?_⟩
    have hp : ∀ p ∈ pre, p ∈ rs → p.level ≠ r := fun p hp hprs hpl =>
      (hpre p hp).elim (fun h => by omega) fun hcn => by have := hc p hprs hcn; omega
    have hnot : r ∉ rs.map (·.level) := by
      intro hm
      obtain ⟨p, hp1, hp2⟩ := List.mem_map.mp hm
      rcases hrs with rfl | ⟨rg, post, rfl, hlt⟩
      · exact hp p hp1 hp1 hp2
      · rcases List.mem_append.mp hp1 with hp1' | hp1'
        · exact hp p hp1' hp1 hp2
        · rcases List.mem_cons.mp hp1' with rfl | hpost
          · omega
          · have := (List.pairwise_cons.mp (List.pairwise_append.mp hd).2.1).1 p hpost
            omega
    exact ⟨fun h => absurd h hnot, fun _ => rfl⟩
  · refine ⟨fun _ => rfl, rfl, fun hd _ => ?_⟩
    have hpre' : ∀ p ∈ pre, r < p.level := fun p hp => hl ▸ RungsDecr.above_of_append hd p hp
    exact ⟨fun _ => ⟨rfl, congrArg some (nextLevel_lastLevel r next pre rg post hpre' hl).symm⟩,
      fun h => absurd (by simp [hl]) h⟩

/-- the answer of a stopping-type rung system: never ignored; a trial is stopped at a rung only;
for a trial which sits in no rung at or above `r`, a rung is reached exactly at the milestone
levels, and the next milestone is the level above -/
structure StopAns (sys : RungSys) (skip tid r : Nat) (o : RepOut) : Prop where
  ignore : o.ignoreData = false
  stop : o.continues = false → o.reached = true
  reach : RungsDecr sys.rungs → (∀ rg ∈ sys.rungs, rg.contains tid = true → rg.level < r) → r ≠ sys.maxT →
    (r ∈ sys.milestones skip → o.reached = true ∧ o.next = some (nextLevel r sys.maxT (sys.milestones skip))) ∧
    (r ∉ sys.milestones skip → o.reached = false)

theorem stopReport_ans (s : RungSys) (m : Mode) (tid r : Nat) (v : Rat) (skip : Nat) (hint : Bool) :
    StopAns s skip tid r (s.stopReport m tid r v skip hint).2 := by
  unfold RungSys.stopReport
  split
  · exact ⟨rfl, fun _ => rfl, fun _ _ hr => absurd ‹r = s.maxT› hr⟩
  · obtain ⟨b1, b2, b3⟩ := stopScan_ans m tid r v hint s.maxT (milestoneRungs s.rungs skip)
    exact ⟨b2, b1, fun hd hc _ => b3 (hd.sublist (List.take_sublist _ _)) fun rg hrg => hc rg (List.mem_of_mem_take hrg)⟩

/-- the RUSH decider only turns a "continue" at a rung into a "stop" -/
theorem rushStopReport_ans (s : RungSys) (m : Mode) (tid r : Nat) (v : Rat) (skip : Nat) (hint : Bool) :
    StopAns s skip tid r (s.rushStopReport m tid r v skip hint).2 := by
  have h := stopReport_ans s m tid r v skip hint
  unfold RungSys.rushStopReport
  simp only
  split
  · rename_i hcond
    exact ⟨h.ignore, fun _ => hcond.1, h.reach⟩
  · exact h

/-- effect of `terminator.on_task_report` on the manager -/
structure RepEff (g g' : Manager) (tid r : Nat) (o : RepOut) : Prop where
  shape : shape g' = shape g
  view : ∀ t, trialView g' t = trialView g t
  ents : ∀ L e, EntIn g'.systems L e →
    EntIn g.systems L e ∨ (o.reached = true ∧ L = r ∧ e.tid = tid ∧ e.promoted = false)
  ignore : o.ignoreData = resumedBelow g tid r
  stop : o.continues = false → o.reached = true

/-- the effect on the manager; what an ignored report is answered; and, for a trial reporting level `l + 1` after
`l` on its way to its milestone, where a rung is reached and which milestone is next -/
theorem taskReport_repEff {g g' : Manager} {tid r : Nat} {v : Rat} {hint : Bool} {cost eps : Rat} {o : RepOut}
    (h : g.taskReport tid r v hint cost eps = .ok (g', o)) :
    RepEff g g' tid r o ∧
    ((∀ sys ∈ g.systems, RunOK sys) → o.ignoreData = true → o.reached = false) ∧
    (MgrWF g → ∀ l, r = l + 1 → l < milestoneOf g tid l →
      (milestoneOf g tid l = g.maxT ∨ milestoneOf g tid l ∈ g.rungLevels) →
      (∀ L e, EntIn g.systems L e → e.tid = tid → L ≤ l) →
      (o.reached = true → r = milestoneOf g tid l) ∧
      (o.reached = false → r ≠ milestoneOf g tid l ∧ milestoneOf g tid r = milestoneOf g tid l) ∧
      (o.continues = true → r < milestoneOf g tid r ∧
        (milestoneOf g tid r = g.maxT ∨ milestoneOf g tid r ∈ g.rungLevels)) ∧
      (o.continues = true → o.reached = true → o.next = some (milestoneOf g tid r))) := by
  rcases Manager.taskReport_eff h with ⟨hge, hg, ho⟩ | ⟨b, sys, sys', o1, hlt, h1, h2, rfl, rfl, eff, f0⟩
  · rw [hg, ho]
    refine ⟨⟨rfl, fun _ => rfl, fun L e he => Or.inl he, ?_, fun _ => rfl⟩, fun _ hig => (by cases hig),
      fun hw l hr hM hMl _ => ⟨fun _ => ?_, fun hre => (by cases hre), fun hco => (by cases hco),
        fun hco => (by cases hco)⟩⟩
    · have : ¬ r < g.maxT := by omega
      simp [resumedBelow, this]
    · -- `l < milestone ≤ max_t ≤ r = l + 1`
      have := hMl.elim Nat.le_of_eq fun hm => Nat.le_of_lt (hw.2.1 _ hm)
      omega
  · have hv := trialView_of g tid b sys h1 h2
    have hmem : sys ∈ g.systems := List.mem_of_getElem? h2
    obtain ⟨s1, s2, s3⟩ := SysRep.of_eff eff
    have f : (g.type.pauseResume = false ∧ StopAns sys (g.sysFor b).2 tid r o1) ∨
        (g.type.pauseResume = true ∧ PromoAns sys tid r o1) :=
      f0.imp_left fun ⟨hty, ho1⟩ => ⟨hty, ho1.elim (· ▸ stopReport_ans sys g.mode tid r v _ hint)
        (· ▸ rushStopReport_ans sys g.mode tid r v _ hint)⟩
    simp only [fixNext_eq]
    refine ⟨⟨shape_of_const (Manager.taskReport_eff h).const, trialView_setSys g h2 s1 s2, ?_, ?_, ?_⟩,
      fun hrun hig => ?_, fun hw l hr hM hMl hc => ?_⟩
    · intro L e he
      rcases EntIn_set he with he | ⟨rg', hrg', hl, hm⟩
      · exact Or.inl he
      · rcases s3 rg' hrg' e hm with ⟨rg, hrg, hl2, hm2⟩ | ⟨k1, k2, k3, k4⟩
        · exact Or.inl ⟨sys, hmem, rg, hrg, hl2.trans hl, hm2⟩
        · exact Or.inr ⟨k1, hl ▸ k2, k3, k4⟩
    · rw [resumedBelow, hv]
      rcases f with ⟨hpr, hs⟩ | ⟨hpr, mr, m1, _, m3, _⟩
      · simp [hpr, hs.ignore]
      · simp [hpr, hlt, m1, m3]
    · exact f.elim (fun hs => hs.2.stop) (fun hp => hp.2.stop)
    · -- a stopping system ignores nothing; a promotion system only below the milestone
      rcases f with ⟨_, hs⟩ | ⟨_, hp⟩
      · rw [hs.ignore] at hig; cases hig
      · rcases hp.cases (hrun sys hmem) with c | c
        · exact c.2
        · rw [c.2.2] at hig; cases hig
    · obtain ⟨w1, w2, w3⟩ := MgrWF_sys hw hmem
      rcases f with ⟨hpr', sa⟩ | ⟨hpr, mr, m1, m2, m3, m4, m5⟩
      rotate_left
      · have hmile : ∀ l', milestoneOf g tid l' = mr.1 := fun l' => by
          rw [milestoneOf_of_view hv, hpr, m1]; rfl
        rw [hmile l] at hMl
        rw [hmile l, hmile r]
        refine ⟨?_, ?_, ?_, ?_⟩
        · intro hre
          rcases Nat.lt_or_ge r mr.1 with hlt2 | hge2
          · rw [(m4 hlt2).2] at hre; cases hre
          · omega
        · intro hre
          refine ⟨?_, rfl⟩
          intro he
          rw [(m5 he).2] at hre; cases hre
        · intro hco
          rcases Nat.lt_or_ge r mr.1 with hlt2 | hge2
          · exact ⟨hlt2, hMl⟩
          · rw [(m5 (by omega)).1] at hco; cases hco
        · intro hco hre
          rcases Nat.lt_or_ge r mr.1 with hlt2 | hge2
          · rw [(m4 hlt2).2] at hre; cases hre
          · rw [(m5 (by omega)).1] at hco; cases hco
      · have hmile : ∀ l', milestoneOf g tid l' = nextLevel l' g.maxT (sys.milestones (g.sysFor b).2) := fun l' => by
          rw [milestoneOf_of_view hv, hpr']; rfl
        have hcont : ∀ rg ∈ sys.rungs, rg.contains tid = true → rg.level < r := by
          intro rg hrg hcn
          have := (contains_iff rg tid).mp hcn
          simp only [List.mem_map] at this
          obtain ⟨e, he, het⟩ := this
          have := hc rg.level e ⟨sys, hmem, rg, hrg, rfl, he⟩ het
          omega
        have hrne : r ≠ sys.maxT := by rw [w1]; omega
        obtain ⟨r1, r2⟩ := sa.reach w2 hcont hrne
        have hdec := milestones_decr w2 (g.sysFor b).2
        rw [hmile l, hmile r] at *
        rw [w1] at r1
        refine ⟨?_, ?_, ?_, ?_⟩
        · intro hre
          by_cases hin : r ∈ sys.milestones (g.sysFor b).2
          · rw [hr] at hin ⊢
            exact (nextLevel_of_succ_mem l g.maxT _ hdec hin).symm
          · rw [r2 hin] at hre; cases hre
        · intro hre
          have hnin : r ∉ sys.milestones (g.sysFor b).2 := by
            intro hin; rw [(r1 hin).1] at hre; cases hre
          refine ⟨?_, ?_⟩
          · intro he
            rcases nextLevel_mem l g.maxT (sys.milestones (g.sysFor b).2) with hm | hm
            · omega
            · rw [← he] at hm; exact hnin hm
          · rw [hr] at hnin ⊢
            exact nextLevel_succ_of_not_mem l g.maxT _ hnin
        · intro _
          refine ⟨nextLevel_gt r g.maxT _ hlt, ?_⟩
          rcases nextLevel_mem r g.maxT (sys.milestones (g.sysFor b).2) with hm | hm
          · exact Or.inl hm
          · obtain ⟨rg, hrg, hl⟩ := mem_milestones hm
            right; rw [← hl]; exact (w3 rg hrg).2.2
        · intro _ hre
          by_cases hin : r ∈ sys.milestones (g.sysFor b).2
          · simp [(r1 hin).2]
          · rw [r2 hin] at hre; cases hre

end SyneTune.C14Comp
