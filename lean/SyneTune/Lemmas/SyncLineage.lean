import SyneTune.Lemmas.SyncBracket
/- Within one well-formed bracket: a trial of a higher rung comes from the top list of the rung below
(`from_top`), so it occurs in every rung between two rungs holding it (`ids_down`) and, without shortfall,
has no failed entry below (`no_nan_below`); what follows for a trial waiting in the current rung. -/
namespace SyneTune.Sync
open SyneTune

/-- a slot of rung `j+1` holding `t` either has `t` from the top list of rung `j` — then `t`
has a selected entry in rung `j` — or `t` occurs in no rung below -/
theorem from_top {spec br} (hb : BWF spec br) (j : Nat) (prev next : Rung) (q : Nat) (y : Slot) (t : Nat)
    (hprev : br.rungs[j]? = some prev) (hnext : br.rungs[j + 1]? = some next)
    (hq : next.slots[q]? = some y) (ht : y.tid = some t) :
    (∃ es sel, entriesOf prev.slots = some es ∧ sel ∈ topSel es next.slots.length br.mode ∧
      prev.slots[sel.2]? = some ⟨some t, some sel.1.2⟩) ∨
    (y.metric.isSome = true ∧ ∀ (i : Nat) (ri : Rung), i ≤ j → br.rungs[i]? = some ri → t ∉ ri.ids) := by
  obtain ⟨es, hes, hlen, hpt⟩ := hb.top j prev next hprev hnext
  have hqlt : q < (topList es next.slots.length br.mode).length := by rw [hlen]; exact getElem?_lt hq
  rcases hpt q _ y (List.getElem?_eq_getElem hqlt) hq with h | ⟨_, h2⟩
  · obtain ⟨sel, hsel, hst⟩ := List.mem_map.mp (List.getElem_mem hqlt)
    refine Or.inl ⟨es, sel, hes, hsel, ?_⟩
    -- `prev.slots` is `es` mapped back to slots; position `sel.2` of `es` is `sel.1`, whose id is `y.tid = some t`
    rw [entriesOf_eq_some.mp hes, List.getElem?_map, topSel_mem es _ _ sel hsel, Option.map_some, hst, ← h, ht]
  · refine Or.inr ⟨(h2 t ht).1, fun i ri hi hri => (h2 t ht).2 ri (List.mem_iff_getElem?.mpr ⟨i, ?_⟩)⟩
    rw [List.getElem?_take_of_lt (Nat.lt_succ_of_le hi), hri]

/-- a trial occurring in rung `k` and in a higher rung `j` occurs in every rung between -/
theorem ids_down {spec br} (hb : BWF spec br) (t k : Nat) (rgk : Rung) (hk : br.rungs[k]? = some rgk)
    (htk : t ∈ rgk.ids) (j : Nat) : ∀ (rgj : Rung), br.rungs[j]? = some rgj → t ∈ rgj.ids →
      ∀ i, k ≤ i → i ≤ j → ∃ rgi, br.rungs[i]? = some rgi ∧ t ∈ rgi.ids := by
  induction j with
  | zero =>
    intro rgj hrgj htj i _ h2
    exact ⟨rgj, Nat.le_zero.mp h2 ▸ hrgj, htj⟩
  | succ j ih =>
    intro rgj hrgj htj i h1 h2
    by_cases hij : i = j + 1
    · exact ⟨rgj, hij ▸ hrgj, htj⟩
    · have hprev := List.getElem?_eq_getElem (Nat.lt_of_succ_lt (getElem?_lt hrgj))
      obtain ⟨q, y, hq, hyt⟩ := (mem_ids_iff rgj t).mp htj
      rcases from_top hb j _ rgj q y t hprev hrgj hq hyt with ⟨es, sel, -, -, hslot⟩ | ⟨-, hno⟩
      · exact ih _ hprev ((mem_ids_iff _ t).mpr ⟨sel.2, _, hslot, rfl⟩) i h1 (by omega)
      · exact absurd htk (hno k rgk (by omega) hk)

/-- no completed rung of the bracket had fewer valid entries than the next rung has slots -/
def NoShortfallBr (br : Bracket) : Prop :=
  ∀ (k : Nat) (prev next : Rung) (es : List TEntry), br.rungs[k]? = some prev → br.rungs[k + 1]? = some next →
    entriesOf prev.slots = some es → next.slots.length ≤ (es.filter (fun e => !e.2.isNan)).length

/-- executable form of `NoShortfallBr` (for concrete states) -/
def noShortfallPairs : List Rung → Bool
  | prev :: next :: rest =>
    (match entriesOf prev.slots with
     | some es => decide (next.slots.length ≤ (es.filter (fun e => !e.2.isNan)).length)
     | none => true) && noShortfallPairs (next :: rest)
  | _ => true

theorem noShortfallPairs_sound (br : Bracket) (h : noShortfallPairs br.rungs = true) : NoShortfallBr br := by
  unfold NoShortfallBr
  generalize br.rungs = rungs at h
  induction rungs with
  | nil => intro k prev next es hp; cases hp
  | cons r rest ih =>
    match rest, h, ih with
    | [], _, _ => intro k prev next es _ hn; cases hn
    | r2 :: rest2, h, ih =>
      rw [noShortfallPairs, Bool.and_eq_true] at h
      intro k prev next es hp hn hes
      cases k with
      | zero =>
        cases hp; cases hn
        simpa [hes] using h.1
      | succ k => exact ih h.2 k prev next es hp hn hes

/-- without shortfall, a trial of rung `j` has no failed (NaN) entry in any rung below -/
theorem no_nan_below {spec br} (hb : BWF spec br) (hns : NoShortfallBr br) (t : Nat) (j : Nat) :
    ∀ (rgj : Rung), br.rungs[j]? = some rgj → t ∈ rgj.ids →
      ∀ (k : Nat) (rgk : Rung), k < j → br.rungs[k]? = some rgk → (⟨some t, some .nan⟩ : Slot) ∉ rgk.slots := by
  induction j with
  | zero => intro rgj _ _ k rgk hk; cases hk
  | succ j ih =>
    intro rgj hrgj htj k rgk hk hrgk hmem
    obtain ⟨i, hi⟩ := List.mem_iff_getElem?.mp hmem
    have hprev := List.getElem?_eq_getElem (Nat.lt_of_succ_lt (getElem?_lt hrgj))
    obtain ⟨q, y, hq, hyt⟩ := (mem_ids_iff rgj t).mp htj
    rcases from_top hb j _ rgj q y t hprev hrgj hq hyt with ⟨es, sel, hes, hsel, hslot⟩ | ⟨-, hno⟩
    · by_cases hkj : k = j
      · -- the entry of `t` in rung `j` is the selected one, which is valid
        subst hkj
        obtain rfl := Option.mem_unique hprev hrgk
        have hvalid : IsValid sel.1 := topSel_valid es rgj.slots.length br.mode
          (validPos_length es ▸ hns k _ rgj es hprev hrgj hes) sel hsel
        obtain rfl := nodup_idx _ t (hb.nodup _ (List.mem_of_getElem? hprev)) i sel.2 _ _ hi hslot rfl rfl
        have : Metric.nan = sel.1.2 := by simpa using Option.mem_unique hi hslot
        rw [IsValid, ← this] at hvalid; cases hvalid
      · exact ih _ hprev ((mem_ids_iff _ t).mpr ⟨sel.2, _, hslot, rfl⟩) k rgk (by omega) hrgk hmem
    · exact hno k rgk (by omega) hrgk ((mem_ids_iff rgk t).mpr ⟨i, _, hi, rfl⟩)

theorem waiting_from_top {spec br} (hb : BWF spec br) {rg : Rung} {p : Nat} {x : Slot} {t : Nat}
    (hrg : br.rungs[br.current]? = some rg) (hx : rg.slots[p]? = some x) (hxt : x.tid = some t)
    (hxm : x.metric = none) :
    ∃ (k : Nat) (prev : Rung) (es : List TEntry), br.current = k + 1 ∧ br.rungs[k]? = some prev ∧
      (∀ y ∈ prev.slots, y.metric.isSome = true) ∧ entriesOf prev.slots = some es ∧
      some t ∈ topList es rg.slots.length br.mode := by
  -- in the base rung a slot with an id holds a result
  obtain ⟨k, hk⟩ : ∃ k, br.current = k + 1 := Nat.exists_eq_succ_of_ne_zero fun h0 => by
    have := hb.base rg (h0 ▸ hrg) x (List.mem_of_getElem? hx) (by rw [hxt]; rfl)
    rw [hxm] at this; cases this
  rw [hk] at hrg
  have hprev := List.getElem?_eq_getElem (Nat.lt_of_succ_lt (getElem?_lt hrg))
  obtain ⟨es, hes, hlen, hpt⟩ := hb.top k _ rg hprev hrg
  have hplt : p < (topList es rg.slots.length br.mode).length := by rw [hlen]; exact getElem?_lt hx
  refine ⟨k, _, es, hk, hprev, hb.done k _ (by omega) hprev, hes, ?_⟩
  -- the slot holds the entry of the top list, or a trial started there later, which has reported
  rcases hpt p _ x (List.getElem?_eq_getElem hplt) hx with h1 | ⟨_, h2⟩
  · exact hxt ▸ h1 ▸ List.getElem_mem hplt
  · have := (h2 t hxt).1
    rw [hxm] at this; cases this

theorem no_nan_of_waiting {spec br} (hb : BWF spec br) (hns : NoShortfallBr br) {rg : Rung} {p : Nat} {x : Slot}
    {t : Nat} (hrg : br.rungs[br.current]? = some rg) (hx : rg.slots[p]? = some x) (hxt : x.tid = some t)
    (hxm : x.metric = none) (k : Nat) (rgk : Rung) (hk : br.rungs[k]? = some rgk) :
    (⟨some t, some .nan⟩ : Slot) ∉ rgk.slots := by
  intro hmem
  by_cases hkc : k = br.current
  · -- in the current rung `t` sits in the empty slot only
    subst hkc
    obtain rfl := Option.mem_unique hrg hk
    obtain ⟨i, hi⟩ := List.mem_iff_getElem?.mp hmem
    obtain rfl := nodup_idx rg.slots t (hb.nodup rg (List.mem_of_getElem? hrg)) i p _ x hi hx rfl hxt
    cases Option.mem_unique hi hx
    cases hxm
  · exact no_nan_below hb hns t br.current rg hrg ((mem_ids_iff rg t).mpr ⟨p, x, hx, hxt⟩) k rgk
      (Nat.lt_of_le_of_ne (hb.le_cur hk) hkc) hk hmem

end SyneTune.Sync
