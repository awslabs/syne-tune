import SyneTune.Lemmas.SimPrefix
/-
When the completion event pushed by a run's own start event is processed, every result of
that run has arrived (`Full`; `CInv`, kept together with `Inv1` as `CI`; `sim_complete_run`).
-/
namespace SyneTune.SimL
open SyneTune SyneTune.Backend

variable {J : Type}

/-- all results of run `r` of trial `t` are accounted for -/
def Full (s : Sim J) (t r : Nat) : Prop :=
  ∃ ρ ∈ s.runs, ρ.trial = t ∧ ρ.run = r ∧ cat s t r = List.range ρ.results.length

theorem Full.mono {s s' : Sim J} {t r : Nat} (h : Full s t r) (hruns : ∀ ρ ∈ s.runs, ρ ∈ s'.runs)
    (hcat : cat s' t r = cat s t r) : Full s' t r := by
  obtain ⟨ρ, hρ, h1, h2, h3⟩ := h
  exact ⟨ρ, hruns ρ hρ, h1, h2, by rw [hcat]; exact h3⟩

/-- the completion event that a run's start event pushed (`complete st (some r)`) pops after all results
of the run (`ord`, from `hd`: `delay_on_trial_result ≤ delay_complete_after_final_report`), and as long as it
waits no result of the run is lost (`tot`); so once it is handled the run is complete (`done`).  Not the `CInv` of the
C14 files. -/
structure CInv (s : Sim J) : Prop where
  hd : s.cfg.dResult ≤ s.cfg.dCompleteFinal
  /-- own completion events in the heap belong to started runs -/
  fcomp : ∀ c ∈ s.heap, ∀ st r, c.kind = .complete st (some r) → r < runsOf s c.trial
  /-- a result event pops before the own completion event of its run -/
  ord : ∀ e ∈ s.heap, ∀ c ∈ s.heap, ∀ res tag st, e.kind = .result res tag →
      c.kind = .complete st (some tag.run) → c.trial = e.trial → keyLt e c
  /-- while the own completion event is in the heap no result of the run was lost -/
  tot : ∀ c ∈ s.heap, ∀ st r, c.kind = .complete st (some r) → Full s c.trial r
  done : ∀ t x r, s.trials[t]? = some x → x.completedRun = some r →
      r < runsOf s t ∧ Full s t r ∧ heapIdx s t r = []

/-- the indices of a run need to be kept (`hcat`) only while its own completion event is still in the heap of `s'`, or
once its share of the heap is empty: a stop event may cut a run off, and then its completion event is gone with it and
neither `tot` nor `done` speaks of the run -/
theorem CInv.mono {s s' : Sim J} (h : CInv s) (hcfg : s'.cfg = s.cfg)
    (hheap : ∀ e ∈ s'.heap, e ∈ s.heap ∨
      ((∀ res tag, e.kind ≠ .result res tag) ∧ ∀ st r, e.kind ≠ .complete st (some r)))
    (hruns : ∀ ρ ∈ s.runs, ρ ∈ s'.runs)
    (hro : ∀ u, runsOf s u ≤ runsOf s' u)
    (hcat : ∀ t r, r < runsOf s t →
      ((∃ c ∈ s'.heap, c.trial = t ∧ ∃ st, c.kind = .complete st (some r)) ∨ heapIdx s t r = []) →
      cat s' t r = cat s t r)
    (hdone : ∀ t x' r, s'.trials[t]? = some x' → x'.completedRun = some r →
      r < runsOf s t ∧ Full s t r ∧ heapIdx s t r = []) : CInv s' := by
  refine ⟨by rw [hcfg]; exact h.hd, ?_, ?_, ?_, ?_⟩
  · intro c hc st r hk
    rcases hheap c hc with hc0 | ⟨_, hn⟩
    · exact Nat.lt_of_lt_of_le (h.fcomp c hc0 st r hk) (hro _)
    · exact absurd hk (hn st r)
  · intro e he c hc res tag st hke hkc htr
    rcases hheap e he with he0 | ⟨hn, _⟩
    · rcases hheap c hc with hc0 | ⟨_, hn⟩
      · exact h.ord e he0 c hc0 res tag st hke hkc htr
      · exact absurd hkc (hn st _)
    · exact absurd hke (hn res tag)
  · intro c hc st r hk
    rcases hheap c hc with hc0 | ⟨_, hn⟩
    · exact (h.tot c hc0 st r hk).mono hruns
        (hcat _ _ (h.fcomp c hc0 st r hk) (Or.inl ⟨c, hc, rfl, st, hk⟩))
    · exact absurd hk (hn st r)
  · intro t x' r hx' hcr
    obtain ⟨h1, h2, h3⟩ := hdone t x' r hx' hcr
    refine ⟨Nat.lt_of_lt_of_le h1 (hro _), h2.mono hruns (hcat t r h1 (Or.inr h3)), ?_⟩
    exact List.filterMap_eq_nil_iff.mpr fun e he =>
      (hheap e he).elim (List.filterMap_eq_nil_iff.mp h3 e) (fun hn => tagIdxOf_kind hn.1)

/-- a change that adds nothing to the heap and keeps `runs`, the run counters, `completedRun` and the indices of every run -/
theorem CInv.of_cat {s s' : Sim J} (h : CInv s) (hc : s'.cfg = s.cfg) (hh : s'.heap.Sublist s.heap)
    (hr : s'.runs = s.runs) (hro : ∀ u, runsOf s' u = runsOf s u)
    (ht : s'.trials.map (·.completedRun) = s.trials.map (·.completedRun))
    (hcat : ∀ t r, cat s' t r = cat s t r) : CInv s' := by
  refine h.mono hc (fun e he => Or.inl (hh.subset he)) (fun ρ hρ => hr ▸ hρ)
    (fun u => Nat.le_of_eq (hro u).symm) (fun t r _ _ => hcat t r) ?_
  intro t x' r hx' hcr
  obtain ⟨x, hx, h2⟩ := map_get ht hx'
  exact h.done t x r hx (h2.trans hcr)

theorem CInv.resumed {s : Sim J} (h : CInv s) (t : Nat) (q : Bool) : CInv (s.updT t (STrial.resumed q)) :=
  h.of_cat rfl (List.Sublist.refl _) rfl (fun u => runsOf_updT _ _ _ _ (fun _ => by rfl))
    (map_updT _ _ (fun _ => by rfl)) (cat_frame rfl rfl rfl)

theorem CInv.pop {s : Sim J} {e : Ev} {rest : List Ev} (h : CInv s) (hheap : s.heap = e :: rest)
    (hk : ∀ res tag, e.kind ≠ .result res tag) : CInv ({ s with heap := rest } : Sim J) :=
  h.of_cat rfl (hheap ▸ List.sublist_cons_self e rest) rfl (fun _ => rfl) rfl
    (cat_pop hheap hk)

theorem CInv.complete {s : Sim J} (h : CInv s) (t : Nat) (st : St) (nat : Option Nat) (b : List Nat)
    (hnat : ∀ r, nat = some r → r < runsOf s t ∧ Full s t r ∧ heapIdx s t r = []) :
    CInv ({ (s.updT t fun y => { y with isResult := true, status := st,
                                         completedRun := if nat.isSome then nat else y.completedRun }) with
            busy := b } : Sim J) := by
  refine h.mono rfl (fun e he => Or.inl he) (fun ρ hρ => hρ)
    (fun u => Nat.le_of_eq (runsOf_updT s t u _ (fun y => by rfl)).symm)
    (fun t' r _ _ => cat_frame rfl rfl rfl t' r) ?_
  intro u x' r hx' hcr
  obtain ⟨x, hx, ⟨_, rfl⟩ | ⟨rfl, rfl⟩⟩ := getElem?_modifyAt_some hx'
  · exact h.done u x r hx hcr
  · cases nat with
    | none => exact h.done u x r hx hcr
    | some r0 => cases hcr; exact hnat r rfl

theorem CInv.result {s : Sim J} {e : Ev} {rest : List Ev} (h : CInv s) (hheap : s.heap = e :: rest) (res : Res)
    (tag : Tag) (hk : e.kind = .result res tag) :
    CInv ({ (({ s with heap := rest } : Sim J).updT e.trial fun y =>
              if y.isResult then y else { y with isResult := true, status := .inProgress }) with
            next := aset e.trial ((alookup e.trial s.next).getD [] ++ [⟨res, e.time, tag⟩]) s.next } : Sim J) :=
  h.of_cat rfl (hheap ▸ List.sublist_cons_self e rest) rfl
    (fun u => runsOf_updT ({ s with heap := rest } : Sim J) _ u _ (fun y => by split <;> rfl))
    (map_updT ({ s with heap := rest } : Sim J) e.trial (fun y => by split <;> rfl)) (cat_arrive hheap res tag hk _)

theorem CInv.startRes {A : Arith} (hA : AddMono A) {s : Sim J} (h1 : Inv1 s) (h : CInv s) (t : Nat) (te : Rat)
    (x : STrial) (js' : J) (status : St) (rs : List Res) (hx : s.trials[t]? = some x)
    (hp : rs.Pairwise (fun a b => a.elapsed ≤ b.elapsed)) :
    CInv (startResult A s t te x.runs js' status rs) := by
  have hro := startResult_runsOf A s t te x js' status rs hx
  have hxr : runsOf s t = x.runs := runsOf_some hx
  have hmono := runsOf_le_startResult A s t te x js' status rs hx
  have hrsub : ∀ ρ ∈ s.runs, ρ ∈ (startResult A s t te x.runs js' status rs).runs :=
    fun ρ hρ => List.mem_append_left _ hρ
  -- runs that exist already keep their indices
  have hold : ∀ t' r', r' < runsOf s t' →
      heapIdx (startResult A s t te x.runs js' status rs) t' r' = heapIdx s t' r' := fun t' r' hlt =>
    heapIdx_startResult_other A s t te x.runs js' status rs t' r' (by rintro ⟨rfl, rfl⟩; omega)
  have hcat : ∀ t' r', r' < runsOf s t' → cat (startResult A s t te x.runs js' status rs) t' r' = cat s t' r' :=
    fun t' r' hlt => cat_of_heapIdx (hold t' r' hlt) rfl rfl
  refine ⟨h.hd, ?_, ?_, ?_, ?_⟩
  · intro c hc st r hk
    rcases mem_startResult.mp hc with rfl | hc0 | ⟨k, r', _, rfl⟩
    · cases (EvKind.complete.inj hk).2
      rw [hro]; simp
    · exact Nat.lt_of_lt_of_le (h.fcomp c hc0 st r hk) (hmono _)
    · cases hk
  · intro e he c hc res tag st hke hkc htr
    rcases mem_startResult.mp he with rfl | he0 | ⟨k, r', hk, rfl⟩
    · cases hke
    · rcases mem_startResult.mp hc with rfl | hc0 | ⟨k, r', _, rfl⟩
      · -- an old result event of the trial belongs to an earlier run
        have := h1.fheap e he0 res tag hke
        have e2 : x.runs = tag.run := Option.some.inj (EvKind.complete.inj hkc).2
        rw [← show t = e.trial from htr, hxr] at this
        omega
      · exact h.ord e he0 c hc0 res tag st hke hkc htr
      · cases hkc
    · obtain ⟨_, rfl⟩ := EvKind.result.inj hke
      rcases mem_startResult.mp hc with rfl | hc0 | ⟨k', r'', _, rfl⟩
      · -- a result of the new run against its completion event: not later, and pushed before
        have hklt : k < rs.length := (List.getElem?_eq_some_iff.mp hk).1
        have hle : A.add (A.add te r'.elapsed) s.cfg.dResult ≤ A.add (finalTime A te rs te) s.cfg.dCompleteFinal :=
          le_trans (hA.2 _ _ _ ((le_finalTime A te rs te).2 r' (List.mem_of_getElem? hk))) (hA.1 _ _ _ h.hd)
        rcases lt_or_eq_of_le hle with h' | h'
        · exact Or.inl h'
        · exact Or.inr ⟨h', by show s.added + k < s.added + rs.length; omega⟩
      · have := h.fcomp c hc0 st _ hkc
        rw [show c.trial = t from htr, hxr] at this
        exact absurd this (Nat.lt_irrefl _)
      · cases hkc
  · intro c hc st r hk
    rcases mem_startResult.mp hc with rfl | hc0 | ⟨k, r', _, rfl⟩
    · cases (EvKind.complete.inj hk).2
      exact ⟨⟨t, x.runs, te, s.js, js', rs⟩, List.mem_append_right _ List.mem_cons_self, rfl, rfl,
        cat_startResult_same hA h1 t te x js' status rs hx hp⟩
    · exact (h.tot c hc0 st r hk).mono hrsub (hcat _ _ (h.fcomp c hc0 st r hk))
    · cases hk
  · intro u x' r hx' hcr
    obtain ⟨x0, hx0, hx0'⟩ := getElem?_modifyAt_some hx'
    have hcr0 : x0.completedRun = some r := by rcases hx0' with ⟨_, rfl⟩ | ⟨_, rfl⟩ <;> exact hcr
    obtain ⟨d1, d2, d3⟩ := h.done u x0 r hx0 hcr0
    exact ⟨Nat.lt_of_lt_of_le d1 (hmono u), d2.mono hrsub (hcat u r d1), (hold u r d1).trans d3⟩

/-- `CInv` is kept only together with `Inv1`: at a start event the old results of the trial belong to earlier
runs, and a result of the completing run still in the heap would contradict the heap order -/
def CI (s : Sim J) : Prop := Inv1 s ∧ CInv s

/-- a start event (`CInv.startRes`) and an own completion event (`CInv.complete`: no result of the run is left in
the heap, by `ord`) apart, a step is a case of `CInv.mono`: it adds no result and no own completion event, and
leaves the indices of a started run alone unless a stop event of its trial cuts them off (`Prim.cat_step`) -/
theorem CI.prim {A : Arith} {job : JobFn J} {H : J → J → Prop} {Q : J → Prop} (hA : AddMono A)
    (hjob : SortedOn H Q job) (s s' : Sim J) (hp : Prim A job H s s') (hq : Q s.js) (h : CI s) : CI s' := by
  refine ⟨Inv1.prim hA hjob _ _ hp hq h.1, ?_⟩
  obtain ⟨h1, h2⟩ := h
  have hcat : ∀ t r, r < runsOf s t →
      ((∃ c ∈ s'.heap, c.trial = t ∧ ∃ st, c.kind = .complete st (some r)) ∨ heapIdx s t r = []) →
      cat s' t r = cat s t r := by
    intro t r hlt hor
    rcases hp.cat_step hA hjob hq h1 t r with hc | ⟨hno, hc⟩ | ⟨hr, _⟩
    · exact hc
    · rcases hor with ⟨c, hc', hct, _⟩ | h0
      · exact absurd hct (hno c hc')
      · rw [hc, h0, List.append_nil]
    · omega
  have step := fun hheap => h2.mono hp.cfg hheap hp.grow.1 hp.grow.2 hcat
  cases hp with
  | @event _ e rest hheap _ hev =>
    have hmem : e ∈ s.heap := hheap ▸ List.mem_cons_self
    have hsub : ∀ e' ∈ rest, e' ∈ s.heap := fun e' he' => hheap ▸ List.mem_cons_of_mem _ he'
    have hpop : (∀ res tag, e.kind ≠ .result res tag) → CInv ({ s with heap := rest } : Sim J) := h2.pop hheap
    rcases processEvent_cases hev with ⟨x, js', st, rs, hk, hx, hj, rfl⟩ | ⟨st, nat, hk, _, rfl⟩ | ⟨hk, rfl⟩ | ⟨res, tag, hk, _, rfl⟩
    · have hnr : ∀ res tag, e.kind ≠ .result res tag := hk ▸ nofun
      exact (hpop hnr).startRes hA (h1.pop hheap hnr) _ _ _ _ _ _ hx (hjob.job _ _ _ _ _ hq hj).2
    · have hnr : ∀ res tag, e.kind ≠ .result res tag := hk ▸ nofun
      refine (hpop hnr).complete e.trial st nat _ ?_
      rintro r rfl
      refine ⟨h2.fcomp e hmem st r hk, (h2.tot e hmem st r hk).mono (fun ρ hρ => hρ)
        (cat_pop hheap hnr _ _), ?_⟩
      -- a result of the run still in the heap would pop before `e`, the head
      refine List.filterMap_eq_nil_iff.mpr fun e' he' => ?_
      cases hf : tagIdxOf e.trial r e' with
      | none => rfl
      | some i =>
        obtain ⟨res, tag, hke, hte, htr, _⟩ := tagIdxOf_some hf
        have hs := h1.heapOK.sorted
        rw [hheap, List.pairwise_cons] at hs
        exact (keyLt_asymm (hs.1 e' he') (h2.ord e' (hsub e' he') e hmem res tag st hke (htr ▸ hk) hte.symm)).elim
    · exact step (fun e' he' => Or.inl (hsub e' (List.mem_filter.mp he').1)) h2.done
    · exact h2.result hheap res tag hk
  | push tm t hk hk' =>
    exact step (fun e he => ((mem_insertEv _ _ _).mp he).elim (fun h => Or.inr (h ▸ ⟨hk, hk'⟩)) Or.inl) h2.done
  | flags hrv hcr =>
    exact step (fun _ => Or.inl) fun t x' r hx' hcr' =>
      have ⟨x, hx, hxc⟩ := map_get hcr hx'
      h2.done t x r hx (hxc.trans hcr')
  | newTrial =>
    refine step (fun _ => Or.inl) fun u x' r hx' hcr => ?_
    rcases newTrial_get hx' with hx | ⟨_, rfl⟩
    · exact h2.done u x' r hx hcr
    · cases hcr
  | deliver ids =>
    have ht := deliver_map (g := (·.completedRun)) (fun _ d _ => by cases d <;> rfl) s ids
    exact step (fun _ he => Or.inl ((deliver_frame s ids).heap ▸ he)) fun t x' r hx' hcr' =>
      have ⟨x, hx, hxc⟩ := map_get ht hx'
      h2.done t x r hx (hxc.trans hcr')
  | _ => exact step (fun _ => Or.inl) h2.done

section
variable {A : Arith} {job : JobFn J}

theorem CI.advance {s s' : Sim J} {step : Rat} (h : CI s) (ha : s.advance A step = .ok s') : CI s' := by
  obtain ⟨_, rfl⟩ := advance_ok ha
  exact ⟨h.1.frame rfl rfl rfl rfl (fun _ => rfl),
    h.2.of_cat rfl (List.Sublist.refl _) rfl (fun _ => rfl) rfl (cat_frame rfl rfl rfl)⟩

theorem CI.schedule (hA : AddMono A) (hjob : JobSorted job) {s s' : Sim J} {t : Nat} (h : CI s)
    (hs : s.schedule A job t = .ok s') : CI s' :=
  (schedule_path hs).keeps (fun _ _ hp h => CI.prim hA hjob.on _ _ hp trivial h) h

end

theorem CI.run {A : Arith} {job : JobFn TabState} {Q : TabState → Prop} (hA : AddMono A)
    (hjob : SortedOn TabHook Q job) (ops : List SOp) {s s' : TB} (hq : Q s.js) (h : CI s)
    (hs : TB.run A job s ops = .ok s') : CI s' :=
  (run_induct_on (fun _ _ hp => hjob.keeps hp)
    (CI.prim hA hjob)
    (fun _ t q h => ⟨h.1.resumed t q, h.2.resumed t q⟩)
    ops hq h hs).2

theorem CI.init (cfg : SimCfg) (js : TabState) (hd : cfg.dResult ≤ cfg.dCompleteFinal) : CI (TB.init cfg js) := by
  refine ⟨Inv1.init cfg js, hd, ?_, ?_, ?_, ?_⟩
  · intro c hc; simp [TB.init] at hc
  · intro e he; simp [TB.init] at he
  · intro c hc; simp [TB.init] at hc
  · intro t x r hx; simp [TB.init] at hx

/-- `C02.sim_complete` for a general job -/
theorem sim_complete_run {Q : TabState → Prop} (A : Arith) (job : JobFn TabState) (hA : AddMono A)
    (hjob : SortedOn TabHook Q job) (cfg : SimCfg) (js : TabState) (hq : Q js)
    (hd : cfg.dResult ≤ cfg.dCompleteFinal) (ops : List SOp) (s' : TB)
    (h : TB.run A job (TB.init cfg js) ops = .ok s') :
    ∀ (t : Nat) (x : STrial) (r : Nat), s'.trials[t]? = some x → x.completedRun = some r →
      ∃ ρ ∈ s'.runs, ρ.trial = t ∧ ρ.run = r ∧
        logIdx s' t r ++ nextIdx s' t r = List.range ρ.results.length ∧ heapIdx s' t r = [] := by
  intro t x r hx hcr
  obtain ⟨_, ⟨ρ, hρ, h1, h2, h3⟩, h0⟩ := (CI.run hA hjob ops hq (CI.init cfg js hd) h).2.done t x r hx hcr
  refine ⟨ρ, hρ, h1, h2, ?_, h0⟩
  unfold cat at h3
  rwa [h0, List.append_nil] at h3

end SyneTune.SimL
