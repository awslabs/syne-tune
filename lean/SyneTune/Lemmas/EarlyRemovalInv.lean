import SyneTune.Lemmas.EarlyRemoval
/-
What one operation of `Model/EarlyRemoval.lean` does to the books, phrased against the observable
trace entry `(op, output)`; the two invariants that tie the removed map to the status map (`Recorded`, `NoStale`);
one `on_loop_end`; counting checkpoints.
-/
namespace SyneTune.Early

theorem lastTouch_snoc (t : Nat) (tr : List (Op × Out)) (x : Op × Out) :
    lastTouch t (tr ++ [x]) = if touches t x = true then some x else lastTouch t tr := by
  simp only [lastTouch, List.reverse_append, List.reverse_cons, List.reverse_nil, List.nil_append,
    List.singleton_append, List.find?_cons]
  cases touches t x <;> rfl

theorem specStatus_snoc (t : Nat) (tr : List (Op × Out)) (x : Op × Out) :
    specStatus t (tr ++ [x]) = if touches t x = true then some (statusAfter x) else specStatus t tr := by
  unfold specStatus
  rw [lastTouch_snoc]
  split <;> rfl

theorem specRemoved_snoc (t : Nat) (tr : List (Op × Out)) (x : Op × Out) :
    specRemoved t (tr ++ [x]) = if touches t x = true then levelIn t x else specRemoved t tr := by
  unfold specRemoved
  rw [lastTouch_snoc]
  split <;> rfl

theorem specRes_snoc (tr : List (Op × Out)) (x : Op × Out) :
    specRes (tr ++ [x]) = specRes tr ++
      (match x.1 with
       | .resume t => (match specRemoved t tr with | some l => [(t, l)] | none => [])
       | _ => []) := by
  obtain ⟨op, o⟩ := x
  unfold specRes
  simp only [List.reverse_append, List.reverse_cons, List.reverse_nil, List.nil_append, List.singleton_append]
  cases op <;> simp [specResR] <;> rfl

theorem deletedIds_append (a b : List (Op × Out)) : deletedIds (a ++ b) = deletedIds a ++ deletedIds b := by
  induction a with
  | nil => rfl
  | cons x a ih =>
    obtain ⟨op, o⟩ := x
    cases o <;> simp [deletedIds, ih]

theorem lastTouch_touches {t : Nat} {tr : List (Op × Out)} {x : Op × Out} (h : lastTouch t tr = some x) :
    touches t x = true :=
  List.find?_some h

theorem lastTouch_mem {t : Nat} {tr : List (Op × Out)} {x : Op × Out} (h : lastTouch t tr = some x) : x ∈ tr :=
  List.mem_reverse.1 (List.mem_of_find?_eq_some h)

/-- the trace entries that concern `t` and leave it in a given status -/
def LeavesIn (t : Nat) (x : Op × Out) : Status → Prop
  | .running => ∃ o, x = (.start t, o) ∨ x = (.resume t, o) ∨ x = (.result t .continue, o)
  | .pausedCp => ∃ o, x = (.result t .pause, o)
  | .pausedNoCp => ∃ paused picks ids, x = (.loopEnd paused picks, .deleted ids) ∧ t ∈ ids
  | .done => ∃ o, x = (.result t .stop, o) ∨ x = (.complete t, o)

theorem touch_shape {t : Nat} {x : Op × Out} (h : touches t x = true) : LeavesIn t x (statusAfter x) := by
  obtain ⟨op, o⟩ := x
  cases op with
  | result u d => obtain rfl : u = t := by simpa [touches] using h
                  cases d <;> simp [statusAfter, LeavesIn]
  | loopEnd paused picks =>
    cases o with
    | deleted ids => exact ⟨paused, picks, ids, rfl, by simpa [touches] using h⟩
    | _ => cases h
  | _ => simp_all [touches, statusAfter, LeavesIn]

theorem LeavesIn.statusAfter_eq {t : Nat} {x : Op × Out} {st : Status} (h : LeavesIn t x st) : statusAfter x = st := by
  cases st with
  | running => obtain ⟨o, rfl | rfl | rfl⟩ := h <;> rfl
  | pausedCp => obtain ⟨o, rfl⟩ := h; rfl
  | pausedNoCp => obtain ⟨_, _, _, rfl, _⟩ := h; rfl
  | done => obtain ⟨o, rfl | rfl⟩ := h <;> rfl

theorem levelIn_some {t l : Nat} {x : Op × Out} (h : levelIn t x = some l) :
    ∃ paused pk ids, x = (.loopEnd paused (some pk), .deleted ids) ∧ alookup t pk = some l := by
  obtain ⟨op, o⟩ := x
  cases op with
  | loopEnd paused picks =>
    cases picks with
    | some pk => cases o with
      | deleted ids => exact ⟨paused, pk, ids, rfl, h⟩
      | _ => cases h
    | none => cases h
  | _ => cases h

theorem specRemoved_some_status {t : Nat} {tr : List (Op × Out)} {l : Nat} (h : specRemoved t tr = some l) :
    specStatus t tr = some .pausedNoCp := by
  obtain ⟨x, hl, hlev⟩ := Option.bind_eq_some_iff.1 h
  obtain ⟨_, _, _, rfl, -⟩ := levelIn_some hlev
  rw [specStatus, hl]
  rfl

theorem resume_status (s : State) (u : Nat) : (resume s u).status = aset u .running s.status := by
  unfold resume; split <;> rfl

theorem resume_removed (s : State) (u : Nat) : (resume s u).removed = aerase u s.removed := by
  unfold resume
  split
  · rfl
  · next h => exact (aerase_eq_self u s.removed h).symm

theorem result_status (s : State) (u : Nat) (d : Decision) :
    (result s u d).status = aset u (statusAfter (.result u d, .done)) s.status := by
  cases d <;> rfl

theorem step_status (p : Params) (s : State) (op : Op) (t : Nat) :
    (step p s op).1.statusOf t =
      if touches t (op, (step p s op).2) = true then some (statusAfter (op, (step p s op).2)) else s.statusOf t := by
  cases op with
  -- both sides become `if u = t then … else alookup t …`; `eq_comm (a := t)` turns the `t = u` of `alookup_aset` round
  | start u => simp only [step, State.statusOf, alookup_aset, touches, statusAfter, beq_iff_eq, eq_comm (a := t)]
  | resume u =>
    simp only [step, State.statusOf, resume_status, alookup_aset, touches, statusAfter, beq_iff_eq, eq_comm (a := t)]
  | result u d =>
    simp only [step, State.statusOf, result_status, alookup_aset, touches, beq_iff_eq, eq_comm (a := t)]
  | complete u => simp only [step, State.statusOf, alookup_aset, touches, statusAfter, beq_iff_eq, eq_comm (a := t)]
  | loopEnd paused picks =>
    -- stated for every outcome `r` and then applied: `generalize loopEnd … = r` fails on this goal (not type correct)
    have aux : ∀ r, LoopEndCase p s paused picks r → r.1.statusOf t =
        if touches t (.loopEnd paused picks, r.2) = true then some (statusAfter (.loopEnd paused picks, r.2))
        else s.statusOf t := by
      intro r hc
      cases hc with
      | removed h hne pk hp hlen hmem hnd =>
        simp only [foldl_removeCp_status, touches, statusAfter, List.contains_iff_mem]
      | _ => simp [touches]
    exact aux _ (loopEnd_cases p s paused picks)

/-- what the two clauses of `OpOK` about single trials give, in terms of the removed map -/
def OpOKr (s : State) : Op → Prop
  | .start t => alookup t s.removed = none
  | .result t .continue => alookup t s.removed = none
  | _ => True

/-- no stale entry in `_trials_with_checkpoints_removed`.  The converse of `Recorded`; unlike it, kept only under the
contract (`C20Early.start_clause_counterexample`) -/
def NoStale (s : State) : Prop := ∀ t, s.statusOf t ≠ some .pausedNoCp → alookup t s.removed = none

theorem noStale_of_exact {s : State} {tr : List (Op × Out)} (hs : ∀ t, s.statusOf t = specStatus t tr)
    (hr : ∀ t, alookup t s.removed = specRemoved t tr) : NoStale s := fun t ht =>
  Option.eq_none_iff_forall_ne_some.2 fun _ hl => ht ((hs t).trans (specRemoved_some_status ((hr t).symm.trans hl)))

theorem OpOKr.of_opOK {s : State} (hI : NoStale s) {op : Op} (hok : OpOK s op) : OpOKr s op := by
  cases op with
  | start u => exact hI u hok
  | result u d =>
    cases d with
    | «continue» => exact hI u hok
    | _ => trivial
  | _ => trivial

theorem step_removed (p : Params) (s : State) (op : Op) (t : Nat)
    (hok : touches t (op, (step p s op).2) = true → OpOKr s op) :
    alookup t (step p s op).1.removed =
      if touches t (op, (step p s op).2) = true then levelIn t (op, (step p s op).2) else alookup t s.removed := by
  -- `start` and a result answered CONTINUE leave the map alone, where their trial has no entry by `hok`
  have keep : ∀ u, (u = t → alookup u s.removed = none) →
      alookup t s.removed = if u = t then none else alookup t s.removed := by
    intro u hu; split
    · next h => exact h ▸ hu h
    · rfl
  cases op with
  | start u => simpa only [step, touches, levelIn, beq_iff_eq] using keep u (by simpa [touches, OpOKr] using hok)
  | resume u => simp only [step, resume_removed, alookup_aerase, touches, levelIn, beq_iff_eq, eq_comm (a := t)]
  | result u d =>
    cases d with
    | «continue» =>
      simpa only [step, result, touches, levelIn, beq_iff_eq] using keep u (by simpa [touches, OpOKr] using hok)
    | _ => simp only [step, result, alookup_aerase, touches, levelIn, beq_iff_eq, eq_comm (a := t)]
  | complete u => simp only [step, alookup_aerase, touches, levelIn, beq_iff_eq, eq_comm (a := t)]
  | loopEnd paused picks =>
    have aux : ∀ r, LoopEndCase p s paused picks r → alookup t r.1.removed =
        if touches t (.loopEnd paused picks, r.2) = true then levelIn t (.loopEnd paused picks, r.2)
        else alookup t s.removed := by
      intro r hc
      cases hc with
      | removed h hne pk hp hlen hmem hnd =>
        subst hp
        simp only [foldl_removeCp_removed _ _ _ hnd, touches, levelIn, List.contains_iff_mem]
      | _ => simp [touches]
    exact aux _ (loopEnd_cases p s paused picks)

/-- PAUSED_NO_CHECKPOINT ⇒ recorded in the removed map (so the trial is filtered out of the
candidates) -/
def Recorded (s : State) : Prop := ∀ t, s.statusOf t = some .pausedNoCp → ∃ l, alookup t s.removed = some l

/-- kept by every operation, no contract: only a loop end makes a trial PAUSED_NO_CHECKPOINT, and it
records it; an entry goes only when its trial gets another status -/
theorem step_recorded (p : Params) (s : State) (op : Op) (hI : Recorded s) : Recorded (step p s op).1 := by
  intro t ht
  rw [step_status] at ht
  by_cases htc : touches t (op, (step p s op).2) = true
  · rw [if_pos htc] at ht
    obtain ⟨paused, picks, ids, hx, hm⟩ : LeavesIn t _ .pausedNoCp := Option.some.inj ht ▸ touch_shape htc
    obtain ⟨rfl, ho⟩ := Prod.mk.inj hx
    rw [step_removed p s (.loopEnd paused picks) t fun _ => trivial, if_pos htc, ho]
    obtain ⟨_, rfl, _⟩ | ⟨pk, hr⟩ := loopEnd_deleted_inv ho
    · cases hm
    · obtain rfl := hr.picks_eq
      obtain rfl := hr.ids_eq
      exact Option.ne_none_iff_exists'.1 fun h => alookup_eq_none_iff.1 h hm
  · rw [if_neg htc] at ht
    rw [step_removed p s op t fun h => absurd h htc, if_neg htc]
    exact hI t ht

theorem step_keys_nodup (p : Params) (s : State) (op : Op) (h : (s.status.map (·.1)).Nodup) :
    ((step p s op).1.status.map (·.1)).Nodup := by
  cases op with
  | start u => exact nodup_keys_aset _ _ h
  | resume u => simp only [step, resume_status]; exact nodup_keys_aset _ _ h
  | result u d => simp only [step, result_status]; exact nodup_keys_aset _ _ h
  | complete u => exact nodup_keys_aset _ _ h
  | loopEnd paused picks =>
    simp only [step]
    have hc := loopEnd_cases p s paused picks
    generalize loopEnd p s paused picks = r at hc ⊢
    cases hc with
    | removed hh hne pk hp hlen hmem hnd => exact foldl_removeCp_keys_nodup _ _ h
    | _ => exact h

theorem step_counters (p : Params) (s : State) (op : Op) :
    (step p s op).1.numResumed = s.numResumed + (if isResume op = true then 1 else 0) ∧
    (step p s op).1.numRemoved = s.numRemoved + (deletedIds [(op, (step p s op).2)]).length ∧
    (step p s op).1.resumedNoCp = s.resumedNoCp ++
      (match op with
       | .resume t => (match alookup t s.removed with | some l => [(t, l)] | none => [])
       | _ => []) := by
  cases op with
  | resume u =>
    simp only [step, resume]
    split <;> exact ⟨rfl, rfl, by simp [*]⟩
  | result u d => cases d <;> exact ⟨rfl, rfl, (List.append_nil _).symm⟩
  | loopEnd paused picks =>
    simp only [step]
    have hc := loopEnd_cases p s paused picks
    generalize loopEnd p s paused picks = r at hc ⊢
    cases hc with
    | removed hh hne pk hp hlen hmem hnd =>
      exact ⟨foldl_removeCp_frame (·.numResumed) (fun _ _ => rfl) pk s,
        by simp [foldl_removeCp_numRemoved, deletedIds],
        (foldl_removeCp_frame (·.resumedNoCp) (fun _ _ => rfl) pk s).trans (List.append_nil _).symm⟩
    | _ => exact ⟨rfl, rfl, (List.append_nil _).symm⟩
  | _ => exact ⟨rfl, rfl, (List.append_nil _).symm⟩

theorem isPausedStatus_iff {o : Option Status} :
    isPausedStatus o = true ↔ o = some .pausedCp ∨ o = some .pausedNoCp := by
  rcases o with _ | st
  · simp [isPausedStatus]
  · cases st <;> simp [isPausedStatus]

theorem loopEnd_deleted_nodup {p : Params} {s : State} {paused : List (Nat × Nat)} {picks : Option (List (Nat × Nat))}
    {ids : List Nat} (hout : (loopEnd p s paused picks).2 = .deleted ids) : ids.Nodup := by
  obtain ⟨_, rfl, _⟩ | ⟨pk, hr⟩ := loopEnd_deleted_inv hout
  · exact List.nodup_nil
  · exact hr.ids_eq ▸ hr.nodup

theorem loopEnd_deleted_pausedCp {p : Params} {s : State} {paused : List (Nat × Nat)} {picks : Option (List (Nat × Nat))}
    (hI : Recorded s) (hok : OpOK s (.loopEnd paused picks)) {ids : List Nat}
    (hout : (loopEnd p s paused picks).2 = .deleted ids) : ∀ t ∈ ids, s.statusOf t = some .pausedCp := by
  obtain ⟨_, rfl, _⟩ | ⟨pk, hr⟩ := loopEnd_deleted_inv hout
  · exact fun _ h => absurd h List.not_mem_nil
  · intro t ht
    obtain ⟨e, he, rfl⟩ := List.mem_map.1 (hr.ids_eq ▸ ht)
    -- listed by the scheduler, hence paused; not in the removed map, hence not PAUSED_NO_CHECKPOINT
    obtain ⟨hp1, hp2⟩ := mem_filterPaused.1 (hr.mem e he)
    rcases isPausedStatus_iff.1 (hok e hp1) with h | h
    · exact h
    · obtain ⟨l, hl⟩ := hI e.1 h
      rw [hp2] at hl; cases hl

theorem loopEnd_deleted_level {p : Params} {s : State} {paused pk : List (Nat × Nat)} {ids : List Nat} {t l : Nat}
    (hout : (loopEnd p s paused (some pk)).2 = .deleted ids) (ht : t ∈ ids) (hl : alookup t pk = some l) :
    (t, l) ∈ paused := by
  obtain ⟨_, rfl, _⟩ | ⟨pk', hr⟩ := loopEnd_deleted_inv hout
  · cases ht
  · cases hr.picks_eq
    exact (mem_filterPaused.1 (hr.mem _ (mem_of_alookup hl))).1

theorem loopEnd_count {p : Params} {s : State} {paused : List (Nat × Nat)} {picks : Option (List (Nat × Nat))}
    (hI : Recorded s) (hok : OpOK s (.loopEnd paused picks)) {ids : List Nat}
    (hout : (loopEnd p s paused picks).2 = .deleted ids) :
    (excess p s ≤ 0 → (loopEnd p s paused picks).1 = s ∧ ids = []) ∧
    (0 < excess p s →
      countCp (loopEnd p s paused picks).1 + min (excess p s).toNat (filterPaused s paused).length = countCp s ∧
      numRunning (loopEnd p s paused picks).1 = numRunning s ∧
      ids.length = min (excess p s).toNat (filterPaused s paused).length) := by
  obtain ⟨hle, rfl, hs⟩ | ⟨pk, hr⟩ := loopEnd_deleted_inv hout
  · exact ⟨fun _ => ⟨hs, rfl⟩, fun hex => absurd hle (Int.not_le.2 hex)⟩
  · refine ⟨fun hex => absurd hr.beyond (Int.not_lt.2 hex), fun _ => ?_⟩
    have hst : ∀ e ∈ pk, s.statusOf e.1 = some .pausedCp := fun e he =>
      loopEnd_deleted_pausedCp hI hok hout e.1 (hr.ids_eq ▸ List.mem_map.2 ⟨e, he, rfl⟩)
    obtain ⟨c1, c2⟩ := foldl_removeCp_count pk _ hr.nodup hst
    rw [hr.state_eq, hr.ids_eq, List.length_map]
    exact ⟨hr.length_eq ▸ c1, c2, hr.length_eq⟩

/-- `hasCp` without `isRunning`: the summand `countCp_split` splits off -/
def isPausedCp : Status → Bool
  | .pausedCp => true
  | _ => false

theorem countCp_split (s : State) :
    countCp s = numRunning s + s.status.countP (fun e => isPausedCp e.2) := by
  unfold countCp numRunning
  induction s.status with
  | nil => rfl
  | cons e l ih =>
    obtain ⟨k, st⟩ := e
    simp only [List.countP_cons, ih]
    cases st <;> simp [hasCp, isRunning, isPausedCp] <;> omega

/-- every PAUSED_WITH_CHECKPOINT trial is in the filtered list: what holds a checkpoint is running or on offer -/
theorem countCp_le_filtered (s : State) (paused : List (Nat × Nat)) (hn : (s.status.map (·.1)).Nodup)
    (hI2 : NoStale s)
    (hcomp : Complete s paused) :
    countCp s ≤ numRunning s + (filterPaused s paused).length := by
  rw [countCp_split]
  refine Nat.add_le_add_left ?_ _
  have hlen : s.status.countP (fun e => isPausedCp e.2) =
      ((s.status.filter (fun e => isPausedCp e.2)).map (·.1)).length := by
    rw [List.length_map, List.countP_eq_length_filter]
  rw [hlen, ← List.length_map (f := fun e : Nat × Nat => e.1) (as := filterPaused s paused)]
  refine List.Nodup.length_le_of_subset (List.Nodup.sublist (List.filter_sublist.map _) hn) fun t ht => ?_
  obtain ⟨⟨k, st⟩, he, rfl⟩ := List.mem_map.1 ht
  obtain ⟨he1, he2⟩ := List.mem_filter.1 he
  obtain rfl : st = .pausedCp := by cases st <;> simp [isPausedCp] at he2 ⊢
  have hlook : s.statusOf k = some .pausedCp := alookup_of_mem hn he1
  obtain ⟨l, hl⟩ := hcomp k hlook
  exact List.mem_map.2 ⟨(k, l), mem_filterPaused.2 ⟨hl, hI2 k (by rw [hlook]; nofun)⟩, rfl⟩

/-- the arithmetic of one removal round: of `c` checkpoints beyond the limit `m`, `min (c - m) F` go; if
what holds a checkpoint is one of `r` running trials or one of the `F` on offer, at most `max m r` stay -/
theorem round_le {c c' r F : Nat} {m : Int} (d : c' + min ((c : Int) - m).toNat F = c) (hex : 0 < (c : Int) - m)
    (hle : c ≤ r + F) : (c' : Int) ≤ max m r := by omega

theorem loopEnd_promise {p : Params} {s : State} {paused : List (Nat × Nat)} {picks : Option (List (Nat × Nat))}
    (hn : (s.status.map (·.1)).Nodup) (hI : Recorded s) (hI2 : NoStale s) (hok : OpOK s (.loopEnd paused picks))
    (hcomp : Complete s paused) {ids : List Nat} (hout : (loopEnd p s paused picks).2 = .deleted ids) :
    (countCp (loopEnd p s paused picks).1 : Int) ≤ max p.maxCp (numRunning (loopEnd p s paused picks).1) := by
  obtain ⟨c0, c1⟩ := loopEnd_count hI hok hout
  have hle := countCp_le_filtered s paused hn hI2 hcomp
  by_cases hex : excess p s ≤ 0
  · rw [(c0 hex).1]
    unfold excess at hex
    omega
  · obtain ⟨d1, d2, _⟩ := c1 (Int.not_le.1 hex)
    exact d2 ▸ round_le d1 (Int.not_le.1 hex) hle

/-- `Complete` with the quantifier bounded by the status map (hence decidable) -/
theorem complete_iff (s : State) (paused : List (Nat × Nat)) :
    Complete s paused ↔
      ∀ e ∈ s.status, s.statusOf e.1 = some .pausedCp → ∃ q ∈ paused, q.1 = e.1 := by
  constructor
  · intro hc e _ hs
    obtain ⟨l, hl⟩ := hc e.1 hs
    exact ⟨(e.1, l), hl, rfl⟩
  · intro hb t ht
    obtain ⟨⟨_, l⟩, hq, rfl⟩ := hb (t, .pausedCp) (mem_of_alookup ht) ht
    exact ⟨l, hq⟩

instance (s : State) (paused : List (Nat × Nat)) : Decidable (Complete s paused) :=
  decidable_of_iff _ (complete_iff s paused).symm

end SyneTune.Early
