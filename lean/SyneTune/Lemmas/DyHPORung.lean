import SyneTune.Model.DyHPO
import SyneTune.Lemmas.HBContractK
/-
DyHPO rung system: what `DyHPORungSystem.on_task_schedule` (`RungSys.dyhpoSchedule`) changes.
Both ways it can promote a trial (the successive-halving scan, the searcher's pick) mark ONE
not-yet-promoted entry of ONE rung as promoted (`MarkStep`); nothing else changes.  So its answer is a
`MgrSchedEff` like the promotion scan's, `afterSchedule_KInv` applies, and the scheduler invariant `KInv`
(contract K of `Props/C04K.lean`) holds under `suggestDy`.
-/
namespace SyneTune.DyHPO
open SyneTune

theorem pausedEntries_tids (next : Nat) (l : List Entry) (pos : Nat) :
    (pausedEntries next l pos).map (·.1) = (l.filter (fun e => !e.promoted)).map (·.tid) := by
  induction l generalizing pos with
  | nil => rfl
  | cons e es ih =>
    unfold pausedEntries
    cases hp : e.promoted <;> simp [hp, ih]

theorem pausedScan_tids (next : Nat) (rs : List Rung) :
    (pausedScan next rs).map (·.1) = unpromotedOf rs := by
  induction rs generalizing next with
  | nil => rfl
  | cons rg rest ih =>
    unfold pausedScan
    rw [List.map_append, pausedEntries_tids, ih]
    rfl

theorem findPaused_some (t : Nat) (l : List (Nat × Nat × Nat)) (p : Nat × Nat × Nat)
    (h : findPaused t l = some p) : p ∈ l ∧ p.1 = t := by
  unfold findPaused at h
  have h1 := List.mem_of_find?_eq_some h
  have h2 := List.find?_some h
  exact ⟨h1, by simpa using h2⟩

theorem prevLevelPairs_levels (next : Nat) (rs : List Rung) (ms rf : Nat)
    (h : alookup ms (prevLevelPairs next rs) = some rf) :
    ∃ rg ∈ rs, rg.level = rf := by
  induction rs generalizing next with
  | nil => simp [prevLevelPairs, alookup] at h
  | cons rg rest ih =>
    unfold prevLevelPairs alookup at h
    by_cases hk : ms = next
    · simp only [hk, if_true, Option.some.injEq] at h
      exact ⟨rg, by simp, h⟩
    · simp only [hk, if_false] at h
      obtain ⟨rg2, hrg2, hl2⟩ := ih rg.level h
      exact ⟨rg2, List.mem_cons_of_mem _ hrg2, hl2⟩

/-- `_previous_rung_level[milestone] = resume_from` and the first rung of level `resume_from`
is at position `i`: the milestone is the level right above position `i` (or `max_t`) -/
theorem prevLevelPairs_nextAbove (next : Nat) (rs : List Rung) (ms rf i : Nat)
    (hd : RungsDecr rs) (h1 : alookup ms (prevLevelPairs next rs) = some rf) (h2 : rungPos rs rf = some i) :
    ms = nextAbove rs i next := by
  induction rs generalizing next i with
  | nil => simp [prevLevelPairs, alookup] at h1
  | cons rg rest ih =>
    unfold RungsDecr at hd
    rw [List.pairwise_cons] at hd
    unfold prevLevelPairs alookup at h1
    rw [rungPos_cons] at h2
    by_cases hk : ms = next
    · simp only [hk, if_true, Option.some.injEq] at h1
      simp only [h1, if_true, Option.some.injEq] at h2
      subst h2
      rw [hk]; simp [nextAbove]
    · simp only [hk, if_false] at h1
      obtain ⟨rg2, hrg2, hl2⟩ := prevLevelPairs_levels rg.level rest ms rf h1
      have hne : rg.level ≠ rf := by have := hd.1 rg2 hrg2; omega
      simp only [hne, if_false] at h2
      cases hj : rungPos rest rf with
      | none => simp [hj] at h2
      | some j =>
        simp only [hj, Option.map_some, Option.some.injEq] at h2
        subst h2
        obtain ⟨rgj, hget, _, _⟩ := rungPos_some rest rf j hj
        have hjl : j < rest.length := (List.getElem?_eq_some_iff.mp hget).1
        rw [nextAbove_cons_succ rg rest j next hjl]
        exact ih rg.level j hd.2 h1 hj

/-- what an accepted `dyhpoPromote m t` found; the paused-list item `p` is (trial, position in the rung, milestone) -/
structure DyPromoted (s s' : RungSys) (m : Mode) (t : Nat) (o : SchedOut) (p : Nat × Nat × Nat) (i : Nat) (rg : Rung)
    (e : Entry) : Prop where
  paused : findPaused t s.pausedTrials = some p
  prev : alookup o.milestone (prevLevelPairs s.maxT s.rungs) = some o.resumeFrom
  pos : rungPos s.rungs o.resumeFrom = some i
  rung : s.rungs[i]? = some rg
  entry : rg.data[p.2.1]? = some e
  unpromoted : e.promoted = false
  tid : e.tid = t
  trial : o.trial = t
  eq : s' = { s with rungs := s.rungs.set i (markPromoted m rg p.2.1) }

theorem dyhpoPromote_spec {s s' : RungSys} {m : Mode} {t : Nat} {o : SchedOut}
    (h : s.dyhpoPromote m t = .ok (s', o)) : ∃ p i rg e, DyPromoted s s' m t o p i rg e := by
  unfold RungSys.dyhpoPromote at h
  split at h
  · cases h
  · rename_i p hf
    split at h
    · cases h
    · rename_i rf hl
      split at h
      · cases h
      · rename_i i hr
        split at h
        · cases h
        · rename_i rg hg
          split at h
          · cases h
          · rename_i e hd
            split at h
            · cases h
            · rename_i hp
              split at h
              · cases h
              · rename_i ht
                cases h
                exact ⟨p, i, rg, e, hf, hl, hr, hg, hd, by simpa using hp, by simpa using ht, rfl, rfl⟩

theorem dyhpoPromote_eff (s s' : RungSys) (m : Mode) (t : Nat) (o : SchedOut)
    (h : s.dyhpoPromote m t = .ok (s', o)) : SchedEff m s s' (some o) := by
  obtain ⟨p, i, rg, e, sp⟩ := dyhpoPromote_spec h
  obtain ⟨rg0, g1, g2, _⟩ := rungPos_some s.rungs o.resumeFrom i sp.pos
  rw [sp.rung] at g1; cases g1
  obtain ⟨pre, post, k1, k3⟩ := split_of_getElem? s.rungs i rg sp.rung
  rw [sp.eq]
  refine ⟨rfl, rfl, nofun, fun o' ho' => ?_⟩
  cases ho'
  exact ⟨⟨pre, rg, post, p.2.1, e, k1, k3 _, sp.entry, by rw [sp.tid, sp.trial], sp.unpromoted, g2⟩,
    fun hd j hj => prevLevelPairs_nextAbove s.maxT s.rungs _ _ j hd sp.prev hj⟩

/-- the rung system after the optional successive-halving attempt of `dyhpoSchedule` -/
def shStage (s : RungSys) (m : Mode) (sh : Bool) (hint : Option Nat) : RungSys × Option SchedOut × Bool :=
  if sh then s.promoSchedule .promotion m hint else (s, none, false)

theorem shStage_eff (s : RungSys) (m : Mode) (sh : Bool) (hint : Option Nat) :
    SchedEff m s (shStage s m sh hint).1 (shStage s m sh hint).2.1 := by
  cases sh with
  | false => exact ⟨rfl, rfl, fun _ => rfl, nofun⟩
  | true => exact promoSchedule_eff s .promotion m hint

/-- `dyhpoSchedule` with the successive-halving attempt named (`shStage`) -/
theorem dyhpoSchedule_eq (s : RungSys) (m : Mode) (sh : Bool) (hint pick : Option Nat) :
    s.dyhpoSchedule m sh hint pick =
      match (shStage s m sh hint).2.1 with
      | some o => .ok ((shStage s m sh hint).1, some o, (shStage s m sh hint).2.2)
      | none => match pick with
        | none => .ok ((shStage s m sh hint).1, none, (shStage s m sh hint).2.2)
        | some t => match (shStage s m sh hint).1.dyhpoPromote m t with
          | .error e => .error e
          | .ok res => .ok (res.1, some res.2, (shStage s m sh hint).2.2) := rfl

theorem dyhpoSchedule_cases (s s' : RungSys) (m : Mode) (sh : Bool) (hint pick : Option Nat)
    (so : Option SchedOut) (fr : Bool) (h : s.dyhpoSchedule m sh hint pick = .ok (s', so, fr)) :
    (s' = (shStage s m sh hint).1 ∧ so = (shStage s m sh hint).2.1 ∧ (so = none → pick = none)) ∨
    (∃ t o, (shStage s m sh hint).2.1 = none ∧ pick = some t ∧ so = some o ∧
      (shStage s m sh hint).1.dyhpoPromote m t = .ok (s', o)) := by
  rw [dyhpoSchedule_eq] at h
  split at h
  · rename_i o ho
    cases h
    exact Or.inl ⟨rfl, ho.symm, nofun⟩
  · rename_i ho
    split at h
    · cases h
      exact Or.inl ⟨rfl, ho.symm, fun _ => rfl⟩
    · rename_i t
      split at h
      · cases h
      · rename_i res hp
        cases h
        exact Or.inr ⟨t, res.2, ho, rfl, rfl, hp⟩

theorem dyhpoSchedule_eff (s s' : RungSys) (m : Mode) (sh : Bool) (hint pick : Option Nat)
    (so : Option SchedOut) (fr : Bool) (h : s.dyhpoSchedule m sh hint pick = .ok (s', so, fr)) :
    SchedEff m s s' so := by
  have hst := shStage_eff s m sh hint
  rcases dyhpoSchedule_cases s s' m sh hint pick so fr h with ⟨rfl, rfl, _⟩ | ⟨t, o, hn, _, rfl, hp⟩
  · exact hst
  · rw [hn] at hst
    exact hst.of_same (dyhpoPromote_eff _ s' m t o hp)

theorem taskScheduleDy_cases (g g' : Manager) (b : Nat) (sh : Bool) (hint pick : Option Nat) (so : Option SchedOut)
    (ms : Nat) (fr : Bool) (h : g.taskScheduleDy b sh hint pick = .ok (g', so, ms, fr)) :
    g.type = .promotion ∧ ∃ sys sys', g.systems[(g.sysFor b).1]? = some sys ∧
      sys.dyhpoSchedule g.mode sh hint pick = .ok (sys', so, fr) ∧ g' = g.setSys (g.sysFor b).1 sys' ∧
      ms = match so with | some o => o.milestone | none => sys.firstMilestone (g.sysFor b).2 := by
  unfold Manager.taskScheduleDy at h
  split at h
  · cases h
  · rename_i hty
    split at h
    · cases h
    · rename_i sys hs
      split at h
      · cases h
      · rename_i res hd
        refine ⟨by simpa using hty, sys, res.1, hs, ?_⟩
        split at h
        · rename_i o ho; cases h; exact ⟨by rw [hd, ← ho], rfl, rfl⟩
        · rename_i ho; cases h; exact ⟨by rw [hd, ← ho], rfl, rfl⟩

theorem taskScheduleDy_eff {g g' : Manager} {b : Nat} {sh : Bool} {hint pick : Option Nat} {so : Option SchedOut}
    {ms : Nat} {fr : Bool} (h : g.taskScheduleDy b sh hint pick = .ok (g', so, ms, fr)) : MgrSchedEff g g' so := by
  obtain ⟨hty, sys, sys', hs, hd, rfl, _⟩ := taskScheduleDy_cases g g' b sh hint pick so ms fr h
  exact .inr ⟨_, sys, sys', by rw [hty]; rfl, hs, rfl, dyhpoSchedule_eff sys sys' g.mode sh hint pick so fr hd⟩

theorem suggestDy_ok {s s' : Sched} {n b : Nat} {sh : Bool} {hint pick : Option Nat} {sg : Suggestion}
    {calls : List SCall} {fr : Bool} (h : s.suggestDy n b sh hint pick = .ok (s', sg, calls, fr)) :
    ∃ g so ms fr0, s.mgr.taskScheduleDy b sh hint pick = .ok (g, so, ms, fr0) ∧
      s.afterSchedule g so n b ms fr0 = .ok (s', sg, calls, fr) := by
  unfold Sched.suggestDy at h
  split at h
  · cases h
  · rename_i res hres
    obtain ⟨g, so, ms, fr0⟩ := res
    exact ⟨g, so, ms, fr0, hres, by cases so <;> exact h⟩

theorem suggestDy_KInv (s s' : Sched) (newTid bracket : Nat) (sh : Bool) (hint pick : Option Nat)
    (sg : Suggestion) (calls : List SCall) (fr : Bool) (hinv : KInv s)
    (h : s.suggestDy newTid bracket sh hint pick = .ok (s', sg, calls, fr)) :
    KInv s' ∧ (∀ t f m, sg = .resume t f m → NotRunning s t) ∧
    (∀ t b m, sg = .start t b m → alookup t s.active = none) := by
  obtain ⟨g, so, ms, fr0, hts, ha⟩ := suggestDy_ok h
  exact afterSchedule_KInv hinv (taskScheduleDy_eff hts) ha

end SyneTune.DyHPO
