import SyneTune.Lemmas.GP
import Mathlib.Analysis.SpecialFunctions.ExpDeriv
import Mathlib.Analysis.Calculus.Deriv.Inv
import Mathlib.Analysis.Calculus.Deriv.Pow
import Mathlib.Analysis.Calculus.Deriv.MeanValue
/-
Helper lemmas for C09: the Gaussian density `φ`, the function `u Φ(u) + φ(u)` of expected
improvement, its derivative, its sign; the EI / LCB heads of `meanstd_acqfunc_impl.py` as functions
of the predictive means / standard deviation, and the derivative of one fantasy column of EI along
a differentiable curve of these.

`Φ` is abstract: the code's `0.5 * erfc(-u / sqrt(2))` is trusted to satisfy `Φ' = φ`
(and `Φ → 0` at `-∞` for the sign statement).
-/
namespace SyneTune.EI
open SyneTune.GP Filter Topology

/-- `phi = np.exp(-0.5 * u**2) / np.sqrt(2 * np.pi)` -/
noncomputable def phi (u : ℝ) : ℝ := Real.exp (-(1 / 2) * u ^ 2) / Real.sqrt (2 * Real.pi)

theorem sqrt_two_pi_pos : 0 < Real.sqrt (2 * Real.pi) :=
  Real.sqrt_pos.mpr (by positivity)

theorem phi_pos (u : ℝ) : 0 < phi u := div_pos (Real.exp_pos _) sqrt_two_pi_pos

theorem phi_hasDerivAt (u : ℝ) : HasDerivAt phi (-u * phi u) u := by
  have h := (((hasDerivAt_pow 2 u).const_mul (-(1 / 2))).exp).div_const (Real.sqrt (2 * Real.pi))
  refine h.congr_deriv ?_
  unfold phi
  simp only [Nat.cast_ofNat, Nat.add_one_sub_one, pow_one]
  ring

theorem phi_le (u : ℝ) : phi u ≤ 1 / Real.sqrt (2 * Real.pi) := by
  unfold phi
  apply div_le_div_of_nonneg_right _ sqrt_two_pi_pos.le
  rw [Real.exp_le_one_iff]
  linarith [sq_nonneg u]

section g
variable (Φ : ℝ → ℝ)

/-- `g u = u Φ(u) + φ(u)` (a name of these comments only; the statements spell it out) is expected improvement
in units of the standard deviation (`EI = σ · g(u)`); `g' = Φ`, since `φ' = -u φ` cancels `u Φ'` -/
theorem g_hasDerivAt (hΦ : ∀ u, HasDerivAt Φ (phi u) u) (u : ℝ) :
    HasDerivAt (fun u => u * Φ u + phi u) (Φ u) u := by
  have h : HasDerivAt (fun u => u * Φ u + phi u) (1 * Φ u + u * phi u + -u * phi u) u :=
    ((hasDerivAt_id' u).fun_mul (hΦ u)).fun_add (phi_hasDerivAt u)
  refine h.congr_deriv ?_
  ring

/-- `Φ` is monotone and tends to `0` at `−∞`, hence non-negative -/
theorem Phi_nonneg (hΦ : ∀ u, HasDerivAt Φ (phi u) u) (hlim : Tendsto Φ atBot (𝓝 0)) (u : ℝ) :
    0 ≤ Φ u := by
  have hmono : Monotone Φ := by
    apply monotone_of_deriv_nonneg (fun x => (hΦ x).differentiableAt)
    intro x; rw [(hΦ x).deriv]; exact (phi_pos x).le
  exact le_of_tendsto hlim ((eventually_le_atBot u).mono fun y hy => hmono hy)

/-- Mills-ratio bound `(-u) Φ(u) ≤ φ(u)` for `u < 0`. -/
theorem mills (hΦ : ∀ u, HasDerivAt Φ (phi u) u) (hlim : Tendsto Φ atBot (𝓝 0)) {u : ℝ} (hu : u < 0) :
    -u * Φ u ≤ phi u := by
  -- r(y) = φ(y)/(−y) − Φ(y) is monotone on (−∞, 0) and tends to 0 at −∞
  let r : ℝ → ℝ := fun y => phi y / (-y) - Φ y
  have hr : ∀ y, y < 0 → HasDerivAt r (phi y / y ^ 2) y := by
    intro y hy
    have hne : -y ≠ 0 := by linarith
    have h1 : HasDerivAt (fun y => phi y / (-y) - Φ y)
        ((-y * phi y * (-y) - phi y * (-1)) / (-y) ^ 2 - phi y) y :=
      ((phi_hasDerivAt y).fun_div (hasDerivAt_neg' y) hne).fun_sub (hΦ y)
    refine h1.congr_deriv ?_
    have hy2 : y ≠ 0 := ne_of_lt hy
    field_simp
    ring
  have hmono : MonotoneOn r (Set.Iio 0) := by
    apply monotoneOn_of_deriv_nonneg (convex_Iio 0)
    · intro y hy
      exact (hr y hy).continuousAt.continuousWithinAt
    · rw [interior_Iio]
      intro y hy
      exact (hr y hy).differentiableAt.differentiableWithinAt
    · rw [interior_Iio]
      intro y hy
      rw [(hr y hy).deriv]
      exact div_nonneg (phi_pos y).le (sq_nonneg y)
  have hlim_r : Tendsto r atBot (𝓝 0) := by
    have h1 : Tendsto (fun y : ℝ => phi y / (-y)) atBot (𝓝 0) := by
      have hb : Tendsto (fun y : ℝ => (1 / Real.sqrt (2 * Real.pi)) / (-y)) atBot (𝓝 0) :=
        tendsto_neg_atBot_atTop.const_div_atTop _
      apply squeeze_zero' _ _ hb
      · filter_upwards [eventually_lt_atBot (0 : ℝ)] with y hy
        exact div_nonneg (phi_pos y).le (by linarith)
      · filter_upwards [eventually_lt_atBot (0 : ℝ)] with y hy
        exact div_le_div_of_nonneg_right (phi_le y) (by linarith)
    have := h1.sub hlim
    simpa using this
  have h0 : 0 ≤ r u := by
    apply le_of_tendsto hlim_r
    filter_upwards [eventually_le_atBot u] with y hy
    exact hmono (lt_of_le_of_lt hy hu) hu hy
  have hpos : 0 < -u := by linarith
  have : Φ u ≤ phi u / (-u) := by
    have : 0 ≤ phi u / (-u) - Φ u := h0
    linarith
  calc -u * Φ u ≤ -u * (phi u / (-u)) := mul_le_mul_of_nonneg_left this hpos.le
    _ = phi u := by have hu0 : u ≠ 0 := ne_of_lt hu; field_simp

/-- **expected improvement is non-negative**: `u Φ(u) + φ(u) ≥ 0` for every `u`, from
`Φ' = φ` and `Φ → 0` at `−∞` alone. -/
theorem g_nonneg (hΦ : ∀ u, HasDerivAt Φ (phi u) u) (hlim : Tendsto Φ atBot (𝓝 0)) (u : ℝ) :
    0 ≤ u * Φ u + phi u := by
  rcases lt_or_ge u 0 with hu | hu
  · have := mills Φ hΦ hlim hu
    linarith
  · have := mul_nonneg hu (Phi_nonneg Φ hΦ hlim u)
    have := phi_pos u
    linarith

end g

/-- the EI head as a function of the predictive means `μ` (one per fantasy column) and the
standard deviation `s`: `get_quantiles` without the clamp of `s`, followed by `_compute_head_and_gradient`. -/
noncomputable def eiHeadAt (Φ : ℝ → ℝ) {nf : ℕ} (best : Fin nf → ℝ) (jit : ℝ) (μ : Fin nf → ℝ) (s : ℝ) :
    HeadGrad ℝ nf :=
  eiHeadGrad s (fun j => eiU (best j) (μ j) jit s) (fun j => Φ (eiU (best j) (μ j) jit s))
    (fun j => phi (eiU (best j) (μ j) jit s))

/-- the same for `_compute_head` (value only) -/
noncomputable def eiValueAt (Φ : ℝ → ℝ) {nf : ℕ} (best : Fin nf → ℝ) (jit : ℝ) (μ : Fin nf → ℝ) (s : ℝ) : ℝ :=
  eiHead s (fun j => eiU (best j) (μ j) jit s) (fun j => Φ (eiU (best j) (μ j) jit s))
    (fun j => phi (eiU (best j) (μ j) jit s))

section fields
variable (Φ : ℝ → ℝ) {nf : ℕ} (best : Fin nf → ℝ) (jit : ℝ) (μ : Fin nf → ℝ) (s : ℝ)

theorem eiHeadAt_hval : (eiHeadAt Φ best jit μ s).hval =
    -((∑ j, s * (eiU (best j) (μ j) jit s * Φ (eiU (best j) (μ j) jit s) + phi (eiU (best j) (μ j) jit s))) / nf) :=
  congrArg (fun x => -(x / (nf : ℝ))) (sumFin_eq _)

theorem eiHeadAt_dmean (j : Fin nf) : (eiHeadAt Φ best jit μ s).dmean j = Φ (eiU (best j) (μ j) jit s) / nf :=
  rfl

theorem eiHeadAt_dstd : (eiHeadAt Φ best jit μ s).dstd = (∑ j, -phi (eiU (best j) (μ j) jit s)) / nf :=
  congrArg (· / (nf : ℝ)) (sumFin_eq _)

end fields

/-- one fantasy column: `x ↦ σ(x) · (U Φ(U) + φ(U))`, `U = (best − μ(x) − jit)/σ(x)`, has
derivative `φ(U) σ' − Φ(U) μ'`. -/
theorem ei_term_hasDerivAt (Φ : ℝ → ℝ) (hΦ : ∀ u, HasDerivAt Φ (phi u) u) (best jit : ℝ)
    (μ σ : ℝ → ℝ) (μ' σ' x : ℝ) (hμ : HasDerivAt μ μ' x) (hσ : HasDerivAt σ σ' x) (hs : σ x ≠ 0) :
    HasDerivAt (fun y => σ y * (eiU best (μ y) jit (σ y) * Φ (eiU best (μ y) jit (σ y))
        + phi (eiU best (μ y) jit (σ y))))
      (phi (eiU best (μ x) jit (σ x)) * σ' - Φ (eiU best (μ x) jit (σ x)) * μ') x := by
  have hU : HasDerivAt (fun y => eiU best (μ y) jit (σ y))
      (((0 - μ' - 0) * σ x - (best - μ x - jit) * σ') / σ x ^ 2) x := by
    unfold eiU
    exact (((hasDerivAt_const x best).fun_sub hμ).fun_sub (hasDerivAt_const x jit)).fun_div hσ hs
  have hg : HasDerivAt (fun y => eiU best (μ y) jit (σ y) * Φ (eiU best (μ y) jit (σ y))
        + phi (eiU best (μ y) jit (σ y)))
      (Φ (eiU best (μ x) jit (σ x)) * (((0 - μ' - 0) * σ x - (best - μ x - jit) * σ') / σ x ^ 2)) x := by
    have hg0 := g_hasDerivAt Φ hΦ (eiU best (μ x) jit (σ x))
    exact hg0.comp x hU
  have h := hσ.fun_mul hg
  refine h.congr_deriv ?_
  unfold eiU
  field_simp
  ring

/-- the LCB head over `ℝ` as a function of means and standard deviation, arguments in the order of `eiHeadAt` -/
noncomputable def lcbHeadAt {nf : ℕ} (kappa : ℝ) (μ : Fin nf → ℝ) (s : ℝ) : HeadGrad ℝ nf := lcbHeadGrad kappa s μ

end SyneTune.EI
