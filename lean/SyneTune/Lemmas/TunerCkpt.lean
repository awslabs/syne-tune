import SyneTune.Lemmas.TunerFlow
/-
Checkpoints (C20, loop side): a checkpoint is only deleted after the scheduler's STOP of the
trial, when the scheduler named the trial as removable, or in the final sweep of `stop_all`;
hence a trial that is resumed, or the source of a warm start, still has its checkpoint —
provided the scheduler does not name / stop what it later needs.
-/
namespace SyneTune.Tuner
open SyneTune

/-- **contract K (removable part)**: the scheduler never resumes a trial it has named in
`trials_checkpoints_can_be_removed`. -/
def K2Ok (s : LState) (a : Ans) : Prop :=
  s.pc = .suggest → ∀ id cfg, a = .sugg (.resume id cfg) → id ∉ s.removableSaid

/-- the scheduler does not warm-start from a trial it has stopped or named removable
(for PBT: the clone source is not stopped between the decision and the next `suggest`). -/
def SrcOk (s : LState) (a : Ans) : Prop :=
  s.pc = .suggest → ∀ cfg src, a = .sugg (.start cfg (some src)) → src ∉ s.schedStopped ∧ src ∉ s.removableSaid

/-- `y1`: every deleted checkpoint is of a trial the scheduler stopped or named removable (or of the one being
removed at `removeS`); `y2`, `y2'`: the sweep at the end of an iteration deletes only what the scheduler named removable; `y3`, `y4`:
the trial about to be resumed, and the source of the one about to be started, still have theirs. -/
structure YInv (s : LState) : Prop where
  y1 : finPc s.pc = false → ∀ t ∈ s.deleted, t ∈ s.schedStopped ∨ t ∈ s.removableSaid ∨ (s.pc = .removeS ∧ t = s.cur.tid)
  y2 : (s.pc = .delNext ∨ s.pc = .delRem) → ∀ t ∈ s.dels, t ∈ s.removableSaid
  y2' : s.pc = .delRem → s.t ∈ s.removableSaid
  y3 : s.pc = .resumeCmd → s.sId ∉ s.removableSaid
  y4 : (s.pc = .startCmd ∨ s.pc = .copyCmd) → ∀ src, s.sCkpt = some src → src ∉ s.schedStopped ∧ src ∉ s.removableSaid

/-- control points with a register clause of `YInv` -/
def yPc : Pc → Bool
  | .delNext | .delRem | .resumeCmd | .startCmd | .copyCmd => true
  | _ => false

theorem YInv.fin {s' : LState} (hf : finPc s'.pc = true) : YInv s' := by
  have hne : ∀ {p : Pc}, finPc p = false → s'.pc ≠ p := Pc.ne_of_class hf
  refine ⟨(fun hc => by rw [hf] at hc; cases hc), fun hc => ?_, fun hc => absurd hc (hne rfl),
    fun hc => absurd hc (hne rfl), fun hc => ?_⟩
  · rcases hc with hc | hc <;> exact absurd hc (hne rfl)
  · rcases hc with hc | hc <;> exact absurd hc (hne rfl)

/-- `Q`: the third alternative of `y1` in the state the caller is after -/
theorem YInv.accounted {s : LState} (h : YInv s) {p : Pc} (hpc : s.pc = p) (hf : finPc p = false) (hnr : p ≠ .removeS)
    {t : Nat} (ht : t ∈ s.deleted) {Q : Prop} : t ∈ s.schedStopped ∨ t ∈ s.removableSaid ∨ Q :=
  (h.y1 (hpc ▸ hf) t ht).imp_right (.imp_right fun h1 => absurd h1.1 (hpc ▸ hnr))

structure YSame (s s' : LState) : Prop where
  deleted : s'.deleted = s.deleted
  schedStopped : s'.schedStopped = s.schedStopped
  removableSaid : s'.removableSaid = s.removableSaid

def yMove (p q : Pc) : Bool := !yPc q && !finPc p && p != .removeS

theorem YInv.frame {s s' : LState} (h : YInv s) (hm : yMove s.pc s'.pc = true)
    (e : YSame s s' := by exact ⟨rfl, rfl, rfl⟩) : YInv s' := by
  obtain ⟨hd, hss, hrs⟩ := e
  unfold yMove at hm
  simp only [Bool.and_eq_true, Bool.not_eq_true', bne_iff_ne, ne_eq] at hm
  obtain ⟨⟨hy, hf⟩, hnr⟩ := hm
  have hne : ∀ {p : Pc}, yPc p = true → s'.pc ≠ p := Pc.ne_of_class hy
  refine ⟨fun _ t ht => ?_, fun hc => ?_, fun hc => absurd hc (hne rfl), fun hc => absurd hc (hne rfl), fun hc => ?_⟩
  · rw [hd] at ht; rw [hss, hrs]
    exact h.accounted rfl hf hnr ht
  · rcases hc with hc | hc <;> exact absurd hc (hne rfl)
  · rcases hc with hc | hc <;> exact absurd hc (hne rfl)

/-- towards `on_trial_remove` after a STOP (possibly with the checkpoint just deleted) -/
theorem YInv.toRemoveS {s s' : LState} (h : YInv s) (hf : finPc s.pc = false) (hnr : s.pc ≠ .removeS)
    (hp' : s'.pc = .removeS) (hc : s'.cur.tid = s.cur.tid)
    (hd : s'.deleted = s.deleted ∨ s'.deleted = s.cur.tid :: s.deleted) (hss : s'.schedStopped = s.schedStopped)
    (hrs : s'.removableSaid = s.removableSaid) : YInv s' := by
  refine ⟨fun _ t ht => ?_, fun hcc => ?_, (fun hcc => by rw [hp'] at hcc; cases hcc),
    (fun hcc => by rw [hp'] at hcc; cases hcc), fun hcc => ?_⟩
  · rw [hss, hrs]
    rcases hd with hd | hd
    · rw [hd] at ht; exact h.accounted rfl hf hnr ht
    · rw [hd] at ht
      rcases List.mem_cons.mp ht with h1 | h1
      · exact Or.inr (Or.inr ⟨hp', by rw [hc]; exact h1⟩)
      · exact h.accounted rfl hf hnr h1
  · rcases hcc with hcc | hcc <;> (rw [hp'] at hcc; cases hcc)
  · rcases hcc with hcc | hcc <;> (rw [hp'] at hcc; cases hcc)

theorem YInv.suggested {s s' : LState} (h : YInv s) (hp : s.pc = .suggest) (hd : s'.deleted = s.deleted)
    (hss : s'.schedStopped = s.schedStopped) (hrs : s'.removableSaid = s.removableSaid)
    (hp' : s'.pc = .startCmd ∨ s'.pc = .resumeCmd)
    (h3 : s'.pc = .resumeCmd → s'.sId ∉ s.removableSaid)
    (h4 : s'.pc = .startCmd → ∀ src, s'.sCkpt = some src → src ∉ s.schedStopped ∧ src ∉ s.removableSaid) : YInv s' := by
  refine ⟨fun _ t ht => ?_, fun hc => ?_, fun hc => ?_, fun hc => by rw [hrs]; exact h3 hc, fun hc => ?_⟩
  · rw [hd] at ht; rw [hss, hrs]
    exact h.accounted hp rfl nofun ht
  · rcases hc with hc | hc <;> rcases hp' with hp' | hp' <;> (rw [hp'] at hc; cases hc)
  · rcases hp' with hp' | hp' <;> (rw [hp'] at hc; cases hc)
  · rcases hc with hc | hc
    · rw [hss, hrs]; exact h4 hc
    · rcases hp' with hp' | hp' <;> (rw [hp'] at hc; cases hc)

theorem YInv_trans {s s' : LState} {a : Ans} (h : YInv s) (t : Trans s a s') (hK2 : K2Ok s a) (hSrc : SrcOk s a) :
    YInv s' := by
  cases t
  case fin f => exact .fin f.tgt
  case raiseEnv | assertFail | keyError | noMetrics => exact .fin rfl
  case ctl p c =>
    cases c
    case leaveLoop => exact .fin rfl
    case copyCkpt hpc _ =>
      exact { y1 := fun _ _ ht => h.accounted hpc rfl nofun ht, y2 := (by rintro (hc | hc) <;> cases hc), y2' := nofun,
              y3 := nofun, y4 := fun _ => h.y4 (.inl hpc) }
    all_goals exact h.frame (‹s.pc = _› ▸ rfl)
  -- `stop_trial`: the checkpoint of the stopped trial goes before `on_trial_remove` is called
  case cbStopCompleted hpc _ _ | stoppedKeep hpc _ =>
    exact h.toRemoveS (hpc ▸ rfl) (hpc ▸ nofun) rfl rfl (.inl rfl) rfl rfl
  case stopDeleted hpc => exact h.toRemoveS (hpc ▸ rfl) (hpc ▸ nofun) rfl rfl (.inr rfl) rfl rfl
  case removedStopped hpc =>
    refine { y1 := fun _ t ht => ?_, y2 := (by rintro (hc | hc) <;> cases hc), y2' := nofun, y3 := nofun,
             y4 := (by rintro (hc | hc) <;> cases hc) }
    rcases h.y1 (by rw [hpc]; rfl) t ht with h1 | h1 | h1
    · exact .inl ((mem_sadd _ _ _).mpr (.inr h1))
    · exact .inr (.inl h1)
    · exact .inl ((mem_sadd _ _ _).mpr (.inl h1.2))
  case item hpc _ i => cases i <;> exact h.frame (hpc ▸ rfl)
  case updated hpc => exact h.frame (by rcases afterUpdate_pc s with hh | hh | hh <;> rw [hh, hpc] <;> rfl)
  case scheduled hpc =>
    rcases hpc with hpc | hpc <;> exact h.frame (hpc ▸ rfl)
  case suggestStart hpc =>
    exact h.suggested hpc rfl rfl rfl (.inl rfl) nofun fun _ src hs => hSrc hpc _ src (by rw [← hs])
  case suggestResume hpc => exact h.suggested hpc rfl rfl rfl (.inr rfl) (fun _ => hK2 hpc _ _ rfl) nofun
  -- `RemoveCheckpointsCallback.on_loop_end`: what it deletes the scheduler has named
  case removable l hpc =>
    exact { y1 := fun _ _ ht => (h.accounted hpc rfl nofun ht).imp_right (.imp_left (List.mem_append_right _)),
            y2 := fun _ t ht => List.mem_append_left _ ht, y2' := nofun, y3 := nofun,
            y4 := (by rintro (hc | hc) <;> cases hc) }
  case delNext t rest hpc hd =>
    have h2 := h.y2 (.inl hpc)
    rw [hd] at h2
    exact { y1 := fun _ _ ht => h.accounted hpc rfl nofun ht, y2 := fun _ u hu => h2 u (List.mem_cons_of_mem _ hu),
            y2' := fun _ => h2 t List.mem_cons_self, y3 := nofun, y4 := (by rintro (hc | hc) <;> cases hc) }
  case removed hpc =>
    refine { y1 := fun _ u hu => ?_, y2 := fun _ => h.y2 (.inr hpc), y2' := nofun, y3 := nofun,
             y4 := (by rintro (hc | hc) <;> cases hc) }
    rcases List.mem_cons.mp hu with h1 | h1
    · rw [h1]; exact .inr (.inl (h.y2' hpc))
    · exact h.accounted hpc rfl nofun h1
  -- the other transitions of the loop delete nothing and name nothing
  all_goals exact h.frame (‹s.pc = _› ▸ rfl)

theorem YInv.reach {c : Cfg} {s : LState} (h : Reach c (fun s a => K2Ok s a ∧ SrcOk s a) s) : YInv s :=
  h.inv
    ⟨(fun _ t ht => by simp [init] at ht), (fun hc => by rcases hc with hc | hc <;> cases hc), nofun,
      nofun, (fun hc => by rcases hc with hc | hc <;> cases hc)⟩
    (fun _ _ h => ⟨h.y1, h.y2, h.y2', h.y3, h.y4⟩) fun _ hp ih t => YInv_trans ih t hp.1 hp.2

/-- `delete_checkpoint(t)` becomes the pending call by four transitions only -/
theorem Trans.pending_delete {s s' : LState} {a : Ans} {t : Nat} (tr : Trans s a s') (h : pending s' = .delete t) :
    (s'.pc = .stopDel ∧ s.pc = .stopCmd ∧ pending s = .stop t ∧ s.cfg.deleteCkpt = true) ∨
    (s'.pc = .delRem ∧ s.pc = .delNext ∧ t ∈ s.dels) ∨
    (s'.pc = .finStopDel ∧ s.pc = .finStop ∧ pending s = .stop t ∧ s.cfg.deleteCkpt = true) ∨
    (s'.pc = .finDel ∧ s.pc = .finDelNext ∧ t ∈ s.dels) := by
  cases tr
  case stopped hpc hdc => cases h; exact .inl ⟨rfl, hpc, by unfold pending; rw [hpc], hdc⟩
  case delNext u rest hpc hd => cases h; exact .inr (.inl ⟨rfl, hpc, hd ▸ List.mem_cons_self⟩)
  case fin f =>
    cases f
    case finStopped hpc hdc => cases h; exact .inr (.inr (.inl ⟨rfl, hpc, by unfold pending; rw [hpc], hdc⟩))
    case finDelNext u rest hpc hd => cases h; exact .inr (.inr (.inr ⟨rfl, hpc, hd ▸ List.mem_cons_self⟩))
    all_goals exfalso
    case halt hpc => unfold pending at h; rw [hpc] at h; cases h
    all_goals cases h
  all_goals exfalso
  case ctl p c => cases c <;> cases h
  case skipResult hpc _ _ => rw [hpc] at h; cases h
  case item hpc _ i =>
    cases i
    case pausedCompleted | skip => rw [hpc] at h; cases h
    all_goals cases h
  case updated => unfold pending at h; rcases afterUpdate_pc s with hh | hh | hh <;> rw [hh] at h <;> cases h
  all_goals cases h

end SyneTune.Tuner
