import SyneTune.Model.SyncManager
import SyneTune.Lemmas.SyncBracket
/- Invariant of the synchronous Hyperband bracket manager; `next_job`, `on_result`, `level_to_prev_level`. -/
namespace SyneTune.Sync
open SyneTune

/-- what `_create_new_bracket` needs -/
structure MPre (g : Manager) : Prop where
  kind : g.kind = .hyperband
  sysNe : g.bracketRungs ≠ []
  sysOk : ∀ spec ∈ g.bracketRungs, checkRungs spec = true
  lenEq : g.idToOffset.length = g.brackets.length

/-- bracket `id` is a well-formed bracket of rung system `id mod num_bracket_offsets` -/
def BrOK (g : Manager) (id : Nat) (br : Bracket) : Prop :=
  ∃ spec, g.bracketRungs[id % g.numOffsets]? = some spec ∧ BWF spec br ∧ br.mode = g.mode

/-- the part of the invariant which does not mention the primary bracket -/
structure MWF0 (g : Manager) : Prop extends MPre g where
  cycle : ∀ id off, g.idToOffset[id]? = some off → off = id % g.numOffsets
  wf : ∀ id br, g.brackets[id]? = some br → BrOK g id br

/-- invariant of `SynchronousHyperbandBracketManager` -/
structure MWF (g : Manager) : Prop extends MWF0 g where
  primLt : g.primary < g.brackets.length
  below : ∀ id br, id < g.primary → g.brackets[id]? = some br → br.isComplete = true
  primOpen : ∀ br, g.brackets[g.primary]? = some br → br.isComplete = false

theorem MPre.numOffsets_pos {g : Manager} (h : MPre g) : 0 < g.numOffsets :=
  List.length_pos_iff.mpr h.sysNe

theorem createBracket_spec {g : Manager} (h : MPre g) :
    ∃ br spec, g.bracketRungs[g.brackets.length % g.numOffsets]? = some spec ∧
      BWF spec br ∧ br.mode = g.mode ∧ br.HasFree ∧ br.Fresh ∧
      g.createBracket = .ok ({ g with idToOffset := g.idToOffset ++ [g.brackets.length % g.numOffsets],
                                      brackets := g.brackets ++ [br] }, g.brackets.length) := by
  have hlt : g.brackets.length % g.numOffsets < g.bracketRungs.length := Nat.mod_lt _ h.numOffsets_pos
  have hspec := List.getElem?_eq_getElem hlt
  obtain ⟨br, hmk, hwf, hmode, hfree, hfresh⟩ := mkBracket_wf g.mode _ (h.sysOk _ (List.getElem_mem hlt))
  refine ⟨br, _, hspec, hwf, hmode, hfree, hfresh, ?_⟩
  simp only [Manager.createBracket, h.lenEq, ne_eq, not_true_eq_false, if_false,
    Nat.ne_of_gt h.numOffsets_pos, hspec, h.kind, hmk]

theorem MWF0.append {g : Manager} (hw : MWF0 g) (br : Bracket) (spec : List (Nat × Nat))
    (hspec : g.bracketRungs[g.brackets.length % g.numOffsets]? = some spec)
    (hb : BWF spec br) (hm : br.mode = g.mode) :
    MWF0 { g with idToOffset := g.idToOffset ++ [g.brackets.length % g.numOffsets],
                  brackets := g.brackets ++ [br] } := by
  refine ⟨⟨hw.kind, hw.sysNe, hw.sysOk, by simp [hw.lenEq]⟩, fun id off hoff => ?_, fun id b hbget => ?_⟩
  · rcases getElem?_concat_eq_some hoff with h | ⟨rfl, rfl⟩
    · exact hw.cycle id off h
    · rw [hw.lenEq]; rfl
  · rcases getElem?_concat_eq_some hbget with h | ⟨rfl, rfl⟩
    · exact hw.wf id b h
    · exact ⟨spec, hspec, hb, hm⟩

theorem MWF0.primary {g : Manager} (hw : MWF0 g) (q : Nat) : MWF0 { g with primary := q } :=
  ⟨⟨hw.kind, hw.sysNe, hw.sysOk, hw.lenEq⟩, hw.cycle, hw.wf⟩

theorem MWF.append {g : Manager} (hw : MWF g) (br : Bracket) (spec : List (Nat × Nat))
    (hspec : g.bracketRungs[g.brackets.length % g.numOffsets]? = some spec)
    (hb : BWF spec br) (hm : br.mode = g.mode) :
    MWF { g with idToOffset := g.idToOffset ++ [g.brackets.length % g.numOffsets],
                 brackets := g.brackets ++ [br] } := by
  have hp := hw.primLt
  refine ⟨hw.toMWF0.append br spec hspec hb hm, ?_, fun id b (hid : id < g.primary) hbget => ?_,
    fun b hbget => ?_⟩
  · exact Nat.lt_of_lt_of_le hp (by simp)
  · rcases getElem?_concat_eq_some hbget with h | ⟨rfl, _⟩
    · exact hw.below id b hid h
    · exact absurd hid (Nat.lt_asymm hp)
  · rcases getElem?_concat_eq_some hbget with h | ⟨h, _⟩
    · exact hw.primOpen b h
    · exact absurd h (Nat.ne_of_lt hp)

theorem MWF0.set {g : Manager} (hw : MWF0 g) (id : Nat) (br' : Bracket) (hok : BrOK g id br') :
    MWF0 (g.setBracket id br') := by
  refine ⟨⟨hw.kind, hw.sysNe, hw.sysOk, by simp [Manager.setBracket, hw.lenEq]⟩, hw.cycle, fun j b hb => ?_⟩
  rcases getElem?_set_eq_some hb with ⟨rfl, rfl⟩ | ⟨_, hb⟩
  · exact hok
  · exact hw.wf j b hb

theorem MWF.set {g : Manager} (hw : MWF g) (id : Nat) (br br' : Bracket)
    (hget : g.brackets[id]? = some br) (hok : BrOK g id br')
    (hcomp : id ≤ g.primary → br'.isComplete = br.isComplete) :
    MWF (g.setBracket id br') := by
  refine ⟨hw.toMWF0.set id br' hok, by simp [Manager.setBracket, hw.primLt],
    fun j b (hj : j < g.primary) hb => ?_, fun b hb => ?_⟩
  · rcases getElem?_set_eq_some hb with ⟨rfl, rfl⟩ | ⟨_, hb⟩
    · rw [hcomp (Nat.le_of_lt hj)]; exact hw.below j br hj hget
    · exact hw.below j b hj hb
  · rcases getElem?_set_eq_some hb with ⟨h, rfl⟩ | ⟨_, hb⟩
    · rw [hcomp (Nat.le_of_eq h.symm)]; exact hw.primOpen br (h ▸ hget)
    · exact hw.primOpen b hb

theorem checkSystems_ok (maxNum : Nat) (systems : List (List (Nat × Nat))) (offset : Nat)
    (h : checkSystems maxNum systems offset = true) : ∀ spec ∈ systems, checkRungs spec = true := by
  induction systems generalizing offset with
  | nil => nofun
  | cons rs rest ih =>
    simp only [checkSystems, Bool.and_eq_true, decide_eq_true_eq] at h
    exact List.forall_mem_cons.mpr ⟨h.1.2, ih (offset + 1) h.2⟩

theorem init_wf (mode : Mode) (systems : List (List (Nat × Nat))) (g : Manager)
    (h : Manager.init .hyperband mode systems = .ok g) :
    MWF g ∧ g.mode = mode ∧ g.bracketRungs = systems ∧
      ∀ b ∈ g.brackets, b.Fresh := by
  unfold Manager.init at h
  cases systems with
  | nil => cases h
  | cons first rest =>
    simp only at h
    split at h
    · cases h
    · next hcs =>
      have hpre : MPre { kind := .hyperband, mode := mode, bracketRungs := first :: rest } :=
        ⟨rfl, List.cons_ne_nil _ _, checkSystems_ok _ _ 0 (by simpa using hcs), rfl⟩
      have hw0 : MWF0 { kind := .hyperband, mode := mode, bracketRungs := first :: rest } :=
        ⟨hpre, nofun, nofun⟩
      obtain ⟨br, spec, hspec, hwf, hmode, -, hfresh, hcreate⟩ := createBracket_spec hpre
      rw [hcreate] at h
      simp only [Except.ok.injEq] at h
      subst h
      refine ⟨⟨(hw0.append br spec hspec hwf hmode).primary _, Nat.zero_lt_one, nofun, ?_⟩, rfl, rfl, ?_⟩
      · rintro b ⟨⟩; exact hfresh.open_
      · intro b hb
        obtain rfl := List.mem_singleton.mp hb
        exact hfresh

theorem bump_ok {g : Manager} {id : Nat} {br : Bracket} (hok : BrOK g id br) (hf : br.HasFree) :
    BrOK g id (bump br) :=
  hok.imp fun _ ⟨hs, hb, hm⟩ => ⟨hs, bump_wf hb hf, hm⟩

/-- the loop over the brackets `a, …, a + n - 1` stops at the first one with a free slot -/
theorem scan_range {g : Manager} (hw : MWF0 g) (a n : Nat) (h : a + n ≤ g.brackets.length) :
    (g.scan (List.range' a n) = .ok none ∧
      ∀ j b, a ≤ j → j < a + n → g.brackets[j]? = some b → ¬ b.HasFree) ∨
    ∃ id br rg x, a ≤ id ∧ id < a + n ∧
      (∀ j b, a ≤ j → j < id → g.brackets[j]? = some b → ¬ b.HasFree) ∧
      g.brackets[id]? = some br ∧ br.HasFree ∧ br.rungs[br.current]? = some rg ∧
      rg.slots[br.firstFree]? = some x ∧
      g.scan (List.range' a n) = .ok (some (g.setBracket id (bump br), id, slotOf br rg x)) := by
  induction n generalizing a with
  | zero => exact Or.inl ⟨rfl, fun j b h1 h2 => absurd h2 (Nat.not_lt_of_le h1)⟩
  | succ n ih =>
    obtain ⟨bra, hbr⟩ : ∃ bra, g.brackets[a]? = some bra :=
      ⟨_, List.getElem?_eq_getElem (Nat.lt_of_lt_of_le (Nat.lt_add_of_pos_right n.succ_pos) h)⟩
    obtain ⟨spec, -, hb, -⟩ := hw.wf a _ hbr
    by_cases hf : bra.HasFree
    · obtain ⟨rg, x, hrg, hsl, hn⟩ := nextFreeSlot_of_hasFree hb hf
      exact Or.inr ⟨a, _, rg, x, Nat.le_refl _, Nat.lt_add_of_pos_right n.succ_pos,
        fun j b h1 h2 => absurd h2 (Nat.not_lt_of_le h1),
        hbr, hf, hrg, hsl, by simp only [List.range'_succ, Manager.scan, hbr, hn]⟩
    · have hscan : g.scan (List.range' a (n + 1)) = g.scan (List.range' (a + 1) n) := by
        simp only [List.range'_succ, Manager.scan, hbr, nextFreeSlot_of_not_hasFree hb hf]
      -- bracket `a` has no free slot: a statement about `a + 1, …` extends to `a, …`
      have hext : ∀ {m}, (∀ j b, a + 1 ≤ j → j < m → g.brackets[j]? = some b → ¬ b.HasFree) →
          ∀ j b, a ≤ j → j < m → g.brackets[j]? = some b → ¬ b.HasFree := by
        intro m hm j b h1 h2 hj
        rcases Nat.eq_or_lt_of_le h1 with rfl | h1
        · exact Option.mem_unique hbr hj ▸ hf
        · exact hm j b h1 h2 hj
      have hn : a + 1 + n = a + (n + 1) := Nat.add_right_comm a 1 n
      rw [hscan]
      rcases ih (a + 1) (hn ▸ h) with ⟨hs, hnone⟩ | ⟨id, br, rg, x, h1, h2, hbefore, rest⟩
      · exact Or.inl ⟨hs, hext (hn ▸ hnone)⟩
      · exact Or.inr ⟨id, br, rg, x, Nat.le_of_succ_le h1, hn ▸ h2, hext hbefore, rest⟩

/-- outcome of `next_job`: bracket `id` becomes `bump br`, the other brackets stay -/
structure JobStruct (g g1 : Manager) (id : Nat) (br : Bracket) (rg : Rung) (x : Slot) : Prop where
  first : ∀ j b, g.primary ≤ j → j < id → g.brackets[j]? = some b → ¬ b.HasFree
  old : (g.primary ≤ id ∧ g.brackets[id]? = some br ∧ g1.brackets = g.brackets.set id (bump br)) ∨
        (id = g.brackets.length ∧ g1.brackets = g.brackets ++ [bump br] ∧ br.Fresh)
  free : br.HasFree
  hrg : br.rungs[br.current]? = some rg
  hsl : rg.slots[br.firstFree]? = some x
  ok : BrOK g id br
  sys : g1.bracketRungs = g.bracketRungs
  mode : g1.mode = g.mode

/-- **`next_job` never blocks**: on a well-formed manager it returns a job; the job comes
from the first open bracket (from the primary on) which has a free slot, and a new bracket
is created exactly when none has. The invariant is kept. -/
theorem nextJob_job {g : Manager} (hw : MWF g) :
    ∃ g1 id br rg x, g.nextJob = .ok (g1, id, slotOf br rg x) ∧ JobStruct g g1 id br rg x ∧ MWF g1 := by
  have hp := hw.primLt
  rcases scan_range hw.toMWF0 g.primary (g.brackets.length - g.primary) (by omega) with
    ⟨hscan, hnone⟩ | ⟨id, br, rg, x, hge, hlt, hbefore, hbr, hf, hrg, hsl, hscan⟩
  · -- no open bracket has a free slot: create one
    obtain ⟨br, spec, hspec, hwf, hmode, hfree, hfresh, hcreate⟩ := createBracket_spec hw.toMPre
    have hw1 := hw.append br spec hspec hwf hmode
    have hget : (g.brackets ++ [br])[g.brackets.length]? = some br := List.getElem?_concat_length
    obtain ⟨rg, x, hrg, hsl, hn⟩ := nextFreeSlot_of_hasFree hwf hfree
    have hset : (g.brackets ++ [br]).set g.brackets.length (bump br) = g.brackets ++ [bump br] := by
      rw [List.set_append_right _ _ (Nat.le_refl _)]; simp
    refine ⟨({ g with idToOffset := g.idToOffset ++ [g.brackets.length % g.numOffsets],
                      brackets := g.brackets ++ [br] } : Manager).setBracket g.brackets.length (bump br),
      g.brackets.length, br, rg, x, ?_,
      ⟨fun j b h1 h2 hb => hnone j b h1 (by omega) hb, Or.inr ⟨rfl, hset, hfresh⟩, hfree, hrg, hsl,
        ⟨spec, hspec, hwf, hmode⟩, rfl, rfl⟩,
      hw1.set _ br _ hget (bump_ok (hw1.wf _ br hget) hfree) fun _ => rfl⟩
    simp only [Manager.nextJob, rangeFrom, hscan, hcreate, Manager.scan, hget, hn]
  · exact ⟨g.setBracket id (bump br), id, br, rg, x, by simp only [Manager.nextJob, rangeFrom, hscan],
      ⟨hbefore, Or.inl ⟨hge, hbr, rfl⟩, hf, hrg, hsl, hw.wf id br hbr, rfl, rfl⟩,
      hw.set id br _ hbr (bump_ok (hw.wf id br hbr) hf) fun _ => rfl⟩

section
variable {g g1 : Manager} {id : Nat} {br : Bracket} {rg : Rung} {x : Slot}

theorem JobStruct.src (h : JobStruct g g1 id br rg x) :
    g.brackets[id]? = some br ∨ (id = g.brackets.length ∧ br.Fresh) :=
  h.old.imp (·.2.1) fun ⟨h1, _, h3⟩ => ⟨h1, h3⟩

theorem JobStruct.after (h : JobStruct g g1 id br rg x) (j : Nat) (b : Bracket) (hb : g1.brackets[j]? = some b) :
    (j = id ∧ b = bump br) ∨ (j ≠ id ∧ g.brackets[j]? = some b) := by
  rcases h.old with ⟨_, _, he⟩ | ⟨rfl, he, _⟩ <;> rw [he] at hb
  · exact getElem?_set_eq_some hb
  · exact (getElem?_concat_eq_some hb).symm.imp id fun h' => ⟨Nat.ne_of_lt (getElem?_lt h'), h'⟩

theorem JobStruct.atId (h : JobStruct g g1 id br rg x) : g1.brackets[id]? = some (bump br) := by
  rcases h.old with ⟨_, hbr, he⟩ | ⟨rfl, he, _⟩ <;> rw [he]
  · exact List.getElem?_set_self (getElem?_lt hbr)
  · exact List.getElem?_concat_length

theorem JobStruct.keep (h : JobStruct g g1 id br rg x) (j : Nat) (b : Bracket) (hj : j ≠ id)
    (hb : g.brackets[j]? = some b) : g1.brackets[j]? = some b := by
  rcases h.old with ⟨_, _, he⟩ | ⟨rfl, he, _⟩ <;> rw [he]
  · exact (List.getElem?_set_ne (Ne.symm hj)).trans hb
  · rwa [List.getElem?_append_left (getElem?_lt hb)]
end

theorem skipComplete_spec (brs : List Bracket) (last fuel p : Nat) (hp : p ≤ last) (hl : last < brs.length)
    (hfuel : last - p < fuel) :
    ∃ q, skipComplete brs last fuel p = some q ∧ p ≤ q ∧ q ≤ last ∧
      (∀ j b, p ≤ j → j < q → brs[j]? = some b → b.isComplete = true) ∧
      (∀ b, brs[q]? = some b → b.isComplete = true → q = last) := by
  induction fuel generalizing p with
  | zero => omega
  | succ fuel ih =>
    obtain ⟨bp, hget⟩ : ∃ bp, brs[p]? = some bp := ⟨_, List.getElem?_eq_getElem (Nat.lt_of_le_of_lt hp hl)⟩
    unfold skipComplete
    simp only [hget]
    split
    · next hc =>
      obtain ⟨q, hq, h1, h2, h3, h4⟩ := ih (p + 1) (by omega) (by omega)
      refine ⟨q, hq, by omega, h2, fun j b hj1 hj2 hb => ?_, h4⟩
      by_cases hjp : j = p
      · exact Option.mem_unique hget (hjp ▸ hb) ▸ hc.1
      · exact h3 j b (by omega) hj2 hb
    · next hc =>
      refine ⟨p, rfl, Nat.le_refl _, hp, fun j b h1 h2 => by omega, fun b hb hcomp => ?_⟩
      obtain rfl := Option.mem_unique hget hb
      exact Nat.le_antisymm hp (Nat.le_of_not_lt fun h => hc ⟨hcomp, h⟩)

/-- what `on_result` does to the manager, apart from the bracket concerned -/
structure MgrRes (g : Manager) (id : Nat) (br' : Bracket) (g' : Manager) : Prop where
  sys : g'.bracketRungs = g.bracketRungs
  mode : g'.mode = g.mode
  brs : ∃ extra, g'.brackets = g.brackets.set id br' ++ extra ∧
        ∀ b ∈ extra, b.Fresh

theorem MgrRes.after {g g' : Manager} {id : Nat} {br' : Bracket} (hr : MgrRes g id br' g') (j : Nat) (b : Bracket)
    (hb : g'.brackets[j]? = some b) :
    (j = id ∧ b = br') ∨ (j ≠ id ∧ g.brackets[j]? = some b) ∨ (b.Fresh ∧ g.brackets.length ≤ j) := by
  obtain ⟨extra, hbrs, hex⟩ := hr.brs
  rw [hbrs, List.getElem?_append, List.length_set] at hb
  split at hb
  · exact (getElem?_set_eq_some hb).imp_right Or.inl
  · next hj => exact Or.inr (Or.inr ⟨hex b (List.mem_of_getElem? hb), Nat.le_of_not_lt hj⟩)

theorem MgrRes.atId {g g' : Manager} {id : Nat} {br br' : Bracket} (hr : MgrRes g id br' g')
    (hbr : g.brackets[id]? = some br) : g'.brackets[id]? = some br' := by
  obtain ⟨extra, hbrs, _⟩ := hr.brs
  rw [hbrs, List.getElem?_append_left (by rw [List.length_set]; exact getElem?_lt hbr),
    List.getElem?_set_self (getElem?_lt hbr)]

theorem MgrRes.keep {g g' : Manager} {id : Nat} {br' : Bracket} (hr : MgrRes g id br' g') (j : Nat) (b : Bracket)
    (hj : j ≠ id) (hb : g.brackets[j]? = some b) : g'.brackets[j]? = some b := by
  obtain ⟨extra, hbrs, _⟩ := hr.brs
  rw [hbrs, List.getElem?_append_left (by rw [List.length_set]; exact getElem?_lt hb), List.getElem?_set_ne (Ne.symm hj), hb]

theorem createBracket_id {g g' : Manager} {id : Nat} (h : g.createBracket = .ok (g', id)) : id = g.brackets.length := by
  unfold Manager.createBracket at h
  split at h
  · cases h
  split at h
  · cases h
  split at h
  · cases h
  split at h
  · cases h
  · cases h; rfl

theorem movePrimary_primary {g g' : Manager} (h : g.movePrimary = .ok g') :
    g'.brackets = g.brackets ∨ g'.primary = g.brackets.length := by
  unfold Manager.movePrimary at h
  split at h
  · cases h
  split at h
  · cases h
  split at h
  · split at h
    · cases h
    · next hc => cases h; exact Or.inr (createBracket_id hc :)
  · cases h; exact Or.inl rfl

/-- the `if for_primary:` block: the primary bracket moves on to the first incomplete
bracket (`MWF g'`: all below it are complete, it is not), a new bracket being created when there is none -/
theorem movePrimary_spec {g : Manager} (hw : MWF0 g) (hp : g.primary < g.brackets.length)
    (hbelow : ∀ j b, j < g.primary → g.brackets[j]? = some b → b.isComplete = true) :
    ∃ g', g.movePrimary = .ok g' ∧ MWF g' ∧ g'.bracketRungs = g.bracketRungs ∧ g'.mode = g.mode ∧
      ∃ extra, g'.brackets = g.brackets ++ extra ∧
        ∀ b ∈ extra, b.Fresh := by
  obtain ⟨q, hq, hq1, hq2, hq3, hq4⟩ := skipComplete_spec g.brackets (g.brackets.length - 1)
    (g.brackets.length - g.primary) g.primary (by omega) (by omega) (by omega)
  have hqlt : q < g.brackets.length := by omega
  have hgetq := List.getElem?_eq_getElem hqlt
  have hbelow' : ∀ j b, j < q → g.brackets[j]? = some b → b.isComplete = true := fun j b hj hbj =>
    if hjp : j < g.primary then hbelow j b hjp hbj else hq3 j b (Nat.le_of_not_lt hjp) hj hbj
  unfold Manager.movePrimary
  simp only [hq, hgetq]
  split
  · next hcq =>
    -- every bracket is complete
    obtain rfl : q = g.brackets.length - 1 := hq4 _ hgetq hcq
    obtain ⟨nb, nspec, hnspec, hnwf, hnmode, -, hfresh, hcreate⟩ :=
      createBracket_spec (hw.primary (g.brackets.length - 1)).toMPre
    simp only [hcreate]
    refine ⟨_, rfl, ⟨((hw.primary _).append nb nspec hnspec hnwf hnmode).primary _, by simp,
      fun j b (hj : j < g.brackets.length) hbj => ?_, fun b hbj => ?_⟩, rfl, rfl, [nb], rfl, ?_⟩
    · rw [List.getElem?_append_left hj] at hbj
      by_cases hjq : j < g.brackets.length - 1
      · exact hbelow' j b hjq hbj
      · obtain rfl : j = g.brackets.length - 1 := by omega
        exact Option.mem_unique hgetq hbj ▸ hcq
    · rcases getElem?_concat_eq_some hbj with h | ⟨_, rfl⟩
      · exact absurd (getElem?_lt h) (Nat.lt_irrefl _)
      · exact hfresh.open_
    · intro b hbm
      obtain rfl := List.mem_singleton.mp hbm
      exact hfresh
  · next hcq =>
    refine ⟨_, rfl, ⟨hw.primary q, hqlt, hbelow', fun b hbj => ?_⟩, rfl, rfl, [], by simp, nofun⟩
    exact Option.mem_unique hgetq hbj ▸ Bool.eq_false_iff.mpr hcq

theorem mgr_onResult_spec {g : Manager} (hw : MWF g) (id : Nat) (br : Bracket) (res : SlotInRung)
    (rg : Rung) (sl : Slot) (hbr : g.brackets[id]? = some br) (hl : LegalRes br res rg sl) :
    ∃ g' np br', g.onResult id res = .ok (g', np) ∧ ResultCase br res rg br' np ∧ MWF g' ∧ MgrRes g id br' g' := by
  obtain ⟨spec, hspec, hb, hmode⟩ := hw.wf id br hbr
  have hidlt : id < g.brackets.length := getElem?_lt hbr
  -- a bracket with a pending slot is not complete, so it is not below the primary one
  have hge : g.primary ≤ id := Nat.le_of_not_lt fun hc => by
    have := hw.below id br hc hbr
    rw [hb.not_complete hl.hrg] at this; cases this
  obtain ⟨br', np, hres, hcase, hb'⟩ := onResult_cases hb hl
  have hok' : BrOK g id br' := ⟨spec, hspec, hb', (resultCase_mode hcase).trans hmode⟩
  unfold Manager.onResult
  simp only [hge, hidlt, and_self, not_true_eq_false, if_false, hbr, hres]
  split
  · next hprim =>
    subst hprim
    obtain ⟨g', hmove, hw', hsys, hmd, extra, hbrs, hex⟩ :=
      movePrimary_spec (hw.toMWF0.set g.primary br' hok') (by simpa [Manager.setBracket] using hidlt)
        fun j b (hj : j < g.primary) hbj => by
          rcases getElem?_set_eq_some hbj with ⟨rfl, _⟩ | ⟨_, hbj⟩
          · exact absurd hj (Nat.lt_irrefl _)
          · exact hw.below j b hj hbj
    simp only [hmove]
    exact ⟨_, np, br', rfl, hcase, hw', hsys, hmd, extra, hbrs, hex⟩
  · next hprim =>
    exact ⟨_, np, br', rfl, hcase, hw.set id br br' hbr hok' fun h => absurd (Nat.le_antisymm h hge) hprim,
      rfl, rfl, [], by simp [Manager.setBracket], nofun⟩

theorem prevLevelIn_eq (spec : List (Nat × Nat)) (hp : (spec.map (·.2)).Pairwise (· < ·)) (k : Nat)
    (a : Nat × Nat) (h : spec[k]? = some a) (p0 : Nat) :
    prevLevelIn spec a.2 p0 = (p0 :: spec.map (·.2))[k]? := by
  induction spec generalizing k p0 with
  | nil => simp at h
  | cons y ys ih =>
    obtain ⟨sz, lv⟩ := y
    cases k with
    | zero =>
      cases (Option.some.inj h)
      exact if_pos rfl
    | succ k =>
      rw [List.map_cons, List.pairwise_cons] at hp
      have hne : ¬ lv = a.2 := Nat.ne_of_lt (hp.1 a.2 (List.mem_map_of_mem (List.mem_of_getElem? h)))
      exact (if_neg hne).trans (ih hp.2 k h lv)

/-- under the invariant `level_to_prev_level(id, ·)` reads the rung system `id mod num_bracket_offsets` only -/
theorem levelToPrevLevel_of_wf {g : Manager} (hw : MWF g) {id : Nat} (hid : id < g.brackets.length)
    {spec : List (Nat × Nat)} (hspec : g.bracketRungs[id % g.numOffsets]? = some spec) (lv : Nat) :
    g.levelToPrevLevel id lv =
      match prevLevelIn spec lv 0 with
      | none => .error (.keyError "_level_to_prev_level")
      | some p => .ok p := by
  have hidlt : id < g.idToOffset.length := hw.lenEq ▸ hid
  simp only [Manager.levelToPrevLevel, List.getElem?_eq_getElem hidlt,
    hw.cycle id _ (List.getElem?_eq_getElem hidlt), hspec]
  rfl

theorem spec_of_rung {g : Manager} (hw : MWF g) {id k : Nat} {br : Bracket} {rg : Rung}
    (hbr : g.brackets[id]? = some br) (hrg : br.rungs[k]? = some rg) :
    ∃ spec, g.bracketRungs[id % g.bracketRungs.length]? = some spec ∧ checkRungs spec = true ∧
      spec[k]? = some (rg.slots.length, rg.level) := by
  obtain ⟨spec, hspec, hb, _⟩ := hw.wf id br hbr
  refine ⟨spec, hspec, hb.specOk, ?_⟩
  rw [← hb.shape]; exact shape_getElem br k rg hrg

/-- `level_to_prev_level` looks the level of rung `k` up in `0 :: levels`, one position to the left -/
theorem levelToPrevLevel_rung {g : Manager} (hw : MWF g) {id k : Nat} {br : Bracket} {rg : Rung}
    (hbr : g.brackets[id]? = some br) {spec : List (Nat × Nat)}
    (hspec : g.bracketRungs[id % g.numOffsets]? = some spec) (hck : checkRungs spec = true)
    (hk : spec[k]? = some (rg.slots.length, rg.level)) :
    g.levelToPrevLevel id rg.level = .ok ((0 :: spec.map (·.2))[k]?.getD 0) := by
  rw [levelToPrevLevel_of_wf hw (getElem?_lt hbr) hspec, prevLevelIn_eq spec (checkRungs_levels spec hck).1 k _ hk 0,
    List.getElem?_eq_getElem (by simpa using Nat.lt_succ_of_lt (getElem?_lt hk))]
  rfl

theorem levelToPrevLevel_ok {g : Manager} (hw : MWF g) (id : Nat) (br : Bracket) (k : Nat) (rg : Rung)
    (hbr : g.brackets[id]? = some br) (hrg : br.rungs[k]? = some rg) :
    ∃ p, g.levelToPrevLevel id rg.level = .ok p :=
  (spec_of_rung hw hbr hrg).elim fun _ ⟨hspec, hck, hk⟩ => ⟨_, levelToPrevLevel_rung hw hbr hspec hck hk⟩

end SyneTune.Sync
