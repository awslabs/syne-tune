import SyneTune.Lemmas.HBOps
/-
Contract K at scheduler level (all promotion types): invariant `KInv`, preserved by every operation of
`Sched`; consequence: a `resume(t)` is only issued for a trial recorded as not running, and the
assertions of `_promote_trial` are unreachable.

The proofs follow two quantities through each operation: the multiset of unpromoted rung entries
(`unpromotedSys`) and the table of recorded decisions (`Sched.active`).  `afterSchedule_effect` and
`onResult_effect` say how one call changes them; `KInv` (here) and `C20Hb.Dead` are read off these.
-/
namespace SyneTune

/-- the scheduler does not consider `t` running -/
def NotRunning (s : Sched) (t : Nat) : Prop :=
  ∃ rec, alookup t s.active = some rec ∧ rec.decision ≠ .continue

/-- resumed runs have `resume_from < milestone` -/
def RunOK (sys : RungSys) : Prop :=
  ∀ x ∈ sys.running, ∀ rf, x.2.2 = some rf → rf < x.2.1

/-- at the milestone the report counts: a trial resumed from `f < milestone` is past the levels it re-reports -/
theorem PromoAns.cases {sys : RungSys} {tid r : Nat} {o : RepOut} (hok : RunOK sys) (h : PromoAns sys tid r o) :
    (o.continues = true ∧ o.reached = false) ∨ (o.continues = false ∧ o.reached = true ∧ o.ignoreData = false) := by
  obtain ⟨mr, hrun, hle, hig, hlt, heq⟩ := h
  rcases Nat.lt_or_ge r mr.1 with h1 | h1
  · exact .inl (hlt h1)
  · obtain rfl := Nat.le_antisymm hle h1
    refine .inr ⟨(heq rfl).1, (heq rfl).2, hig.trans ?_⟩
    cases hf : mr.2 with
    | none => rfl
    | some f => exact decide_eq_false (Nat.not_le.mpr (hok _ (mem_of_alookup hrun) f hf))

/-- The invariant behind contract K (pause-and-resume types).  `paused`: whoever has a not-yet-promoted rung entry
is recorded as not running; `nodup`: at most one such entry per trial, so a promotion removes the only one;
`runok`: what `PromoAns.cases` needs to know that a report at the milestone counts. -/
structure KInv (s : Sched) : Prop where
  pr : s.mgr.type.pauseResume = true
  paused : ∀ t ∈ unpromotedSys s.mgr.systems, NotRunning s t
  nodup : (unpromotedSys s.mgr.systems).Nodup
  runok : ∀ sys ∈ s.mgr.systems, RunOK sys

theorem plain_pauseResume {ty : HBType} (h : ty.plain) : ty.pauseResume = true := by
  rcases h with rfl | rfl <;> rfl

theorem NotRunning.of_active_eq {s s' : Sched} {t : Nat} (h : alookup t s'.active = alookup t s.active) :
    NotRunning s t → NotRunning s' t := fun ⟨rec, hr, hd⟩ => ⟨rec, h.trans hr, hd⟩

theorem unpromotedSys_set_same (ss : List RungSys) (i : Nat) (sys sys' : RungSys) (h : ss[i]? = some sys)
    (hr : unpromotedOf sys'.rungs = unpromotedOf sys.rungs) : unpromotedSys (ss.set i sys') = unpromotedSys ss := by
  unfold unpromotedSys
  rw [List.flatMap_def, List.flatMap_def, map_set_same _ ss i sys sys' h hr]

theorem runOK_set {ss : List RungSys} {i : Nat} {sys sys' : RungSys} (h : ss[i]? = some sys)
    (hr : RunOK sys → RunOK sys') (hall : ∀ y ∈ ss, RunOK y) : ∀ y ∈ ss.set i sys', RunOK y := by
  intro y hy
  rcases List.mem_or_eq_of_mem_set hy with hm | rfl
  · exact hall y hm
  · exact hr (hall sys (List.mem_of_getElem? h))

theorem runOK_of_running_eq {sys sys' : RungSys} (h : sys'.running = sys.running) : RunOK sys → RunOK sys' :=
  fun hok x hx => hok x (h ▸ hx)

theorem delRunningAt_unpromoted (ss : List RungSys) (i tid : Nat) :
    unpromotedSys (delRunningAt ss i tid) = unpromotedSys ss := by
  have h := congrArg (List.flatMap unpromotedOf) (delRunningAt_rungs ss i tid)
  simpa only [List.flatMap_map, unpromotedSys] using h

/-- what a manager operation other than a report does, in the terms of `KInv` -/
structure ScheduleRel (g g' : Manager) (so : Option SchedOut) : Prop where
  runok : (∀ sys ∈ g.systems, RunOK sys) → ∀ sys ∈ g'.systems, RunOK sys
  unpromoted : match so with
    | none => unpromotedSys g'.systems = unpromotedSys g.systems
    | some o => (unpromotedSys g.systems).Perm (o.trial :: unpromotedSys g'.systems)

theorem ScheduleRel.same {g g' : Manager} (h : ScheduleRel g g' none) :
    unpromotedSys g'.systems = unpromotedSys g.systems := h.unpromoted

theorem ScheduleRel.then_same {g g1 g2 : Manager} {so : Option SchedOut} (h1 : ScheduleRel g g1 so)
    (h2 : ScheduleRel g1 g2 none) : ScheduleRel g g2 so := by
  refine ⟨fun hr => h2.runok (h1.runok hr), ?_⟩
  cases so with
  | none => exact h2.same.trans h1.same
  | some o => exact h2.same ▸ h1.unpromoted

theorem taskRemove_rel (g : Manager) (tid : Nat) : ScheduleRel g (g.taskRemove tid) none := by
  rcases g.taskRemove_eq tid with h | ⟨i, h⟩ <;> rw [h]
  · exact ⟨id, rfl⟩
  · refine ⟨fun hall => ?_, delRunningAt_unpromoted _ _ _⟩
    show ∀ sys ∈ delRunningAt g.systems i tid, RunOK sys
    rcases delRunningAt_eq g.systems i tid with h' | ⟨s0, hs0, h'⟩ <;> rw [h']
    · exact hall
    · exact runOK_set hs0 (fun hok x hx => hok x (mem_adel hx)) hall

theorem ScheduleRel.of_eff {g : Manager} {i : Nat} {sys sys' : RungSys} {m : Mode} {so : Option SchedOut}
    (hs : g.systems[i]? = some sys) (eff : SchedEff m sys sys' so) : ScheduleRel g (g.setSys i sys') so := by
  refine ⟨runOK_set hs (runOK_of_running_eq eff.running), ?_⟩
  cases so with
  | none => exact unpromotedSys_set_same g.systems _ sys _ hs (congrArg unpromotedOf (eff.same rfl))
  | some o =>
    obtain ⟨pre, post, h1, h3⟩ := split_of_getElem? g.systems i sys hs
    show (unpromotedSys g.systems).Perm (o.trial :: unpromotedSys (g.systems.set i sys'))
    rw [h3, h1]
    exact flatMap_replace _ pre post sys' sys o.trial (eff.mark o rfl).1.unpromoted

theorem MgrSchedEff.rel {g g' : Manager} {so : Option SchedOut} (h : MgrSchedEff g g' so) : ScheduleRel g g' so := by
  rcases h with ⟨rfl, rfl⟩ | ⟨i, sys, sys', _, hs, rfl, eff⟩
  · exact ⟨id, rfl⟩
  · exact .of_eff hs eff

theorem taskAdd_rel {g g' : Manager} {tid bracket : Nat} {resume : Option (Nat × Nat)} {first : Nat}
    (h : g.taskAdd tid bracket resume = .ok (g', first)) : ScheduleRel g g' none := by
  obtain ⟨sys, sys', hs, ha, rfl, _⟩ := Manager.taskAdd_ok h
  rcases RungSys.taskAdd_ok ha with ⟨_, rfl⟩ | ⟨_, ms, rf, rfl, hlt, _⟩
  · exact ⟨runOK_set hs id, unpromotedSys_set_same g.systems _ _ _ hs rfl⟩
  · refine ⟨runOK_set hs fun hok x hx f hf => ?_, unpromotedSys_set_same g.systems _ sys _ hs rfl⟩
    rcases mem_aset hx with rfl | hx
    · exact hlt f hf
    · exact hok x hx f hf

/-- what a report does to one promotion rung system -/
structure ReportRel (s s' : RungSys) (tid : Nat) (o : RepOut) : Prop where
  running : s'.running = s.running
  cases : (unpromotedOf s'.rungs = unpromotedOf s.rungs) ∨
          (o.continues = false ∧ o.ignoreData = false ∧ (unpromotedOf s'.rungs).Perm (tid :: unpromotedOf s.rungs))

theorem ReportRel.of_eff {m : Mode} {s s' : RungSys} {tid r : Nat} {o : RepOut} (hok : RunOK s)
    (e : ReportEff m s s' tid r o) (a : PromoAns s tid r o) : ReportRel s s' tid o :=
  ⟨e.running, e.rungs.elim (fun h => .inl (congrArg unpromotedOf h)) fun ⟨hr, ad⟩ =>
    (a.cases hok).elim (fun c => by rw [c.2] at hr; cases hr) fun c => .inr ⟨c.1, c.2.2, ad.unpromoted⟩⟩

theorem MgrReportEff.rel {g g' : Manager} {tid r : Nat} {v : Rat} {hint : Bool} {o : RepOut}
    (h : MgrReportEff g g' tid r v hint o) (hty : g.type.pauseResume = true) (hrun : ∀ sys ∈ g.systems, RunOK sys) :
    (∀ sys ∈ g'.systems, RunOK sys) ∧
    ((unpromotedSys g'.systems = unpromotedSys g.systems) ∨
     (o.continues = false ∧ o.ignoreData = false ∧ (unpromotedSys g'.systems).Perm (tid :: unpromotedSys g.systems))) := by
  rcases h with ⟨_, rfl, _⟩ | ⟨b, sys, sys', o1, _, _, hs, rfl, rfl, eff, ⟨hf, _⟩ | ⟨_, ans⟩⟩
  · exact ⟨hrun, .inl rfl⟩
  · rw [hty] at hf; cases hf
  · have hrel := ReportRel.of_eff (hrun sys (List.mem_of_getElem? hs)) eff ans
    refine ⟨runOK_set hs (runOK_of_running_eq hrel.running) hrun, ?_⟩
    rcases hrel.cases with hc | ⟨c1, c2, c3⟩
    · exact .inl (unpromotedSys_set_same g.systems _ sys sys' hs hc)
    · obtain ⟨pre, post, h1, h3⟩ := split_of_getElem? g.systems (g.sysFor b).1 sys hs
      refine .inr ⟨by rw [fixNext_eq]; exact c1, by rw [fixNext_eq]; exact c2, ?_⟩
      rw [Manager.setSys, h3, h1]
      exact flatMap_replace _ pre post sys sys' tid c3

theorem notRunning_cleanup (s : Sched) (tid : Nat) (d : Decision) (hd : d ≠ .continue) (t : Nat)
    (h : NotRunning s t) : NotRunning (s.cleanup tid d) t := by
  obtain ⟨rec, hr, hdec⟩ := h
  unfold NotRunning
  rw [Sched.cleanup_active]
  split
  · subst_vars; exact ⟨_, by rw [hr]; rfl, hd⟩
  · exact ⟨rec, hr, hdec⟩

theorem cleanup_KInv (s : Sched) (tid : Nat) (d : Decision) (hd : d ≠ .continue) (h : KInv s) :
    KInv (s.cleanup tid d) := by
  have hr := taskRemove_rel s.mgr tid
  refine ⟨(congrArg (·.type.pauseResume) (s.mgr.taskRemove_const tid)).trans h.pr, fun t ht => ?_, ?_, hr.runok h.runok⟩
  · exact notRunning_cleanup s tid d hd t (h.paused t (hr.same ▸ ht))
  · exact hr.same ▸ h.nodup

/-- How `_suggest` changes the unpromoted rung entries and the recorded decisions once the rung system has
answered `(g, so)`: a `start` of a trial unknown so far changes no entry; a `resume` removes one entry of a
trial recorded as not running.  Only the suggested trial's record changes. -/
theorem afterSchedule_effect {s s' : Sched} {g : Manager} {so : Option SchedOut} {n b ms : Nat} {fr0 : Bool}
    {sg : Suggestion} {calls : List SCall} {fr : Bool} (hinv : KInv s) (heff : MgrSchedEff s.mgr g so)
    (h : s.afterSchedule g so n b ms fr0 = .ok (s', sg, calls, fr)) :
    (∀ sys ∈ s'.mgr.systems, RunOK sys) ∧
    ((sg = .start n b ms ∧ alookup n s.active = none ∧
        unpromotedSys s'.mgr.systems = unpromotedSys s.mgr.systems ∧
        ∀ t, t ≠ n → alookup t s'.active = alookup t s.active) ∨
     (∃ t f ms, sg = .resume t f ms ∧ NotRunning s t ∧
        (unpromotedSys s.mgr.systems).Perm (t :: unpromotedSys s'.mgr.systems) ∧
        ∀ t', t' ≠ t → alookup t' s'.active = alookup t' s.active)) := by
  obtain ⟨g2, first, ⟨rfl, hnone, hta, rfl, _, rfl⟩ | ⟨o, rec, rfl, hta, hrec, hd, rfl, _, rfl⟩⟩ :=
    Sched.afterSchedule_ok h
  · have hr := heff.rel.then_same (taskAdd_rel hta)
    exact ⟨hr.runok hinv.runok, .inl ⟨rfl, hnone, hr.same, fun t ht => alookup_aset_ne ht _ _⟩⟩
  · have hr := heff.rel.then_same (taskAdd_rel hta)
    exact ⟨hr.runok hinv.runok, .inr ⟨_, _, _, rfl, ⟨rec, hrec, hd⟩, hr.unpromoted,
      fun t ht => alookup_aset_ne ht _ _⟩⟩

theorem afterSchedule_resumed_gone {s s' : Sched} {g : Manager} {so : Option SchedOut} {n b ms : Nat} {fr0 : Bool}
    {t f m : Nat} {calls : List SCall} {fr : Bool} (hinv : KInv s) (heff : MgrSchedEff s.mgr g so)
    (h : s.afterSchedule g so n b ms fr0 = .ok (s', .resume t f m, calls, fr)) : t ∉ unpromotedSys s'.mgr.systems := by
  obtain ⟨_, ⟨hsg, _⟩ | ⟨t0, _, _, hsg, _, hperm, _⟩⟩ := afterSchedule_effect hinv heff h
  · cases hsg
  · cases hsg
    exact (List.nodup_cons.mp (hperm.nodup_iff.mp hinv.nodup)).1

theorem afterSchedule_KInv {s s' : Sched} {g : Manager} {so : Option SchedOut} {newTid bracket ms : Nat}
    {fr0 : Bool} {sg : Suggestion} {calls : List SCall} {fr : Bool} (hinv : KInv s) (heff : MgrSchedEff s.mgr g so)
    (h : s.afterSchedule g so newTid bracket ms fr0 = .ok (s', sg, calls, fr)) :
    KInv s' ∧ (∀ t f m, sg = .resume t f m → NotRunning s t) ∧
    (∀ t b m, sg = .start t b m → alookup t s.active = none) := by
  have hpr := (congrArg (·.type.pauseResume) (Sched.afterSchedule_const heff.const h)).trans hinv.pr
  obtain ⟨hrun, ⟨rfl, hnone, hun, hact⟩ | ⟨t, f, ms, rfl, hnr, hperm, hact⟩⟩ := afterSchedule_effect hinv heff h
  · refine ⟨⟨hpr, fun t ht => ?_, hun ▸ hinv.nodup, hrun⟩, nofun,
      (fun _ _ _ e => by cases e; exact hnone)⟩
    obtain ⟨rec, hr, hd⟩ := hinv.paused t (hun ▸ ht)
    exact NotRunning.of_active_eq (hact t (by rintro rfl; rw [hnone] at hr; cases hr)) ⟨rec, hr, hd⟩
  · have hnd := List.nodup_cons.mp (hperm.nodup_iff.mp hinv.nodup)
    refine ⟨⟨hpr, fun t' ht' => ?_, hnd.2, hrun⟩,
      (fun _ _ _ e => by cases e; exact hnr), nofun⟩
    exact NotRunning.of_active_eq (hact t' (by rintro rfl; exact hnd.1 ht'))
      (hinv.paused t' (hperm.mem_iff.mpr (List.mem_cons_of_mem _ ht')))

/-- Contract K, one step: on a state satisfying `KInv`, whenever `_suggest` answers, the invariant is
preserved; and if the answer is `resume(t, …)` then the scheduler recorded `t` as not running before the
call (decision PAUSE or STOP) — in particular the assertions "Paused trial must be in _active_trials" /
"Paused trial marked as running" of `_promote_trial` are unreachable. -/
theorem suggest_KInv {s s' : Sched} {newTid bracket : Nat} {hint : Option Nat} {sg : Suggestion}
    {calls : List SCall} {fr : Bool} (hinv : KInv s)
    (h : s.suggest newTid bracket hint = .ok (s', sg, calls, fr)) :
    KInv s' ∧ (∀ t f m, sg = .resume t f m → NotRunning s t) ∧
    (∀ t b m, sg = .start t b m → alookup t s.active = none) := by
  obtain ⟨g, so, ms, fr0, hts, ha⟩ := Sched.suggest_ok h
  exact afterSchedule_KInv hinv (Manager.taskSchedule_eff hts) ha

/-- How `on_trial_result` changes the unpromoted rung entries and the recorded decisions: only the
reporting trial's record changes; either no entry changes and the trial stays not running if it was, or
the trial was running, gains one entry and is recorded as paused or stopped. -/
theorem onResult_effect {s s' : Sched} {tid r : Nat} {v : Rat} {hint : Bool} {cost eps : Rat} {out : ResOut}
    (hinv : KInv s) (h : s.onResult tid r v hint cost eps = .ok (s', out)) :
    (∀ sys ∈ s'.mgr.systems, RunOK sys) ∧
    (∀ t, t ≠ tid → alookup t s'.active = alookup t s.active) ∧
    ((unpromotedSys s'.mgr.systems = unpromotedSys s.mgr.systems ∧ (NotRunning s tid → NotRunning s' tid)) ∨
     ((unpromotedSys s'.mgr.systems).Perm (tid :: unpromotedSys s.mgr.systems) ∧ NotRunning s' tid ∧
        ¬ NotRunning s tid)) := by
  obtain ⟨rec, hrec, ⟨_, rfl, _⟩ | ⟨hcont, g, o, co, hrep, hcase⟩⟩ := Sched.onResult_ok h
  · exact ⟨hinv.runok, fun _ _ => rfl, .inl ⟨rfl, id⟩⟩
  · obtain ⟨t3, t4⟩ := (Manager.taskReport_eff hrep).rel hinv.pr hinv.runok
    have hrunning : ¬ NotRunning s tid := fun ⟨rec2, hr2, hd2⟩ => by
      rw [hrec] at hr2; cases hr2; exact hd2 hcont
    rcases hcase with ⟨hig, rfl, _⟩ | ⟨hig, _, rfl, _, rfl, _⟩
    · refine ⟨t3, fun _ _ => rfl, .inl ⟨?_, fun h => absurd h hrunning⟩⟩
      rcases t4 with h4 | ⟨_, c2, _⟩
      · exact h4
      · rw [hig] at c2; cases c2
    · have hact : ∀ t, t ≠ tid → alookup t (({ s with mgr := g, costOffset := co } : Sched).live tid r v rec o).active
          = alookup t s.active := fun t ht => by rw [Sched.live_active _ _ _ _ _ _ hcont, if_neg ht]
      rw [Sched.live_mgr]
      cases hc : o.continues with
      | true =>
        refine ⟨t3, hact, .inl ⟨?_, fun h => absurd h hrunning⟩⟩
        rcases t4 with h4 | ⟨c1, _, _⟩
        · exact h4
        · rw [hc] at c1; cases c1
      | false =>
        have hr := taskRemove_rel g tid
        have hnr : NotRunning (({ s with mgr := g, costOffset := co } : Sched).live tid r v rec o) tid :=
          ⟨_, by rw [Sched.live_active _ _ _ _ _ _ hcont, if_pos rfl],
            (decisionFor_continue _ r o).not.mpr (by rw [hc]; exact Bool.false_ne_true)⟩
        refine ⟨hr.runok t3, hact, ?_⟩
        rcases t4 with h4 | ⟨_, _, c3⟩
        · exact .inl ⟨hr.same.trans h4, fun _ => hnr⟩
        · exact .inr ⟨hr.same ▸ c3, hnr, hrunning⟩

theorem onResult_KInv {s s' : Sched} {tid r : Nat} {v : Rat} {hint : Bool} {cost eps : Rat} {out : ResOut}
    (hinv : KInv s) (h : s.onResult tid r v hint cost eps = .ok (s', out)) : KInv s' := by
  have hpr := (congrArg (·.type.pauseResume) (Sched.onResult_const h)).trans hinv.pr
  obtain ⟨hrun, hact, hcase⟩ := onResult_effect hinv h
  have hother : ∀ t, t ∈ unpromotedSys s.mgr.systems → t ≠ tid → NotRunning s' t :=
    fun t ht hne => NotRunning.of_active_eq (hact t hne) (hinv.paused t ht)
  rcases hcase with ⟨hun, hkeep⟩ | ⟨hperm, hnr, hrunning⟩
  · refine ⟨hpr, fun t ht => ?_, hun ▸ hinv.nodup, hrun⟩
    by_cases he : t = tid
    · exact he ▸ hkeep (hinv.paused tid (he ▸ hun ▸ ht))
    · exact hother t (hun ▸ ht) he
  · refine ⟨hpr, fun t ht => ?_, ?_, hrun⟩
    · rcases List.mem_cons.mp (hperm.mem_iff.mp ht) with rfl | ht
      · exact hnr
      · by_cases he : t = tid
        · exact he ▸ hnr
        · exact hother t ht he
    · exact hperm.nodup_iff.mpr (List.nodup_cons.mpr ⟨fun hm => hrunning (hinv.paused tid hm), hinv.nodup⟩)

end SyneTune
