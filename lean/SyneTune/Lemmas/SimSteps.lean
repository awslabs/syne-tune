import SyneTune.Lemmas.SimBasic
/-
Every method of the simulator backend is a sequence of a few elementary state changes
(`Prim`, `Path`; `resume_trial` is a path followed by the reset of the trial's record): an invariant of
the histories is checked against these changes, once each, instead of against every method (`*_path` per
method).  At the end the first such invariant, the simulated clock: it never runs backwards; a stop / pause
command charges `delay_stop`, `delay_complete_after_stop` and the two guards exactly once.
-/
namespace SyneTune.SimL
open SyneTune SyneTune.Backend SyneTune.SimTab

variable {J : Type}

/-- `a ⊕ b ≥ a` for `b ≥ 0`: an assumption on the arithmetic, proved here for exact addition only
(`addGe_exact`) -/
def AddGe (A : Arith) : Prop := ∀ a b : Rat, 0 ≤ b → a ≤ A.add a b

/-- the ghost fields of a trial record that `runsOf` and the invariant about results after a resume (`RT`, SimPrefix) look at -/
def rv (x : STrial) : Nat × List Tag × Bool × Nat × Bool :=
  (x.runs, x.since, x.droppedSince, x.expectRun, x.queuedAtResume)

/-- what `resume_trial` does to the record of the trial -/
def STrial.resumed (q : Bool) (y : STrial) : STrial :=
  { y with status := .inProgress, commanded := false, flushed := false, since := [], droppedSince := false,
           expectRun := y.runs, queuedAtResume := q }

section
variable {A : Arith} {job : JobFn J} {s s' : Sim J}

theorem advance_ok {step : Rat} (h : s.advance A step = .ok s') :
    0 ≤ step ∧ s' = { s with now := A.add s.now step } := by
  unfold Sim.advance at h
  split at h
  · cases h
  · cases h; exact ⟨not_lt.mp ‹_›, rfl⟩

theorem schedule_ok {t : Nat} (h : s.schedule A job t = .ok s') :
    ∃ s1 s2, s.advanceOutside A = .ok s1 ∧ Sim.processUntil A job simFuel s1 = .ok s2 ∧
      s' = (s2.push (A.add s2.now s2.cfg.dStart) t .start).markExit := by
  unfold Sim.schedule at h
  cases h1 : s.advanceOutside A with
  | error e => rw [h1] at h; cases h
  | ok s1 =>
    rw [h1] at h; simp only at h
    cases h2 : Sim.processUntil A job simFuel s1 with
    | error e => rw [h2] at h; cases h
    | ok s2 => rw [h2] at h; cases h; exact ⟨s1, s2, rfl, h2, rfl⟩

theorem stopOrPause_ok {t : Nat} {st : St} (h : s.stopOrPause A job t st = .ok s') :
    ∃ s1 s3 s5, s.advanceOutside A = .ok s1 ∧
      Sim.processUntil A job simFuel
        ((s1.push (A.add s1.now s1.cfg.dStop) t .stop).advanceTo (A.add (A.add s1.now s1.cfg.dStop) s1.cfg.guard)) = .ok s3 ∧
      Sim.processUntil A job simFuel
        ((s3.push (A.add s3.now s3.cfg.dCompleteStop) t (.complete st none)).advanceTo
          (A.add (A.add s3.now s3.cfg.dCompleteStop) s3.cfg.guard)) = .ok s5 ∧
      s' = s5.markExit := by
  unfold Sim.stopOrPause at h
  cases h1 : s.advanceOutside A with
  | error e => rw [h1] at h; cases h
  | ok s1 =>
    rw [h1] at h; simp only at h
    cases h3 : Sim.processUntil A job simFuel
        ((s1.push (A.add s1.now s1.cfg.dStop) t .stop).advanceTo (A.add (A.add s1.now s1.cfg.dStop) s1.cfg.guard)) with
    | error e => rw [h3] at h; cases h
    | ok s3 =>
      rw [h3] at h; simp only at h
      cases h5 : Sim.processUntil A job simFuel
          ((s3.push (A.add s3.now s3.cfg.dCompleteStop) t (.complete st none)).advanceTo
            (A.add (A.add s3.now s3.cfg.dCompleteStop) s3.cfg.guard)) with
      | error e => rw [h5] at h; cases h
      | ok s5 => rw [h5] at h; cases h; exact ⟨s1, s3, s5, rfl, h3, h5, rfl⟩

theorem fetch_ok {ids : List Nat} {sts : List (Nat × St)} {res : List (Nat × Arrived)}
    (h : s.fetch A job ids = .ok (s', sts, res)) :
    ∃ s1 s2, s.advanceOutside A = .ok s1 ∧ Sim.processUntil A job simFuel s1 = .ok s2 ∧
      res = (fetchCovered s2 ids).2 ∧
      s' = ({ (dropRest (fetchCovered s2 ids).1 (fetchCovered s2 ids).1.next) with
              trials := markFlushed ids (dropRest (fetchCovered s2 ids).1 (fetchCovered s2 ids).1.next).trials } : Sim J).markExit := by
  unfold Sim.fetch at h
  cases h1 : s.advanceOutside A with
  | error e => rw [h1] at h; cases h
  | ok s1 =>
    rw [h1] at h; simp only at h
    cases h2 : Sim.processUntil A job simFuel s1 with
    | error e => rw [h2] at h; cases h
    | ok s2 =>
      rw [h2] at h; simp only at h
      split at h
      · cases h
      · simp only [Except.ok.injEq, Prod.mk.injEq] at h
        exact ⟨s1, s2, rfl, h2, h.2.2.symm, h.1.symm⟩

theorem startTrial_ok {setCfg : Nat → J → J} {tid : Nat} (h : s.startTrial A job setCfg = .ok (s', tid)) :
    ∃ s1, s.schedule A job s.trials.length = .ok s1 ∧
      s' = { s1 with trials := s1.trials ++ [{}], js := setCfg s.trials.length s1.js } := by
  unfold Sim.startTrial at h
  cases h1 : s.schedule A job s.trials.length with
  | error e => simp only [h1] at h; cases h
  | ok s1 => simp only [h1, Except.ok.injEq, Prod.mk.injEq] at h; exact ⟨s1, rfl, h.1.symm⟩

theorem resumeTrial_ok {t : Nat} {setCfg : J → J} (h : s.resumeTrial A job t setCfg = .ok s') :
    ∃ x s1, s.trials[t]? = some x ∧ x.isResult = true ∧ x.status = .paused ∧
      Sim.schedule A job ({ s with js := setCfg s.js } : Sim J) t = .ok s1 ∧
      s' = s1.updT t (STrial.resumed (alookup t s1.next).isSome) := by
  unfold Sim.resumeTrial at h
  cases hx : s.trials[t]? with
  | none => rw [hx] at h; cases h
  | some x =>
    rw [hx] at h
    simp only at h
    split at h
    · cases h
    · rename_i hres
      split at h
      · cases h
      · rename_i hpa
        cases h1 : Sim.schedule A job ({ s with js := setCfg s.js } : Sim J) t with
        | error e => rw [h1] at h; cases h
        | ok s1 => rw [h1] at h; cases h; exact ⟨x, s1, rfl, by simpa using hres, by simpa using hpa, rfl, rfl⟩

theorem pauseTrial_ok {t : Nat} {after : J → J} (h : s.pauseTrial A job t after = .ok s') :
    t < s.trials.length ∧ ∃ s1,
      (s.updT t fun y => { y with status := .paused, commanded := true, flushed := false }).stopOrPause A job t .paused = .ok s1 ∧
      s' = { s1 with js := after s1.js } := by
  unfold Sim.pauseTrial at h
  split at h
  · rename_i hl
    cases h1 : Sim.stopOrPause A job (s.updT t fun y => { y with status := .paused, commanded := true, flushed := false }) t .paused with
    | error e => simp only [h1] at h; cases h
    | ok s1 => simp only [h1] at h; cases h; exact ⟨hl, s1, rfl, rfl⟩
  · cases h

end

/-- The state changes the backend methods are composed of.  `H` bounds what the hooks of the
subclass do to the job state. -/
inductive Prim (A : Arith) (job : JobFn J) (H : J → J → Prop) : Sim J → Sim J → Prop
  /-- the event loop handles the first heap entry, which is due -/
  | event {s s' : Sim J} {e : Ev} {rest : List Ev} : s.heap = e :: rest → e.time ≤ s.now →
      ({ s with heap := rest } : Sim J).processEvent A job e = .ok s' → Prim A job H s s'
  /-- a method pushes a start, stop or completion event -/
  | push (s : Sim J) (tm : Rat) (t : Nat) {k : EvKind} : (∀ r tag, k ≠ .result r tag) →
      (∀ st r, k ≠ .complete st (some r)) → Prim A job H s (s.push tm t k)
  /-- the time keeper: `advance` with a step `≥ 0`, `advance_to`, `mark_exit`, real time.  `advance` adds with `A.add`,
  so the clock is known not to go back only under `AddGe A`; the paths exist without that assumption, hence the implication -/
  | clock (s : Sim J) {now : Rat} (real exit : Rat) : (AddGe A → s.now ≤ now) →
      Prim A job H s { s with now := now, realNow := real, lastExit := exit }
  | hook (s : Sim J) {js' : J} : H s.js js' → Prim A job H s { s with js := js' }
  | newTrial (s : Sim J) : Prim A job H s { s with trials := s.trials ++ [{}] }
  /-- status and command flags of trials change, their histories do not -/
  | flags (s : Sim J) {l : List STrial} : l.map rv = s.trials.map rv →
      l.map (·.completedRun) = s.trials.map (·.completedRun) → Prim A job H s { s with trials := l }
  /-- the two loops of a poll over the arrived results -/
  | deliver (s : Sim J) (ids : List Nat) :
      Prim A job H s (dropRest (fetchCovered s ids).1 (fetchCovered s ids).1.next)

abbrev Path (A : Arith) (job : JobFn J) (H : J → J → Prop) : Sim J → Sim J → Prop :=
  Relation.ReflTransGen (Prim A job H)

theorem Path.keeps {A : Arith} {job : JobFn J} {H : J → J → Prop} {P : Sim J → Prop}
    (hP : ∀ a b, Prim A job H a b → P a → P b) {s s' : Sim J} (hp : Path A job H s s') (h : P s) : P s' := by
  induction hp with
  | refl => exact h
  | tail _ hab ih => exact hP _ _ hab ih

section
variable {A : Arith} {job : JobFn J} {H : J → J → Prop} {s s' : Sim J}

theorem Prim.advanceTo (s : Sim J) (tm : Rat) : Prim A job H s (s.advanceTo tm) :=
  .clock s s.realNow s.lastExit fun _ => le_maxRat_left _ _

theorem Prim.markExit (s : Sim J) : Prim A job H s s.markExit :=
  .clock s s.realNow s.realNow fun _ => le_refl _

theorem Prim.updT (s : Sim J) (t : Nat) {f : STrial → STrial} (h1 : ∀ y, rv (f y) = rv y)
    (h2 : ∀ y, (f y).completedRun = y.completedRun) : Prim A job H s (s.updT t f) :=
  .flags s (map_modifyAt h1 t _) (map_modifyAt h2 t _)

theorem Prim.cfg (hp : Prim A job H s s') : s'.cfg = s.cfg := by
  cases hp with
  | event _ _ hev => exact (processEvent_fields hev).cfg
  | deliver ids => exact (deliver_frame s ids).cfg
  | _ => rfl

theorem advance_path {step : Rat} (h : s.advance A step = .ok s') : Path A job H s s' := by
  obtain ⟨h0, rfl⟩ := advance_ok h
  exact .single (.clock s s.realNow s.lastExit fun hA => hA _ _ h0)

theorem processUntil_path {fuel : Nat} (h : Sim.processUntil A job fuel s = .ok s') : Path A job H s s' :=
  processUntil_induct A job (Path A job H s) (fun _ _ _ _ ha hh hd hev => ha.tail (.event hh hd hev)) fuel s s' .refl h

theorem schedule_path {t : Nat} (h : s.schedule A job t = .ok s') : Path A job H s s' := by
  obtain ⟨s1, s2, h1, h2, rfl⟩ := schedule_ok h
  exact (((advance_path h1).trans (processUntil_path h2)).tail
    (.push s2 _ t (by intro _ _ hk; cases hk) (by intro _ _ hk; cases hk))).tail (.markExit _)

theorem stopOrPause_path {t : Nat} {st : St} (h : s.stopOrPause A job t st = .ok s') : Path A job H s s' := by
  obtain ⟨s1, s3, s5, h1, h3, h5, rfl⟩ := stopOrPause_ok h
  have p3 : Path A job H s s3 := (((advance_path h1).tail
    (.push s1 _ t (k := .stop) (by intro _ _ hk; cases hk) (by intro _ _ hk; cases hk))).tail
    (.advanceTo _ _)).trans (processUntil_path h3)
  exact (((p3.tail (.push s3 _ t (k := .complete st none) (by intro _ _ hk; cases hk) (by intro _ _ hk; cases hk))).tail
    (.advanceTo _ _)).trans (processUntil_path h5)).tail (.markExit _)

theorem fetch_path {ids : List Nat} {sts : List (Nat × St)} {res : List (Nat × Arrived)}
    (h : s.fetch A job ids = .ok (s', sts, res)) : Path A job H s s' := by
  obtain ⟨s1, s2, h1, h2, _, rfl⟩ := fetch_ok h
  exact ((((advance_path h1).trans (processUntil_path h2)).tail (.deliver s2 ids)).tail
    (.flags _ (map_markFlushed (fun _ => rfl) ids _) (map_markFlushed (fun _ => rfl) ids _))).tail (.markExit _)

theorem stopTrial_path {t : Nat} (h : s.stopTrial A job t = .ok s') : Path A job H s s' := by
  unfold Sim.stopTrial at h
  refine (stopOrPause_path h).head ?_
  exact .updT s t (fun _ => rfl) (fun _ => rfl)

theorem stopAllGo_path (l : List Nat) : ∀ {s s' : Sim J}, simStopAllGo A job s l = .ok s' → Path A job H s s' := by
  induction l with
  | nil => intro s s' h; cases h; exact .refl
  | cons t rest ih =>
    intro s s' h
    unfold simStopAllGo at h
    split at h
    · exact ih h
    · split at h
      · cases h1 : s.stopTrial A job t with
        | error e => rw [h1] at h; cases h
        | ok s1 => rw [h1] at h; exact (stopTrial_path h1).trans (ih h)
      · exact ih h

theorem startTrial_path {setCfg : Nat → J → J} {tid : Nat} (hH : ∀ js, H js (setCfg s.trials.length js))
    (h : s.startTrial A job setCfg = .ok (s', tid)) : Path A job H s s' := by
  obtain ⟨s1, h1, rfl⟩ := startTrial_ok h
  exact ((schedule_path h1).tail (.newTrial s1)).tail (.hook _ (hH s1.js))

theorem pauseTrial_path {t : Nat} {after : J → J} (hH : ∀ js, H js (after js))
    (h : s.pauseTrial A job t after = .ok s') : Path A job H s s' := by
  obtain ⟨_, s1, h1, rfl⟩ := pauseTrial_ok h
  refine ((stopOrPause_path h1).head ?_).tail (.hook s1 (hH s1.js))
  exact .updT s t (fun _ => rfl) (fun _ => rfl)

/-- `resume_trial`: a path, then the reset of the trial's record -/
theorem resumeTrial_path {t : Nat} {setCfg : J → J} (hH : H s.js (setCfg s.js))
    (h : s.resumeTrial A job t setCfg = .ok s') :
    ∃ s1 q, Path A job H s s1 ∧ s' = s1.updT t (STrial.resumed q) := by
  obtain ⟨_, s1, _, _, _, h1, rfl⟩ := resumeTrial_ok h
  exact ⟨s1, _, (schedule_path h1).head (.hook s hH), rfl⟩

end

theorem Prim.now_le {A : Arith} {job : JobFn J} {H : J → J → Prop} (hA : AddGe A) {s s' : Sim J}
    (hp : Prim A job H s s') : s.now ≤ s'.now := by
  cases hp with
  | event _ _ hev => exact le_of_eq (processEvent_fields hev).now.symm
  | clock _ _ h => exact h hA
  | deliver ids => exact le_of_eq (deliver_frame s ids).now.symm
  | _ => exact le_refl _

/-- the clock after `_stop_or_pause_trial` -/
def stopClock (A : Arith) (s : Sim J) : Rat :=
  let n1 := A.add s.now (A.sub s.realNow s.lastExit)
  let n2 := maxRat n1 (A.add (A.add n1 s.cfg.dStop) s.cfg.guard)
  maxRat n2 (A.add (A.add n2 s.cfg.dCompleteStop) s.cfg.guard)

theorem stopOrPause_now {A : Arith} {job : JobFn J} {s s' : Sim J} {t : Nat} {st : St}
    (h : s.stopOrPause A job t st = .ok s') : s'.now = stopClock A s := by
  obtain ⟨s1, s3, s5, h1, h3, h5, rfl⟩ := stopOrPause_ok h
  obtain ⟨_, rfl⟩ := advance_ok h1
  have f3 := processUntil_fields h3
  have f5 := processUntil_fields h5
  show s5.now = _
  rw [f5.now]
  simp only [Sim.advanceTo, push_now, push_cfg]
  rw [f3.cfg, f3.now]
  rfl

theorem addGe_exact : AddGe Arith.exact := by
  intro a b hb; show a ≤ a + b; linarith

theorem stopClock_exact (s : Sim J) (hreal : s.realNow = s.lastExit) (h1 : 0 ≤ s.cfg.dStop)
    (h2 : 0 ≤ s.cfg.dCompleteStop) (hg : 0 ≤ s.cfg.guard) :
    stopClock Arith.exact s = s.now + s.cfg.dStop + s.cfg.guard + s.cfg.dCompleteStop + s.cfg.guard := by
  have hmax : ∀ a b : Rat, a ≤ b → maxRat a b = b := by
    intro a b hab; unfold maxRat; split
    · rfl
    · linarith
  simp only [stopClock, Arith.exact, hreal, sub_self, add_zero]
  rw [hmax _ _ (by linarith), hmax _ _ (by linarith)]

end SyneTune.SimL
