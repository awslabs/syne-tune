import SyneTune.Lemmas.TunerC12
/-
Behind C12b / C01b: the classes of control points in which the count invariants speak, and counting lemmas on
association lists (`last_trial_status_seen`): counts of statuses after `dict.update`, the potential `psi`.
Then the invariant behind C12b: overshoot of a count-based stopping criterion `numIn p > m` for a status test `p`
(`p` = completed: `max_num_trials_completed`; `p` = completed/stopped/stopping/failed:
`max_num_trials_finished`).  One invariant, generic in `p`:

* while the last evaluation of the stopping condition was false, the count is `≤ m` from the
  `while` test up to `tuning_status.update`, and `≤ m + n_workers` everywhere in the loop
  (one `_process_new_results` changes the recorded status of running trials only, and at most
  `n_workers` trials run);
* the potential `psi` (recorded trials passing the test OR in the running set) never exceeds
  `m + 2·n_workers`: it does not grow in `_process_new_results`, and it grows in
  `_schedule_new_tasks` only while the stopping condition is false;
* without `wait_trial_completion_when_stopping` an iteration never begins with the stopping
  condition true, hence the count stays `≤ m + n_workers`.
The second status test `q` (a test that `mark_running_job_as_stopped` cannot tell apart, bounded by
the potential at the entry of the `finally` block) carries the `m + 2·n_workers` bound to the end.
-/
namespace SyneTune.Tuner.Cnt
open SyneTune SyneTune.Tuner AL

/-- from the `while` test to the end of `_process_new_results`, before `tuning_status.update` -/
def prePc : Pc → Bool
  | .loopHead => true
  | p => iterPc p

/-- inside the loop, or at the entry of the `finally` block (status and running set as the loop left them) -/
def ipPc (p : Pc) : Bool := !finPc p || p == .finTuningEnd

/-- after `mark_running_job_as_stopped` (or after an exception inside the `finally` block) -/
def markedPc : Pc → Bool
  | .hfOut | .hfErr | .done => true
  | _ => false

theorem prePc_from : EnteredFrom [.evalStop, .clock] (prePc · = true) := by decide +kernel

theorem ipPc_from : EnteredFrom [] (ipPc · = true) := by decide +kernel

theorem ip_back {p q : Pc} (hf : flow p q = true) (hq : ipPc q = true) : ipPc p = true :=
  ipPc_from.back hf rfl nofun hq

theorem unmarked_from : EnteredFrom [] (markedPc · = false) := by decide +kernel

theorem notip_back (p q : Pc) (hf : flow p q = true) (hq : ipPc q = false) : finPc p = true :=
  flow_rel (R := fun p q => ipPc q = false → finPc p = true) (by decide +kernel) hf hq

theorem prePc_fin : ∀ q : Pc, finPc q = true → prePc q = false := Pc.forall (by decide +kernel)

theorem ip_of_loop {p : Pc} (h : finPc p = false) : ipPc p = true := by unfold ipPc; rw [h]; rfl

/-- `TuningStatus._num_trials` -/
def cnt (p : St → Bool) (l : List (Nat × St)) : Nat := l.countP (fun kv => p kv.2)

def psi (p : St → Bool) (R : List Nat) (l : List (Nat × St)) : Nat :=
  l.countP (fun kv => p kv.2 || decide (kv.1 ∈ R))

theorem numIn_eq (ts : TStatus) (p : St → Bool) : ts.numIn p = cnt p ts.last := by
  unfold TStatus.numIn cnt; rw [List.countP_eq_length_filter]

theorem cnt_le_psi (p : St → Bool) (R : List Nat) (l : List (Nat × St)) : cnt p l ≤ psi p R l := by
  unfold cnt psi
  apply List.countP_mono_left
  intro x _ hx
  simp [hx]

theorem psi_mono_R (p : St → Bool) {R R' : List Nat} (h : ∀ x ∈ R', x ∈ R) (l : List (Nat × St)) :
    psi p R' l ≤ psi p R l := by
  unfold psi
  apply List.countP_mono_left
  intro x _ hx
  simp only [Bool.or_eq_true, decide_eq_true_eq] at hx ⊢
  rcases hx with hx | hx
  · exact Or.inl hx
  · exact Or.inr (h _ hx)

theorem countP_or_le {α} (a b : α → Bool) (l : List α) :
    l.countP (fun x => a x || b x) ≤ l.countP a + l.countP b := by
  induction l with
  | nil => simp
  | cons x xs ih =>
    simp only [List.countP_cons]
    cases ha : a x <;> cases hb : b x <;> simp <;> omega

theorem countP_mem_le (R : List Nat) (l : List (Nat × St)) (hn : (keys l).Nodup) :
    l.countP (fun kv => decide (kv.1 ∈ R)) ≤ R.length := by
  rw [List.countP_eq_length_filter]
  have h1 : ((l.filter (fun kv => decide (kv.1 ∈ R))).map (·.1)).length = (l.filter (fun kv => decide (kv.1 ∈ R))).length := by
    simp
  rw [← h1]
  apply List.Nodup.length_le_of_subset
  · exact List.Nodup.sublist (List.Sublist.map _ List.filter_sublist) hn
  · intro x hx
    obtain ⟨kv, hkv, rfl⟩ := List.mem_map.mp hx
    have := (List.mem_filter.mp hkv).2
    simpa using this

theorem numIn_le_psi (p : St → Bool) (R : List Nat) (ts : TStatus) : ts.numIn p ≤ psi p R ts.last :=
  numIn_eq ts p ▸ cnt_le_psi p R ts.last

theorem psi_le_numIn (p : St → Bool) (R : List Nat) (ts : TStatus) (hn : (keys ts.last).Nodup) :
    psi p R ts.last ≤ ts.numIn p + R.length := by
  rw [numIn_eq]; unfold psi cnt
  exact Nat.le_trans (countP_or_le _ _ _) (Nat.add_le_add_left (countP_mem_le R _ hn) _)

theorem psi_aset_mem (p : St → Bool) (R : List Nat) (k : Nat) (v : St) (l : List (Nat × St))
    (hR : k ∈ R) (hk : k ∈ keys l) : psi p R (aset k v l) = psi p R l := by
  induction l with
  | nil => simp [keys] at hk
  | cons x xs ih =>
    obtain ⟨k', v'⟩ := x
    by_cases h : k = k'
    · subst h
      simp [aset, psi, hR]
    · have hk' : k ∈ keys xs := by
        simp only [keys, List.map_cons, List.mem_cons] at hk
        rcases hk with hk | hk
        · exact absurd hk h
        · exact hk
      have := ih hk'
      unfold psi at this ⊢
      simp only [aset, h, if_false, List.countP_cons, this]

theorem psi_aupdate (p : St → Bool) (R : List Nat) (items l : List (Nat × St))
    (h : ∀ k ∈ keys items, k ∈ R ∧ k ∈ keys l) : psi p R (aupdate l items) = psi p R l := by
  induction items generalizing l with
  | nil => rfl
  | cons x xs ih =>
    rw [aupdate_cons]
    have hx := h x.1 (by simp [keys])
    have hk := keys_aset_of_mem hx.2 x.2
    rw [ih, psi_aset_mem p R _ _ _ hx.1 hx.2]
    intro k hk'
    rw [hk]
    exact h k (by simp only [keys, List.map_cons, List.mem_cons] at hk' ⊢; exact Or.inr hk')

theorem cnt_aset_le (p : St → Bool) (k : Nat) (v : St) (l : List (Nat × St)) (hv : p v = false) :
    cnt p (aset k v l) ≤ cnt p l := by
  have := countP_aset p k v l
  rw [hv] at this
  exact Nat.le_of_add_right_le (Nat.le_of_eq this)

/-- a status test that `mark_running_job_as_stopped` cannot tell apart -/
def MarkInv (p : St → Bool) : Prop := p .inProgress = p .stopped

theorem numIn_markStopped_of_markInv (p : St → Bool) (hp : MarkInv p) (ts : TStatus) : ts.markStopped.numIn p = ts.numIn p :=
  (numIn_markStopped p ts).trans (numIn_congr (fun v => by
    split
    · rename_i h; rw [h]; exact hp.symm
    · rfl) ts)

/-- a trial that newly passes the status test was in the running set before -/
theorem psi_afterUpdate (p : St → Bool) {s : LState} (hS : SInv s) (hp : s.pc = .afterUpd) :
    psi p (afterUpdate s).running (afterUpdate s).status.last ≤ psi p s.running s.status.last := by
  rw [afterUpdate_last]
  refine Nat.le_trans (psi_mono_R p (R := s.running) (fun x hx => (mem_afterUpdate_running.mp hx).1) _) ?_
  rw [psi_aupdate p s.running _ _ (hS.updRecorded hp)]
  exact Nat.le_refl _

/-- `g1`, `g4` / `g3` / `g2`: the three items at the head of the file; `g5`: the bound on the second test `q` that
survives the `finally` block. -/
structure GInv (p q : St → Bool) (m : Nat) (s : LState) : Prop where
  g1 : s.stopReached = false → prePc s.pc = true → s.status.numIn p ≤ m
  g4 : s.stopReached = false → finPc s.pc = false → s.status.numIn p ≤ m + s.cfg.nWorkers
  g3 : ipPc s.pc = true → psi p s.running s.status.last ≤ m + 2 * s.cfg.nWorkers
  g2 : s.cfg.wait = false → (MarkInv p ∨ markedPc s.pc = false) → s.status.numIn p ≤ m + s.cfg.nWorkers
  g5 : s.status.numIn q ≤ m + 2 * s.cfg.nWorkers

/-- the second test is bounded by the potential where the latter is maintained -/
def QOk (p q : St → Bool) (s : LState) : Prop :=
  ipPc s.pc = true → s.status.numIn q ≤ psi p s.running s.status.last

variable {p q : St → Bool} {m : Nat}

variable {s s' : LState} {a : Ans}

/-- a step that leaves status, running set and `stop_condition_reached` alone (`hpre`: it does not reach the `while` test) -/
theorem GInv.frame (h : GInv p q m s) (hf : Frame s s') (hc : s'.cfg = s.cfg)
    (hfl : flow s.pc s'.pc = true) (hpre : prePc s'.pc = true → prePc s.pc = true) : GInv p q m s' := by
  refine ⟨fun hs hp => ?_, fun hs hp => ?_, fun hp => ?_, fun hw hp => ?_, ?_⟩
  · rw [hf.status]; exact h.g1 (hf.sr ▸ hs) (hpre hp)
  · rw [hf.status, hc]; exact h.g4 (hf.sr ▸ hs) (fin_back hfl hp)
  · rw [hf.status, hf.running, hc]; exact h.g3 (ip_back hfl hp)
  · rw [hf.status, hc]; exact h.g2 (hc ▸ hw) (hp.imp_right (unmarked_from.back hfl rfl nofun))
  · rw [hf.status, hc]; exact h.g5

theorem GInv.evaluated {s : LState} (h : GInv p q m s) (b : Bool) (hb : b = false → s.status.numIn p ≤ m)
    (hp : s.pc = .evalStop ∨ s.pc = .clock) : GInv p q m { s with stopReached := b, pc := .loopHead } :=
  have hnf : finPc s.pc = false := hp.elim (· ▸ rfl) (· ▸ rfl)
  have hnm : markedPc s.pc = false := hp.elim (· ▸ rfl) (· ▸ rfl)
  ⟨fun hs _ => hb hs, fun hs _ => Nat.le_trans (hb hs) (Nat.le_add_right _ _), fun _ => h.g3 (ip_of_loop hnf),
    fun hw hm => h.g2 hw (hm.imp_right fun _ => hnm), h.g5⟩

/-- the count after `_process_new_results` is at most the count before plus the size of the running set -/
theorem numIn_afterUpdate_le (p : St → Bool) {s : LState} (hS : SInv s) (hL : LNInv s) (hp : s.pc = .afterUpd) :
    (afterUpdate s).status.numIn p ≤ s.status.numIn p + s.running.length := by
  exact Nat.le_trans (numIn_le_psi p (afterUpdate s).running _)
    (Nat.le_trans (psi_afterUpdate p hS hp) (psi_le_numIn p _ _ hL))

theorem GInv.afterUpdate {s : LState} (h : GInv p q m s) (hS : SInv s) (hJ : JInv s) (hBu : BudgetInv s) (hL : LNInv s)
    (hp : s.pc = .afterUpd) (hQ : QOk p q (afterUpdate s)) : GInv p q m (afterUpdate s) := by
  have hle := numIn_afterUpdate_le p hS hL hp
  have hrun := hBu.1.le
  have hpsi := psi_afterUpdate p hS hp
  have hpre : prePc s.pc = true := by rw [hp]; rfl
  have hip : ipPc s.pc = true := by rw [hp]; rfl
  have hip' : ipPc (Tuner.afterUpdate s).pc = true := by
    rcases afterUpdate_pc s with hh | hh | hh <;> rw [hh] <;> rfl
  have hnpre : prePc (Tuner.afterUpdate s).pc = false := by
    rcases afterUpdate_pc s with hh | hh | hh <;> rw [hh] <;> rfl
  have hsr : (Tuner.afterUpdate s).stopReached = s.stopReached := rfl
  have h3 : psi p (Tuner.afterUpdate s).running (Tuner.afterUpdate s).status.last ≤ m + 2 * s.cfg.nWorkers :=
    Nat.le_trans hpsi (h.g3 hip)
  have hlow : s.stopReached = false → (Tuner.afterUpdate s).status.numIn p ≤ m + s.cfg.nWorkers := by
    intro hs
    have := h.g1 hs hpre
    omega
  refine ⟨fun _ hc => ?_, fun hs _ => hlow hs, fun _ => h3, fun hw _ => ?_, ?_⟩
  · rw [hnpre] at hc; cases hc
  · exact hlow (hJ.noWait (hp ▸ rfl) hw)
  · exact Nat.le_trans (hQ hip') h3

theorem GInv.scheduled {s : LState} (h : GInv p q m s) (hp0 : p .inProgress = false) (hJ : JInv s)
    (hBu' : BudgetInv (scheduled s s.sId)) (hL' : LNInv (scheduled s s.sId))
    (hp : s.pc = .startCb ∨ s.pc = .resumeCb) (hQ : QOk p q (scheduled s s.sId)) : GInv p q m (scheduled s s.sId) := by
  have hsr : s.stopReached = false := hJ.j2 (hp.elim (· ▸ rfl) (· ▸ rfl))
  have hnf : finPc s.pc = false := hp.elim (· ▸ rfl) (· ▸ rfl)
  have hcnt : (Tuner.scheduled s s.sId).status.numIn p ≤ s.status.numIn p := by
    rw [numIn_eq, numIn_eq, scheduled_last]; exact cnt_aset_le p _ _ _ hp0
  have hlow : (Tuner.scheduled s s.sId).status.numIn p ≤ m + s.cfg.nWorkers := Nat.le_trans hcnt (h.g4 hsr hnf)
  have hrun : (Tuner.scheduled s s.sId).running.length ≤ s.cfg.nWorkers := by
    have := hBu'.1.le; rwa [scheduled_cfg] at this
  have h3 : psi p (Tuner.scheduled s s.sId).running (Tuner.scheduled s s.sId).status.last ≤ m + 2 * s.cfg.nWorkers := by
    have := psi_le_numIn p (Tuner.scheduled s s.sId).running _ hL'
    omega
  refine ⟨(fun _ hc => nomatch hc), fun _ _ => ?_, fun _ => ?_, fun _ _ => ?_, ?_⟩
  · rw [scheduled_cfg]; exact hlow
  · rw [scheduled_cfg]; exact h3
  · rw [scheduled_cfg]; exact hlow
  · rw [scheduled_cfg]; exact Nat.le_trans (hQ rfl) h3

theorem GInv.marked {s s' : LState} (h : GInv p q m s) (hq : MarkInv q) (_hp : s.pc = .finMark)
    (hst : s'.status = s.status.markStopped) (hc : s'.cfg = s.cfg) (hpc : s'.pc = .hfOut ∨ s'.pc = .done) :
    GInv p q m s' := by
  have hfin : finPc s'.pc = true := hpc.elim (· ▸ rfl) (· ▸ rfl)
  have hmk : markedPc s'.pc = true := hpc.elim (· ▸ rfl) (· ▸ rfl)
  have hnpre : prePc s'.pc = false := hpc.elim (· ▸ rfl) (· ▸ rfl)
  have hnip : ipPc s'.pc = false := hpc.elim (· ▸ rfl) (· ▸ rfl)
  refine ⟨fun _ hc' => ?_, fun _ hc' => ?_, fun hc' => ?_, fun hw hm => ?_, ?_⟩
  · rw [hnpre] at hc'; cases hc'
  · rw [hfin] at hc'; cases hc'
  · rw [hnip] at hc'; cases hc'
  · rcases hm with hm | hm
    · rw [hst, numIn_markStopped_of_markInv p hm, hc]; exact h.g2 (by rw [← hc]; exact hw) (Or.inl hm)
    · rw [hmk] at hm; cases hm
  · rw [hst, numIn_markStopped_of_markInv q hq, hc]; exact h.g5

theorem GInv_trans (h : GInv p q m s) (t : Trans s a s') (hp0 : p .inProgress = false) (hq : MarkInv q)
    (hcrit : ∀ clk, stopCond s clk = false → s.status.numIn p ≤ m)
    (hS : SInv s) (hJ : JInv s) (hBu : BudgetInv s) (hL : LNInv s)
    (hQ : QOk p q s') : GInv p q m s' := by
  have hfl := t.flow
  have hc := t.cfg
  cases t.cnt with
  | same f _ _ hsrc => exact h.frame f hc hfl (prePc_from.back hfl rfl (not_entry (by decide) hsrc))
  | toFin f _ hq' => exact h.frame f hc hfl fun hh => nomatch (prePc_fin _ hq').symm.trans hh
  | evaluated hp clk => exact h.evaluated _ (hcrit clk) hp
  | updated hp => exact h.afterUpdate hS hJ hBu hL hp hQ
  | scheduled hp => exact h.scheduled hp0 hJ (BudgetInv_trans hBu t) (LNInv_trans hL t) hp hQ
  | marked hp hst _ _ _ _ hq' => exact h.marked hq hp hst hc hq'
  | polled hp f _ => exact h.frame f hc hfl fun _ => hp ▸ rfl
  | enterLoop hp _ => exact h.frame ⟨rfl, rfl, rfl⟩ rfl hfl fun _ => hp ▸ rfl
  | _ => exact h.frame ⟨rfl, rfl, rfl⟩ rfl hfl nofun

/-- what the criterion says when it is false -/
def CritBound (p : St → Bool) (m : Nat) (c : Criterion) : Prop :=
  ∀ ts clk kc, c.eval ts clk kc = false → ts.numIn p ≤ m

theorem GInv.reach {c : Cfg} {P : LState → Ans → Prop} {s : LState} (hp0 : p .inProgress = false) (hq : MarkInv q)
    (hcrit : CritBound p m c.crit) (hB : ∀ s a, P s a → BOk s a) (hQ : ∀ {s}, Reach c P s → QOk p q s)
    (h : Reach c P s) : GInv p q m s := by
  induction h with
  | init =>
    have h0 : ∀ r : St → Bool, (init c).status.numIn r = 0 := fun r => by simp [init, TStatus.numIn]
    refine ⟨fun _ _ => ?_, fun _ _ => ?_, fun _ => ?_, fun _ _ => ?_, ?_⟩
    · rw [h0]; exact Nat.zero_le _
    · rw [h0]; exact Nat.zero_le _
    · simp [init, psi]
    · rw [h0]; exact Nat.zero_le _
    · rw [h0]; exact Nat.zero_le _
  | @step s a h hp ih =>
    -- not an instance of `Reach.inv`: `hQ` speaks of the state reached, `step s a`, and is carried back to `next s a`
    have t := next_trans s a
    have hQ' := hQ (h.step hp)
    rw [step_eq_log] at hQ'
    exact step_of_next (fun _ _ h => ⟨h.g1, h.g4, h.g3, h.g2, h.g5⟩) _ _
      (GInv_trans ih t hp0 hq (fun _ hh => (h.cfg ▸ hcrit) _ _ _ (stopCond_false hh)) (.reach (h.mono hB)) (.reach h)
        (.reach h) (.reach h) hQ')

end SyneTune.Tuner.Cnt
