import SyneTune.Lemmas.C14SyncView
/- C14 synchronous composition.  The searcher state (`label`, `evaluation_failed`, `register_pending`, a result
received).  Consequences of the invariant.  What a step must do to keep it (`cinvS_of`).  The four kinds of step
which do: nothing visible changes; a report below the milestone; the answer for the slot of a running trial;
the registration of a trial. -/
namespace SyneTune.Sync.C14S
open SyneTune.C14 SyneTune.C14Comp

theorem apply_evalFailed (st : SState) (t : Nat) :
    st.apply (.evalFailed t) = .ok (markFailed (st.cleanupPending t) t) := rfl

/-- an observation which a step either leaves alone or writes where there was none stays -/
theorem obsAt_stays {st st' : SState} {t r : Nat} {Q : Prop}
    (h : obsAt st' t r = obsAt st t r ∨ (obsAt st t r = none ∧ Q)) {c : Rat} (hc : obsAt st t r = some c) :
    obsAt st' t r = some c := by
  rcases h with he | ⟨hn, _⟩
  · rw [he]; exact hc
  · rw [hn] at hc; cases hc

theorem markFailed_pending (st : SState) (t : Nat) : (markFailed st t).pending = st.pending := by
  unfold markFailed; split <;> rfl

theorem markFailed_observed (st : SState) (t : Nat) : (markFailed st t).observed = st.observed := by
  unfold markFailed; split <;> rfl

theorem markFailed_mode (st : SState) (t : Nat) : (markFailed st t).mode = st.mode := by
  unfold markFailed; split <;> rfl

/-- the searcher's data after `on_trial_result(t, r, v, update=upd)`: what `applyAct` does on the
translation `trCall` of the call -/
def received (st : SState) (t r : Nat) (v : Metric) (upd : Bool) : SState :=
  match upd, v with
  | false, _ => st
  | true, .val x => st.label t r (st.crit x)
  | true, .nan => markFailed { st with pending := dropPending t r st.pending } t

theorem applyActs_single (st : SState) (a : SAct) : applyActs st [a] = applyAct st a := by
  simp only [applyActs]
  cases applyAct st a <;> rfl

theorem applyActs_update (st : SState) (t r : Nat) (v : Metric) (upd : Bool) :
    applyActs st ([SCall.update t r v upd].map trCall) = .ok (received st t r v upd) := by
  refine (applyActs_single _ _).trans ?_
  cases upd <;> cases v <;> rfl

theorem received_mode (st : SState) (t r : Nat) (v : Metric) (upd : Bool) :
    (received st t r v upd).mode = st.mode := by
  cases upd with
  | false => rfl
  | true => cases v with
    | nan => exact markFailed_mode _ _
    | val x => rfl

theorem received_pending (st : SState) (t r : Nat) (v : Metric) (upd : Bool) :
    (received st t r v upd).pending = if upd then dropPending t r st.pending else st.pending := by
  cases upd with
  | false => rfl
  | true => cases v with
    | nan => exact markFailed_pending _ _
    | val x => rfl

theorem received_wf (st : SState) (t r : Nat) (v : Metric) (upd : Bool) (hw : ObsWF st) :
    ObsWF (received st t r v upd) := by
  cases upd with
  | false => exact hw
  | true => cases v with
    | nan => exact obsWF_congr (markFailed_observed _ _) hw
    | val x => exact apply_preserves_wf st _ (.update t r x true) rfl hw

theorem obsAt_received_self (st : SState) (t r : Nat) (x : Rat) :
    obsAt (received st t r (.val x) true) t r = some (st.crit x) :=
  (obsAt_label st t r x t r).trans (if_pos ⟨rfl, rfl⟩)

/-- the only observation a result changes is its own, and only a finite value passed with
`update=True` does -/
theorem obsAt_received (st : SState) (t r : Nat) (v : Metric) (upd : Bool) (t' r' : Nat) :
    obsAt (received st t r v upd) t' r' = obsAt st t' r' ∨
    (t' = t ∧ r' = r ∧ ∃ x, upd = true ∧ v = .val x ∧ obsAt (received st t r v upd) t r = some (st.crit x)) := by
  cases upd with
  | false => exact Or.inl rfl
  | true => cases v with
    | nan => exact Or.inl (obsAt_congr (markFailed_observed _ _) _ _)
    | val x =>
      show obsAt (st.label t r (st.crit x)) t' r' = _ ∨ _
      rw [obsAt_label]
      by_cases he : t' = t ∧ r' = r
      · exact Or.inr ⟨he.1, he.2, x, rfl, rfl, obsAt_received_self st t r x⟩
      · exact Or.inl (if_neg he)

theorem stepCS_ok {y : SysS} {op : Op} {s' : Sched} {o : Out} {st' : SState}
    (h1 : y.sched.step op = .ok (s', o)) (h2 : applyActs y.st (o.calls.map trCall) = .ok st') :
    stepCS y op = { sched := s', st := st', last := ghostNext y.sched y.last op o } := by
  unfold stepCS
  rw [h1]
  simp only [h2]

theorem stepCS_sched_error {y : SysS} {op : Op} {e : SErr} (h1 : y.sched.step op = .error e) : stepCS y op = y := by
  unfold stepCS
  rw [h1]

theorem lastOf_aset (y : SysS) (sch : Sched) (st : SState) (t r u : Nat) :
    ({ sched := sch, st := st, last := aset t r y.last } : SysS).lastOf u = if u = t then r else y.lastOf u := by
  unfold SysS.lastOf
  simp only [alookup_aset]
  by_cases h : u = t <;> simp [h]

/-- the searcher holds a pending evaluation for exactly the started trials, at their milestones
(`PendOK` and `PendConv` together) -/
theorem pending_iff_started {y : SysS} (h : CInvS y) (t r : Nat) : (t, r) ∈ y.st.pending ↔ Started y.sched t r :=
  ⟨fun hp => h.pend (t, r) hp, fun ⟨id, sl, hl, hr, hs⟩ => hr ▸ h.conv t id sl hl hs⟩

/-- No observation is written twice: a running trial has no observation at a level of the
window of its current run above its last report -/
theorem fresh_level {y : SysS} (h : CInvS y) {t id : Nat} {sl : SlotInRung}
    (hlook : alookup t y.sched.pending = some (id, sl)) {r : Nat}
    (hprev : y.sched.prevLvl id sl.rungIndex < r) (hlast : y.lastOf t < r) :
    y.st.isLabeled t r = false := by
  cases hl : y.st.isLabeled t r with
  | false => rfl
  | true =>
    exfalso
    rcases h.obs t r hl with ⟨j, k, p, m, hslot, _, h2, _, _⟩ | ⟨id', sl', hl', _, h2, _⟩
    · obtain ⟨rfl, hk⟩ := finished_below h.inv hlook hslot
      obtain ⟨br, rg, x, hbr, hps, _⟩ := h.inv.pend t j sl hlook
      have hrg : br.rungs[sl.rungIndex]? = some rg := by rw [hps.ri]; exact hps.hrg
      have := lvl_le_prevLvl h.inv.mwf hbr hrg hk
      change y.sched.lvl j k ≤ y.sched.prevLvl j sl.rungIndex at this
      omega
    · omega

theorem fresh_milestone {y : SysS} (h : CInvS y) {t id : Nat} {sl : SlotInRung}
    (hlook : alookup t y.sched.pending = some (id, sl)) : y.st.isLabeled t sl.level = false := by
  obtain ⟨h1, h2, _⟩ := pend_level h.inv hlook
  exact fresh_level h hlook (by rw [h1]; exact h2) (h.lastOk t id sl hlook)

theorem no_pending_of_not_running {y : SysS} (h : CInvS y) {t : Nat} (hn : alookup t y.sched.pending = none) :
    ∀ p ∈ y.st.pending, p.1 ≠ t := by
  intro p hp he
  obtain ⟨id, sl, hl, _⟩ := h.pend p hp
  rw [he, hn] at hl; cases hl

theorem pending_not_labeled {y : SysS} (h : CInvS y) {p : Nat × Nat} (hp : p ∈ y.st.pending) :
    y.st.isLabeled p.1 p.2 = false := by
  obtain ⟨id, sl, hl, hlv, _⟩ := h.pend p hp
  rw [hlv]; exact fresh_milestone h hl

theorem labeled_known {y : SysS} (h : CInvS y) {t r : Nat} (hl : y.st.isLabeled t r = true) :
    t ∈ y.sched.configs := by
  rcases h.obs t r hl with ⟨j, k, p, m, hslot, _⟩ | ⟨id', sl', hl', _⟩
  · exact h.inv.ids t (slotAt_hasId hslot rfl)
  · exact h.inv.pkeys t _ hl'

theorem obs_rungs_iff {y : SysS} (h : CInvS y) (hsa : y.sched.searcherAll = false) (t r : Nat) (c : Rat) :
    obsAt y.st t r = some c ↔
      ∃ id k p x, y.sched.mgr.SlotAt id k p ⟨some t, some (.val x)⟩ ∧ r = y.sched.lvl id k ∧ c = y.st.crit x := by
  constructor
  · intro hc
    have hl : y.st.isLabeled t r = true := by rw [lab_iff, hc]; rfl
    rcases h.obs t r hl with ⟨id, k, p, m, hs, _, _, a3, a4⟩ | ⟨_, _, _, _, _, h3⟩
    · have hr := a4 hsa
      obtain ⟨x, hx, ho⟩ := a3 hr
      subst hx
      rw [hc] at ho
      exact ⟨id, k, p, x, hs, hr, Option.some.inj ho⟩
    · rw [hsa] at h3; cases h3
  · rintro ⟨id, k, p, x, hs, rfl, rfl⟩
    exact h.fin t id k p x hs

/-- where the observation of `t` at `r` comes from: the two cases of `ObsOK` -/
def Src (y : SysS) (t r : Nat) : Prop :=
  (∃ id k p m, y.sched.mgr.SlotAt id k p ⟨some t, some m⟩ ∧
      y.sched.prevLvl id k < r ∧ r ≤ y.sched.lvl id k ∧
      (r = y.sched.lvl id k → ∃ x, m = .val x ∧ obsAt y.st t r = some (y.st.crit x)) ∧
      (y.sched.searcherAll = false → r = y.sched.lvl id k)) ∨
  (∃ id sl, alookup t y.sched.pending = some (id, sl) ∧
      y.sched.prevLvl id sl.rungIndex < r ∧ r ≤ y.lastOf t ∧ y.sched.searcherAll = true)

/-- What the invariant needs of a step `y ↦ y'`: pending evaluations are those of the started
trials again (`hpend`), `LastOK` again; finished slots stay (`hfwd`), a new finite one comes with
its observation (`hbwd`); a running trial goes on running without its last level going down, or
its slot is answered (`hrun`); an observation is what it was, or new and accounted for (`hobs`). -/
theorem cinvS_of {y y' : SysS} (h : CInvS y) (hs : SchedTr y.sched y'.sched)
    (hnd : y'.st.pending.Nodup) (hwf : ObsWF y'.st) (hmode : y'.st.mode = y.st.mode)
    (hpend : ∀ t r, (t, r) ∈ y'.st.pending ↔ Started y'.sched t r) (hlast : LastOK y')
    (hfwd : ∀ j k p t m, y.sched.mgr.SlotAt j k p ⟨some t, some m⟩ → y'.sched.mgr.SlotAt j k p ⟨some t, some m⟩)
    (hbwd : ∀ j k p t x, y'.sched.mgr.SlotAt j k p ⟨some t, some (.val x)⟩ →
      y.sched.mgr.SlotAt j k p ⟨some t, some (.val x)⟩ ∨ obsAt y'.st t (y.sched.lvl j k) = some (y.st.crit x))
    (hrun : ∀ t id sl, alookup t y.sched.pending = some (id, sl) →
      (alookup t y'.sched.pending = some (id, sl) ∧ y.lastOf t ≤ y'.lastOf t) ∨
      ∃ m, y'.sched.mgr.SlotAt id sl.rungIndex sl.slotIndex ⟨some t, some m⟩)
    (hobs : ∀ t r, obsAt y'.st t r = obsAt y.st t r ∨ (obsAt y.st t r = none ∧ Src y' t r)) :
    CInvS y' := by
  have hstab : ∀ t r c, obsAt y.st t r = some c → obsAt y'.st t r = some c :=
    fun t r _ => obsAt_stays (hobs t r)
  refine ⟨hs.inv, hnd, hwf, fun p hp => (hpend p.1 p.2).mp hp,
    fun t id sl hl hsl => (hpend t sl.level).mpr ⟨id, sl, hl, rfl, hsl⟩, hlast, fun t r hl => ?_, fun t j k p x hsl => ?_⟩
  · rcases hobs t r with he | ⟨_, hsrc⟩
    · have hl0 : y.st.isLabeled t r = true := by rw [lab_iff] at hl ⊢; rw [← he]; exact hl
      rcases h.obs t r hl0 with ⟨j, k, p, m, hsl, a1, a2, a3, a4⟩ | ⟨id, sl, hl2, b1, b2, b3⟩
      · refine Or.inl ⟨j, k, p, m, hfwd _ _ _ _ _ hsl, by rw [hs.prevLvl]; exact a1, by rw [hs.lvl]; exact a2, ?_, ?_⟩
        · intro hr
          rw [hs.lvl] at hr
          obtain ⟨x, hx, ho⟩ := a3 hr
          exact ⟨x, hx, by rw [crit_of_mode hmode]; exact hstab _ _ _ ho⟩
        · intro hsa; rw [hs.lvl]; exact a4 (hs.sa ▸ hsa)
      · rcases hrun t id sl hl2 with ⟨hl', hle⟩ | ⟨m, hsl⟩
        · exact Or.inr ⟨id, sl, hl', by rw [hs.prevLvl]; exact b1, Nat.le_trans b2 hle, hs.sa.trans b3⟩
        · -- the run has ended below its milestone: `r` is not the rung level
          obtain ⟨hlv, _, _⟩ := pend_level h.inv hl2
          have := h.lastOk t id sl hl2
          refine Or.inl ⟨id, sl.rungIndex, sl.slotIndex, m, hsl, by rw [hs.prevLvl]; exact b1,
            by rw [hs.lvl, ← hlv]; omega, ?_, ?_⟩
          · intro hr; rw [hs.lvl, ← hlv] at hr; omega
          · intro hsa; rw [hs.sa, b3] at hsa; cases hsa
    · exact hsrc
  · rw [hs.lvl, crit_of_mode hmode]
    rcases hbwd j k p t x hsl with hold | hnew
    · exact hstab _ _ _ (h.fin t j k p x hold)
    · exact hnew

/-- nothing the invariant reads changes: the scheduler's running trials, started trials and
finished slots, the searcher's pending evaluations, data and mode (not `failed`), the ghost -/
theorem cinvS_quiet {y : SysS} (h : CInvS y) {s' : Sched} (hv : SameView y.sched s') {st' : SState}
    (hp : st'.pending = y.st.pending) (ho : st'.observed = y.st.observed) (hm : st'.mode = y.st.mode) :
    CInvS { sched := s', st := st', last := y.last } := by
  refine cinvS_of (y' := ⟨s', st', y.last⟩) h hv.toSchedTr (hp ▸ h.pnd) (obsWF_congr ho h.owf) hm
    (hpend := fun t r => ?_) (hlast := fun t id sl hl => h.lastOk t id sl (hv.pend ▸ hl))
    (hfwd := fun _ _ _ _ _ hs => (hv.fin _ _ _ _ _).mpr hs) (hbwd := fun _ _ _ _ _ hs => Or.inl ((hv.fin _ _ _ _ _).mp hs))
    (hrun := fun t id sl hl => Or.inl ⟨hv.pend ▸ hl, Nat.le_refl _⟩) (hobs := fun t r => Or.inl (obsAt_congr ho t r))
  show (t, r) ∈ st'.pending ↔ _
  rw [hp, hv.started]; exact pending_iff_started h t r

/-- a report below the milestone: the ghost moves up; the searcher receives the result with
`update=upd`, which — within the window of the run and with `searcher_data = "all"` — may be set -/
theorem cinvS_report {y : SysS} (h : CInvS y) {t id : Nat} {sl : SlotInRung}
    (hlook : alookup t y.sched.pending = some (id, sl)) {r : Nat} (hlast : y.lastOf t < r) (hr : r < sl.level)
    (v : Metric) {upd : Bool}
    (hu : upd = true → y.sched.prevLvl id sl.rungIndex < r ∧ y.sched.searcherAll = true) :
    CInvS { sched := y.sched, st := received y.st t r v upd, last := aset t r y.last } := by
  have hnp : (t, r) ∉ y.st.pending := fun hp => by
    obtain ⟨id', sl', hl', hpl, _⟩ := h.pend _ hp
    rw [hlook] at hl'; cases hl'
    exact absurd hpl (Nat.ne_of_lt hr)
  have hpe : (received y.st t r v upd).pending = y.st.pending := by
    rw [received_pending, dropPending_eq_erase, List.erase_of_not_mem hnp, ite_self]
  have hlast' : ∀ u id' sl', alookup u y.sched.pending = some (id', sl') →
      y.lastOf u ≤ (if u = t then r else y.lastOf u) ∧ (if u = t then r else y.lastOf u) < sl'.level := by
    intro u id' sl' hl
    split
    · subst u
      rw [hlook] at hl; cases hl
      omega
    · exact ⟨Nat.le_refl _, h.lastOk u id' sl' hl⟩
  refine cinvS_of (y' := ⟨y.sched, _, _⟩) h ⟨h.inv, rfl, rfl⟩ (hpe ▸ h.pnd) (received_wf _ _ _ _ _ h.owf)
    (received_mode _ _ _ _ _) (hpend := fun u q => by show (u, q) ∈ (received y.st t r v upd).pending ↔ _; rw [hpe]; exact pending_iff_started h u q)
    (hlast := fun u id' sl' hl => by rw [lastOf_aset]; exact (hlast' u id' sl' hl).2) (hfwd := fun _ _ _ _ _ hs => hs)
    (hbwd := fun _ _ _ _ _ hs => Or.inl hs)
    (hrun := fun u id' sl' hl => Or.inl ⟨hl, by rw [lastOf_aset]; exact (hlast' u id' sl' hl).1⟩) (hobs := fun u q => ?_)
  rcases obsAt_received y.st t r v upd u q with he | ⟨rfl, rfl, x, hup, _, _⟩
  · exact Or.inl he
  · refine Or.inr ⟨(lab_false_iff _ _ _).mp (fresh_level h hlook (hu hup).1 hlast), Or.inr ⟨id, sl, hlook, (hu hup).1, ?_, (hu hup).2⟩⟩
    rw [lastOf_aset, if_pos rfl]

/-- the slot of the running trial `t` is answered with `v`; the searcher drops the pending
evaluations of `t` and, for a finite `v`, stores it at the milestone -/
theorem cinvS_answered {y : SysS} (h : CInvS y) {s' : Sched} {t id : Nat} {sl : SlotInRung} {v : Metric}
    (ha : Answered y.sched s' t id sl v) {st' : SState} {last' : List (Nat × Nat)}
    (hnd : st'.pending.Nodup) (hwf : ObsWF st') (hmode : st'.mode = y.st.mode)
    (hmem : ∀ p, p ∈ st'.pending ↔ p ∈ y.st.pending ∧ p.1 ≠ t)
    (hlast' : ∀ u, u ≠ t → (alookup u last').getD 0 = y.lastOf u)
    (hobs : ∀ u q, obsAt st' u q = obsAt y.st u q ∨ (u = t ∧ q = sl.level ∧ ∃ x, v = .val x))
    (hval : ∀ x, v = .val x → obsAt st' t sl.level = some (y.st.crit x)) :
    CInvS { sched := s', st := st', last := last' } := by
  obtain ⟨hlv, hplt, _⟩ := pend_level h.inv ha.look
  refine cinvS_of (y' := ⟨s', st', last'⟩) h ha.toSchedTr hnd hwf hmode (hpend := fun u q => ?hpend) (hlast := fun u id' sl' hl => ?hlast)
    (hfwd := fun _ _ _ _ _ hs => (ha.fin _ _ _ _ _).mpr (Or.inl hs)) (hbwd := fun j k p u x hs => ?hbwd) (hrun := fun u id' sl' hl => ?hrun)
    (hobs := fun u q => ?hobs)
  case hpend =>
    rw [ha.started, ← pending_iff_started h, hmem, and_comm]
  case hlast =>
    obtain ⟨hne, hl0⟩ := (ha.run _ _).mp hl
    show (alookup u last').getD 0 < _
    rw [hlast' u hne]; exact h.lastOk u id' sl' hl0
  case hbwd =>
    rcases (ha.fin _ _ _ _ _).mp hs with hold | ⟨he, rfl, hv⟩
    · exact Or.inl hold
    · cases he
      exact Or.inr (hlv ▸ hval x hv.symm)
  case hrun =>
    by_cases he : u = t
    · subst he
      rw [ha.look] at hl; cases hl
      exact Or.inr ⟨v, ha.slot⟩
    · exact Or.inl ⟨(ha.run _ _).mpr ⟨he, hl⟩, Nat.le_of_eq (hlast' u he).symm⟩
  case hobs =>
    rcases hobs u q with he | ⟨rfl, rfl, x, rfl⟩
    · exact Or.inl he
    · refine Or.inr ⟨(lab_false_iff _ _ _).mp (fresh_milestone h ha.look), Or.inl ⟨id, sl.rungIndex, sl.slotIndex, .val x, ha.slot,
        by rw [ha.prevLvl, hlv]; exact hplt, by rw [ha.lvl, hlv], fun _ => ⟨x, rfl, ?_⟩,
        fun _ => by rw [ha.lvl, hlv]⟩⟩
      show obsAt st' u sl.level = some (st'.crit x)
      rw [crit_of_mode hmode]; exact hval x rfl

/-- trial `t` is registered for a slot: the ghost is reset; `register_pending(t, milestone)` iff the
trial is started there -/
theorem cinvS_registered {y : SysS} (h : CInvS y) {s' : Sched} {t id : Nat} {sl : SlotInRung} {o : Option Nat}
    (hr : Registered y.sched s' t id sl o) {st' : SState} (hnd : st'.pending.Nodup)
    (hmem : ∀ p, p ∈ st'.pending ↔ p ∈ y.st.pending ∨ (o = none ∧ p = (t, sl.level)))
    (ho : st'.observed = y.st.observed) (hm : st'.mode = y.st.mode) :
    CInvS { sched := s', st := st', last := aset t 0 y.last } := by
  have hold : ∀ u w, alookup u y.sched.pending = some w → u ≠ t :=
    fun u w hl he => by rw [he, hr.look] at hl; cases hl
  refine cinvS_of (y' := ⟨s', st', aset t 0 y.last⟩) h hr.toSchedTr hnd (obsWF_congr ho h.owf) hm
    (hpend := fun u q => ?hpend) (hlast := fun u id' sl' hl => ?hlast)
    (hfwd := fun _ _ _ _ _ hs => (hr.fin _ _ _ _ _).mpr hs) (hbwd := fun _ _ _ _ _ hs => Or.inl ((hr.fin _ _ _ _ _).mp hs))
    (hrun := fun u id' sl' hl => Or.inl ⟨(hr.run _ _).mpr (Or.inr ⟨hold _ _ hl, hl⟩), ?hrun⟩)
    (hobs := fun u q => Or.inl (obsAt_congr ho u q))
  case hpend =>
    show (u, q) ∈ st'.pending ↔ _
    rw [hr.started, ← pending_iff_started h, hmem, Prod.mk.injEq, and_left_comm]
  case hlast =>
    rw [lastOf_aset]
    rcases (hr.run _ _).mp hl with ⟨rfl, hw⟩ | ⟨hne, hl0⟩
    · obtain ⟨h1, h2, _⟩ := pend_level hr.inv hl
      rw [if_pos rfl]; omega
    · rw [if_neg hne]; exact h.lastOk u id' sl' hl0
  case hrun =>
    rw [lastOf_aset, if_neg (hold _ _ hl)]

end SyneTune.Sync.C14S
