import SyneTune.Base.Basic
import Mathlib.Tactic.Linarith
import Mathlib.Data.Rat.Floor
/- Python's `round` / `np.round` / `np.rint` (`roundHalfEven`) is characterised by `NearestEven`: every fact
about rounding used by the encodings (C07) and by the rung levels (C03) follows from `rhe_nearestEven` (it is a
candidate) and `rhe_eq_iff` (the only one). -/
namespace SyneTune

theorem rat_floor_eq (x : ℚ) : x.floor = ⌊x⌋ := rfl

theorem absRat_eq_abs (x : ℚ) : absRat x = |x| := by
  unfold absRat
  split_ifs with h
  · exact (abs_of_neg h).symm
  · exact (abs_of_nonneg (not_lt.mp h)).symm

theorem maxRat_eq_max (a b : ℚ) : maxRat a b = max a b := by
  unfold maxRat
  split_ifs with h
  · exact (max_eq_right h.le).symm
  · exact (max_eq_left (not_lt.mp h)).symm

/-- `w` is an integer nearest to `x`, and the even one if `x` lies halfway between two integers -/
def NearestEven (x : ℚ) (w : ℤ) : Prop := |x - w| ≤ 1 / 2 ∧ (|x - w| = 1 / 2 → w % 2 = 0)

theorem rhe_nearestEven (x : ℚ) : NearestEven x (roundHalfEven x) := by
  have hd0 : 0 ≤ x - ⌊x⌋ := sub_nonneg.mpr (Int.floor_le x)
  have e0 : |x - ⌊x⌋| = x - ⌊x⌋ := abs_of_nonneg hd0
  have e1 : |x - (⌊x⌋ + 1 : ℤ)| = 1 - (x - ⌊x⌋) := by
    rw [Int.cast_add, Int.cast_one, abs_of_nonpos (sub_nonpos.mpr (Int.lt_floor_add_one x).le)]; ring
  rw [show roundHalfEven x = (if x - (⌊x⌋ : ℚ) < 1 / 2 then ⌊x⌋ else if 1 / 2 < x - (⌊x⌋ : ℚ) then ⌊x⌋ + 1
      else if ⌊x⌋ % 2 = 0 then ⌊x⌋ else ⌊x⌋ + 1) from rfl]
  unfold NearestEven
  split_ifs with h1 h2 h3
  · rw [e0]; exact ⟨h1.le, fun h => absurd h h1.ne⟩
  · rw [e1]; exact ⟨by linarith only [h2], fun h => by linarith only [h, h2]⟩
  · rw [e0]; exact ⟨not_lt.mp h2, fun _ => h3⟩
  · rw [e1]; exact ⟨by linarith only [not_lt.mp h1], fun _ => by omega⟩

/-- two candidates can only be the two neighbours of a tie, and only one of those is even -/
theorem nearestEven_unique {x : ℚ} {w w' : ℤ} (h : NearestEven x w) (h' : NearestEven x w') : w = w' := by
  have key : ∀ {w w' : ℤ}, NearestEven x w → NearestEven x w' → w ≤ w' := by
    intro w w' h h'
    by_contra hlt
    have hc : (w' : ℚ) + 1 ≤ w := by exact_mod_cast not_le.mp hlt
    have h1 := (abs_sub_le_iff.mp h.1).2
    have h2 := (abs_sub_le_iff.mp h'.1).1
    have hw : 1 / 2 ≤ |x - w| := by
      rw [abs_sub_comm]; exact le_trans (by linarith only [hc, h2]) (le_abs_self _)
    have hw' : 1 / 2 ≤ |x - w'| := le_trans (by linarith only [hc, h1]) (le_abs_self _)
    have e1 := h.2 (le_antisymm h.1 hw)
    have e2 := h'.2 (le_antisymm h'.1 hw')
    have : w = w' + 1 := by exact_mod_cast (by linarith only [hc, h1, h2] : (w : ℚ) = w' + 1)
    omega
  exact le_antisymm (key h h') (key h' h)

theorem rhe_eq_iff {x : ℚ} {w : ℤ} : roundHalfEven x = w ↔ NearestEven x w :=
  ⟨fun h => h ▸ rhe_nearestEven x, nearestEven_unique (rhe_nearestEven x)⟩

theorem rhe_bounds (x : ℚ) : (roundHalfEven x : ℚ) - 1 / 2 ≤ x ∧ x ≤ (roundHalfEven x : ℚ) + 1 / 2 :=
  have h := abs_sub_le_iff.mp (rhe_nearestEven x).1
  ⟨sub_le_comm.mp h.2, sub_le_iff_le_add'.mp h.1⟩

theorem rhe_int (k : ℤ) : roundHalfEven (k : ℚ) = k :=
  rhe_eq_iff.mpr ⟨by rw [sub_self, abs_zero]; norm_num, fun h => by rw [sub_self, abs_zero] at h; norm_num at h⟩

/-- a number at most as far from the integer `w` as a number that rounds to `w` rounds to `w`
(on a tie `w` is even because the farther number is a tie rounded to `w`, too) -/
theorem rhe_closer {a b : ℚ} {w : ℤ} (ha : roundHalfEven a = w) (h : |b - w| ≤ |a - w|) :
    roundHalfEven b = w :=
  have ha := rhe_eq_iff.mp ha
  rhe_eq_iff.mpr ⟨h.trans ha.1, fun hb => ha.2 (le_antisymm ha.1 (hb ▸ h))⟩

theorem rhe_nearest (q : ℚ) (k : ℤ) : |q - (roundHalfEven q : ℚ)| ≤ |q - (k : ℚ)| := by
  by_contra hlt
  have hlt := not_le.mp hlt
  have hq := (rhe_nearestEven q).1
  have hk : NearestEven q k := ⟨(hlt.trans_le hq).le, fun h => absurd hq (h ▸ not_le.mpr hlt)⟩
  rw [rhe_eq_iff.mpr hk] at hlt
  exact lt_irrefl _ hlt

theorem rhe_ge {x : ℚ} {k : ℤ} (h : (k : ℚ) - 1 / 2 < x) : k ≤ roundHalfEven x := by
  have : (k : ℚ) < (roundHalfEven x : ℚ) + 1 := by linarith only [h, (rhe_bounds x).2]
  exact Int.lt_add_one_iff.mp (by exact_mod_cast this)

theorem rhe_le {x : ℚ} {k : ℤ} (h : x < (k : ℚ) + 1 / 2) : roundHalfEven x ≤ k := by
  have : (roundHalfEven x : ℚ) < (k : ℚ) + 1 := by linarith only [h, (rhe_bounds x).1]
  exact Int.lt_add_one_iff.mp (by exact_mod_cast this)

theorem rhe_ge_of_le {x : ℚ} {k : ℤ} (h : (k : ℚ) ≤ x) : k ≤ roundHalfEven x :=
  rhe_ge (lt_of_lt_of_le (sub_lt_self _ one_half_pos) h)

theorem rhe_le_of_le {x : ℚ} {k : ℤ} (h : x ≤ (k : ℚ)) : roundHalfEven x ≤ k :=
  rhe_le (lt_of_le_of_lt h (lt_add_of_pos_right _ one_half_pos))

end SyneTune
