import SyneTune.Model.Tuner
import SyneTune.Lemmas.AssocList
/-
The generic machinery for invariants of the tuning-loop machine: contracts along a run (`Along`), the states a run
reaches under a contract (`Reach`), `step` as `next` plus a log entry; `set.add` on duplicate-free lists.
Association lists as Python dicts: the keys, `in` (`hasKey`), `dict.update` (`aupdate`).  What `d[k] = v`
does to `d.get` is in `Lemmas/AssocList.lean`.
-/
namespace SyneTune.Tuner
open SyneTune

theorem mem_sadd (x y : Nat) (l : List Nat) : y ∈ sadd x l ↔ y = x ∨ y ∈ l := by
  unfold sadd
  split
  · exact ⟨Or.inr, fun h => h.elim (fun e => e ▸ ‹x ∈ l›) id⟩
  · rw [List.mem_append, List.mem_singleton, Or.comm]

theorem nodup_sadd (x : Nat) (l : List Nat) (h : l.Nodup) : (sadd x l).Nodup := by
  unfold sadd
  split
  · exact h
  · exact nodup_snoc h ‹_›

theorem length_sadd_le (x : Nat) (l : List Nat) : (sadd x l).length ≤ l.length + 1 := by
  unfold sadd
  by_cases hx : x ∈ l <;> simp [hx]

/-- a predicate on (state, answer) holds at every step of a run (the environment contracts) -/
def Along (P : LState → Ans → Prop) : LState → List Ans → Prop
  | _, [] => True
  | s, a :: as => P s a ∧ Along P (step s a) as

/-- the states of `Tuner.run()` for the configuration `c` whose environment has kept the contract `P` so far; an
invariant that rests on others calls them on the same proof of reachability -/
inductive Reach (c : Cfg) (P : LState → Ans → Prop) : LState → Prop
  | init : Reach c P (init c)
  | step {s a} (h : Reach c P s) (hp : P s a) : Reach c P (step s a)

theorem Reach.mono {c : Cfg} {P Q : LState → Ans → Prop} {s : LState} (hPQ : ∀ s a, P s a → Q s a) (h : Reach c P s) :
    Reach c Q s := by
  induction h with
  | init => exact .init
  | step _ hp ih => exact ih.step (hPQ _ _ hp)

theorem Reach.run {c : Cfg} {P : LState → Ans → Prop} {s : LState} {as : List Ans} (h : Reach c P s) (ha : Along P s as) :
    Reach c P (run s as) := by
  induction as generalizing s with
  | nil => exact h
  | cons a as ih => exact ih (h.step ha.1) ha.2

theorem reach_run (c : Cfg) {P : LState → Ans → Prop} {as : List Ans} (h : Along P (init c) as) :
    Reach c P (run (init c) as) :=
  Reach.init.run h

theorem reach_any (c : Cfg) (as : List Ans) : Reach c (fun _ _ => True) (run (init c) as) := by
  refine reach_run c ?_
  generalize init c = s
  induction as generalizing s with
  | nil => trivial
  | cons a as ih => exact ⟨trivial, ih _⟩

theorem run_append (s : LState) (as bs : List Ans) : run s (as ++ bs) = run (run s as) bs := by
  induction as generalizing s with
  | nil => rfl
  | cons a as ih => simp [run, ih]

theorem Along.and {P Q : LState → Ans → Prop} : ∀ {s : LState} {as : List Ans},
    Along P s as → Along Q s as → Along (fun s a => P s a ∧ Q s a) s as := by
  intro s as
  induction as generalizing s with
  | nil => intro _ _; trivial
  | cons a as ih => intro hp hq; exact ⟨⟨hp.1, hq.1⟩, ih hp.2 hq.2⟩

theorem step_eq (s : LState) (a : Ans) :
    step s a = if (next s a).pc.silent || s.pc = .done then next s a
               else { next s a with log := (next s a).log ++ [pending (next s a)] } := rfl

theorem step_of_next {P : LState → Prop} (hlog : ∀ (s : LState) (l : List Call), P s → P { s with log := l })
    (s : LState) (a : Ans) (h : P (next s a)) : P (step s a) := by
  rw [step_eq]
  split
  · exact h
  · exact hlog _ _ h

end SyneTune.Tuner

namespace SyneTune.Tuner.AL
open SyneTune SyneTune.Tuner

variable {β : Type}

def keys (l : List (Nat × β)) : List Nat := l.map (·.1)

theorem hasKey_false_iff (k : Nat) (l : List (Nat × β)) : hasKey k l = false ↔ k ∉ keys l := by
  refine Iff.trans ?_ alookup_eq_none_iff; unfold hasKey; cases alookup k l <;> simp

theorem hasKey_iff_mem_keys (k : Nat) (l : List (Nat × β)) : hasKey k l = true ↔ k ∈ keys l := by
  rw [← Decidable.not_not (p := k ∈ keys l), ← hasKey_false_iff, Bool.not_eq_false]

theorem mem_keys_congr {l l' : List (Nat × β)} {t : Nat} (h : alookup t l' = alookup t l) :
    t ∈ keys l' ↔ t ∈ keys l := by
  rw [← hasKey_iff_mem_keys, ← hasKey_iff_mem_keys]; unfold hasKey; rw [h]

theorem alookup_isSome_of_mem {k : Nat} {v : β} {l : List (Nat × β)} (h : (k, v) ∈ l) : hasKey k l = true := by
  rw [hasKey_iff_mem_keys]; exact List.mem_map.mpr ⟨(k, v), h, rfl⟩

theorem keys_aset_of_mem {k : Nat} {l : List (Nat × β)} (h : k ∈ keys l) (v : β) : keys (aset k v l) = keys l :=
  (keys_aset k v l).trans (if_pos h)

theorem keys_aset_of_not_mem {k : Nat} {l : List (Nat × β)} (h : k ∉ keys l) (v : β) :
    keys (aset k v l) = keys l ++ [k] :=
  (keys_aset k v l).trans (if_neg h)

theorem keys_aset_sadd (k : Nat) (v : β) (l : List (Nat × β)) : keys (aset k v l) = sadd k (keys l) := keys_aset k v l

theorem mem_keys_aset (k k' : Nat) (v : β) (l : List (Nat × β)) : k' ∈ keys (aset k v l) ↔ k' = k ∨ k' ∈ keys l := by
  rw [keys_aset_sadd]; exact mem_sadd k k' _

theorem length_aset (k : Nat) (v : β) (l : List (Nat × β)) :
    (aset k v l).length = if k ∈ keys l then l.length else l.length + 1 := by
  have h := congrArg List.length (keys_aset k v l)
  rwa [List.length_map, apply_ite List.length, List.length_append, List.length_map] at h

theorem hasKey_aset (k k' : Nat) (v : β) (l : List (Nat × β)) :
    hasKey k' (aset k v l) = (decide (k' = k) || hasKey k' l) := by
  unfold hasKey
  rw [alookup_aset]
  by_cases h : k' = k <;> simp [h]

theorem aupdate_nil (l : List (Nat × β)) : aupdate l [] = l := rfl

theorem aupdate_cons (l : List (Nat × β)) (kv : Nat × β) (items : List (Nat × β)) :
    aupdate l (kv :: items) = aupdate (aset kv.1 kv.2 l) items := rfl

theorem mem_keys_aupdate (k : Nat) (l items : List (Nat × β)) :
    k ∈ keys (aupdate l items) ↔ k ∈ keys l ∨ k ∈ keys items := by
  induction items generalizing l with
  | nil => simp [aupdate_nil, keys]
  | cons x xs ih =>
    rw [aupdate_cons, ih, mem_keys_aset]
    simp only [keys, List.map_cons, List.mem_cons]
    constructor
    · rintro ((h | h) | h)
      · exact Or.inr (Or.inl h)
      · exact Or.inl h
      · exact Or.inr (Or.inr h)
    · rintro (h | h | h)
      · exact Or.inl (Or.inr h)
      · exact Or.inl (Or.inl h)
      · exact Or.inr h

theorem nodup_keys_aupdate (l items : List (Nat × β)) (h : (keys l).Nodup) : (keys (aupdate l items)).Nodup := by
  induction items generalizing l with
  | nil => exact h
  | cons x xs ih => rw [aupdate_cons]; exact ih _ (nodup_keys_aset _ _ h)

theorem keys_aupdate_of_subset (l items : List (Nat × β)) (h : ∀ k ∈ keys items, k ∈ keys l) :
    keys (aupdate l items) = keys l := by
  induction items generalizing l with
  | nil => rfl
  | cons x xs ih =>
    rw [aupdate_cons]
    have hx : x.1 ∈ keys l := h x.1 (by simp [keys])
    have hk := keys_aset_of_mem hx x.2
    rw [ih]
    · exact hk
    · intro k hk'
      rw [hk]
      exact h k (by simp only [keys, List.map_cons, List.mem_cons] at hk' ⊢; exact Or.inr hk')

theorem alookup_aupdate_of_not_mem (k : Nat) (l items : List (Nat × β)) (h : k ∉ keys items) :
    alookup k (aupdate l items) = alookup k l := by
  induction items generalizing l with
  | nil => rfl
  | cons x xs ih =>
    rw [aupdate_cons]
    simp only [keys, List.map_cons, List.mem_cons, not_or] at h
    rw [ih _ (by simpa [keys] using h.2), alookup_aset_ne h.1]

theorem alookup_aupdate (k : Nat) (l items : List (Nat × β)) (hn : (keys items).Nodup) :
    alookup k (aupdate l items) = (alookup k items).or (alookup k l) := by
  induction items generalizing l with
  | nil => rfl
  | cons x xs ih =>
    simp only [keys, List.map_cons, List.nodup_cons] at hn
    rw [aupdate_cons, ih _ hn.2, alookup_aset]
    by_cases h : k = x.1
    · rw [h, alookup_eq_none_iff.mpr hn.1]; simp [alookup]
    · simp [alookup, h]

theorem mem_aupdate {kv : Nat × β} {l items : List (Nat × β)} (h : kv ∈ aupdate l items) : kv ∈ items ∨ kv ∈ l := by
  induction items generalizing l with
  | nil => exact Or.inr h
  | cons x xs ih =>
    rw [aupdate_cons] at h
    rcases ih h with h | h
    · exact Or.inl (List.mem_cons_of_mem _ h)
    · rcases mem_aset h with h | h
      · left; rw [h]; exact List.mem_cons_self
      · exact Or.inr h

end SyneTune.Tuner.AL
