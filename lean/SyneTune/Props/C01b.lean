import SyneTune.Lemmas.TunerC12bCriteria
import SyneTune.Lemmas.TunerC01bCount
import SyneTune.Lemmas.TunerC12bWitness
import SyneTune.Lemmas.TunerWitness
/-
C01b — the counters of the tuning status against the trials the loop has started and is running,
at every control point of every run (C01: ids are issued once and in sequence, the life cycle is legal;
C12, last clause: "the status counters equal the numbers of trials in each state").
Property theorems only.  Model: `Model/Tuner.lean`, `Model/TuningStatus.lean`; helper lemmas:
`Lemmas/TunerC01bCount.lean`, `Lemmas/TunerC12bCriteria.lean`; witnesses: `Lemmas/TunerC12bWitness.lean`,
`Lemmas/TunerWitnessData.lean`.

`run (init c) as` is the state of `Tuner.run()` after the environment answers `as`.  Contracts as in
`Props/C01.lean`: `BOk` (backend, poll answers), `KOk` (scheduler, resume only what it paused), `RebindOk`
(the busy list is never shorter than the running set; for free with `start_jobs_without_delay=True`).
`nStarted` is `len(trial_backend.trial_ids)` = `new_trial_id()`; `startIds log` the ids of the `start_trial`
commands issued so far; `status.last` is `tuning_status.last_trial_status_seen`.
-/
namespace SyneTune.C01b
open SyneTune SyneTune.Tuner SyneTune.Tuner.Cnt SyneTune.Tuner.AL

/-- **The counters partition the started trials** — for every tuning status, hence at every control point of every
run (no contract): started = completed + failed + stopped + stopping + paused + running. -/
theorem counters_partition (ts : TStatus) :
    ts.numStarted = ts.numCompleted + ts.numFailed + ts.numIn (· == .stopped) + ts.numIn (· == .stopping)
      + ts.numIn (· == .paused) + ts.numRunning :=
  numStarted_partition ts

/-- **Each started trial is recorded once, under its id, in the order of the ids**: under the contracts B and K the
keys of `last_trial_status_seen` are `0, 1, …, num_trials_started − 1`, at every point of every run. -/
theorem started_keys (c : Cfg) (as : List Ans) (hB : Along BOk (init c) as) (hK : Along KOk (init c) as) :
    keys (run (init c) as).status.last = List.range (run (init c) as).status.numStarted :=
  (NInv.reach (reach_run c (hB.and hK))).rng

/-- the recorded ids are distinct (no contract needed) -/
theorem started_distinct (c : Cfg) (as : List Ans) : (keys (run (init c) as).status.last).Nodup :=
  LNInv.reach (reach_any c as)

/-- **`num_trials_started` against the backend and the commands**: inside the loop the number of recorded trials is
the backend's number of trials — one less between the return of `start_trial` and the
`tuning_status.update` that records the new trial (`addPend`: at `on_trial_add`, `on_start_trial`) — and the
number of `start_trial` commands issued is that plus the command in flight (`startPend`). -/
theorem started_count (c : Cfg) (as : List Ans) (hB : Along BOk (init c) as) (hK : Along KOk (init c) as)
    (hf : finPc (run (init c) as).pc = false) :
    (run (init c) as).status.numStarted + addPend (run (init c) as).pc = (run (init c) as).nStarted ∧
    (startIds (run (init c) as).log).length =
      (run (init c) as).status.numStarted + addPend (run (init c) as).pc + startPend (run (init c) as).pc := by
  have h1 := (NInv.reach (reach_run c (hB.and hK))).cntL hf
  have h2 := (IdsInv.reach (reach_any c as)).cnt hf
  exact ⟨h1, by rw [h2, h1]⟩

/-- at an iteration boundary (from the `while` test to the end of `_process_new_results`, and from `on_loop_end` to
the next evaluation of the stopping condition) the three numbers coincide -/
theorem started_at_boundary (c : Cfg) (as : List Ans) (hB : Along BOk (init c) as) (hK : Along KOk (init c) as)
    (hp : prePc (run (init c) as).pc = true ∨ (run (init c) as).pc = .loopEnd ∨ (run (init c) as).pc = .evalStop ∨
      (run (init c) as).pc = .clock) :
    (run (init c) as).status.numStarted = (run (init c) as).nStarted ∧
    (startIds (run (init c) as).log).length = (run (init c) as).status.numStarted := by
  have key : ∀ p ∈ Pc.all, (prePc p = true ∨ p = .loopEnd ∨ p = .evalStop ∨ p = .clock) →
      finPc p = false ∧ addPend p = 0 ∧ startPend p = 0 := by decide +kernel
  obtain ⟨hf, h0, h0'⟩ := key _ (Pc.mem_all _) hp
  obtain ⟨h1, h2⟩ := started_count c as hB hK hf
  rw [h0, h0'] at h2
  rw [h0] at h1
  exact ⟨h1, h2⟩

/-- inside the `finally` block at most one trial of the backend is not recorded -/
theorem started_fin (c : Cfg) (as : List Ans) (hB : Along BOk (init c) as) (hK : Along KOk (init c) as)
    (hf : finPc (run (init c) as).pc = true) :
    (run (init c) as).status.numStarted ≤ (run (init c) as).nStarted ∧
    (run (init c) as).nStarted ≤ (run (init c) as).status.numStarted + 1 := by
  obtain ⟨h1, h2, _⟩ := (NInv.reach (reach_run c (hB.and hK))).cntF hf
  exact ⟨h1, h2⟩

/-- **When `run()` returns without an exception** every trial the backend has started is recorded, under the ids
`0 … num_trials_started − 1`, and exactly that many `start_trial` commands were issued; none is recorded as running
(`C12.counters`). -/
theorem started_end (c : Cfg) (as : List Ans) (hB : Along BOk (init c) as) (hK : Along KOk (init c) as)
    (hp : (run (init c) as).pc = .done) (he : (run (init c) as).err = none) :
    (run (init c) as).status.numStarted = (run (init c) as).nStarted ∧
    (startIds (run (init c) as).log).length = (run (init c) as).status.numStarted ∧
    startIds (run (init c) as).log = keys (run (init c) as).status.last := by
  have hf : finPc (run (init c) as).pc = true := by rw [hp]; rfl
  have h1 := ((NInv.reach (reach_run c (hB.and hK))).cntF hf).2.2 he
  have h2 := FIds.reach (reach_any c as) hf he
  have h3 := (IdsInv.reach (reach_any c as)).ids
  refine ⟨h1.symm, by rw [h2, h1], ?_⟩
  rw [started_keys c as hB hK, h3, h2, h1]

/-- **A trial the backend has started is never recorded when `scheduler.on_trial_add` (or a callback's
`on_start_trial`) raises.**  One worker: `start_trial` returns trial 0, `on_trial_add(0)` raises; the `finally` block
runs, `stop_all` finds trial 0 in progress and stops it, `run()` re-raises — the backend holds one (stopped) trial, the
tuning status none: `num_trials_started = 0`, all counters 0.  Contracts B and K hold. -/
theorem started_not_recorded_counterexample :
    Along BOk (init Witness.addRaiseCfg) Witness.addRaiseRun ∧
    Along KOk (init Witness.addRaiseCfg) Witness.addRaiseRun ∧
    pending (run (init Witness.addRaiseCfg) (Witness.addRaiseRun.take 13)) = .schedAdd 0 ∧
    (run (init Witness.addRaiseCfg) Witness.addRaiseRun).pc = .done ∧
    (run (init Witness.addRaiseCfg) Witness.addRaiseRun).err = some .env ∧
    (run (init Witness.addRaiseCfg) Witness.addRaiseRun).nStarted = 1 ∧
    startIds (run (init Witness.addRaiseCfg) Witness.addRaiseRun).log = [0] ∧
    alookup 0 (run (init Witness.addRaiseCfg) Witness.addRaiseRun).bst = some .stopped ∧
    (run (init Witness.addRaiseCfg) Witness.addRaiseRun).status.numStarted = 0 ∧
    (run (init Witness.addRaiseCfg) Witness.addRaiseRun).status.last = [] :=
  And.imp (along_of bOk_of) (And.imp_left (along_of kOk_of)) (by decide +kernel)

/-- **`num_trials_running` against the running set, partial.**  Under B, K and PROVIDED `running_trials_ids` is never
rebound, at every control point of the loop the trials recorded as in progress are exactly the members of the running
set not recorded as `stopping`: `num_trials_running` + (running trials recorded as stopping) = `len(running_trials_ids)`.
(Status and running set change in the same step, so there is no control point inside the loop at which they differ.)
Full statement (without `hR`) is false: `running_count_counterexample` (F15). -/
theorem running_count_partial (c : Cfg) (as : List Ans) (hB : Along BOk (init c) as) (hK : Along KOk (init c) as)
    (hR : Along RebindOk (init c) as) (hf : finPc (run (init c) as).pc = false) :
    (run (init c) as).status.numRunning +
      ((run (init c) as).running.filter (fun t => alookup t (run (init c) as).status.last == some .stopping)).length
      = (run (init c) as).running.length := by
  exact running_count _ _ (LNInv.reach (reach_any c as)) (BudgetInv.reach (reach_any c as)).1.nodup
    (KInv.reach (reach_run c (hB.and hK)) hf).ls.act ((RInv.reach (reach_run c (hB.and hR))).ip (ip_of_loop hf))

/-- if no trial is recorded as `stopping` (only the SageMaker backend reports that status) the two numbers are equal -/
theorem running_count_eq (c : Cfg) (as : List Ans) (hB : Along BOk (init c) as) (hK : Along KOk (init c) as)
    (hR : Along RebindOk (init c) as) (hf : finPc (run (init c) as).pc = false)
    (hs : (run (init c) as).status.numIn (· == .stopping) = 0) :
    (run (init c) as).status.numRunning = (run (init c) as).running.length := by
  have h := running_count_partial c as hB hK hR hf
  have h0 := filter_stopping_nil _ (run (init c) as).running hs
  omega

/-- the hypothesis `RebindOk` of `running_count_partial` holds for free with `start_jobs_without_delay=True` -/
theorem running_count_swd (c : Cfg) (hs : c.swd = true) (as : List Ans) (hB : Along BOk (init c) as)
    (hK : Along KOk (init c) as) (hf : finPc (run (init c) as).pc = false) :
    (run (init c) as).status.numRunning +
      ((run (init c) as).running.filter (fun t => alookup t (run (init c) as).status.last == some .stopping)).length
      = (run (init c) as).running.length :=
  running_count_partial c as hB hK (rebindOk_of_swd c hs as) hf

/-- every trial recorded as in progress is in the running set (B, no rebinding); also at the entry of the `finally` block -/
theorem in_progress_running (c : Cfg) (as : List Ans) (hB : Along BOk (init c) as) (hR : Along RebindOk (init c) as)
    (hp : ipPc (run (init c) as).pc = true) (t : Nat)
    (ht : alookup t (run (init c) as).status.last = some .inProgress) : t ∈ (run (init c) as).running :=
  (RInv.reach (reach_run c (hB.and hR))).ip hp t ht

/-- **F15: `num_trials_running` exceeds the running set.**  The witness of `C01.notify_polled_counterexample`: trial 2
was started into the rebound local set; at the next poll three trials are recorded as in progress, two are in
`running_trials_ids` (and `n_workers = 2`).  B and K hold. -/
theorem running_count_counterexample :
    Along BOk (init Witness.f15Cfg) Witness.f15Prefix ∧ Along KOk (init Witness.f15Cfg) Witness.f15Prefix ∧
    alongB rebindOkB (init Witness.f15Cfg) Witness.f15Prefix = false ∧
    (run (init Witness.f15Cfg) Witness.f15Prefix).pc = .fetch ∧
    (run (init Witness.f15Cfg) Witness.f15Prefix).status.numRunning = 3 ∧
    (run (init Witness.f15Cfg) Witness.f15Prefix).status.numIn (· == .stopping) = 0 ∧
    (run (init Witness.f15Cfg) Witness.f15Prefix).running = [0, 1] :=
  And.imp (along_of bOk_of) (And.imp_left (along_of kOk_of)) (by decide +kernel)

/-- `counters_partition` in the middle of the PBT run (2 started = 2 stopped) and late in the F15 run
(3 started = 2 completed + 1 running) -/
example :
    (run (init Witness.pbtCfg) Witness.pbtPrefix).status.numStarted = 2 ∧
    (run (init Witness.pbtCfg) Witness.pbtPrefix).status.numIn (· == .stopped) = 2 ∧
    (run (init Witness.pbtCfg) Witness.pbtPrefix).status.numRunning = 0 ∧
    (run (init Witness.f15Cfg) (Witness.f15Prefix ++ Witness.f15Rest.take 20)).status.numStarted = 3 ∧
    (run (init Witness.f15Cfg) (Witness.f15Prefix ++ Witness.f15Rest.take 20)).status.numCompleted = 2 ∧
    (run (init Witness.f15Cfg) (Witness.f15Prefix ++ Witness.f15Rest.take 20)).status.numRunning = 1 := by
  decide +kernel

/-- `started_keys`, `started_count`: the PBT run right after `start_trial(2)` returned (pc = `on_trial_add`): the backend
has three trials, two are recorded, three `start_trial` commands were issued -/
example :
    (run (init Witness.pbtCfg) (Witness.pbtPrefix ++ Witness.pbtRest.take 1)).pc = .addS ∧
    addPend (run (init Witness.pbtCfg) (Witness.pbtPrefix ++ Witness.pbtRest.take 1)).pc = 1 ∧
    (run (init Witness.pbtCfg) (Witness.pbtPrefix ++ Witness.pbtRest.take 1)).nStarted = 3 ∧
    keys (run (init Witness.pbtCfg) (Witness.pbtPrefix ++ Witness.pbtRest.take 1)).status.last = [0, 1] ∧
    startIds (run (init Witness.pbtCfg) (Witness.pbtPrefix ++ Witness.pbtRest.take 1)).log = [0, 1, 2] := by
  decide +kernel

example : keys (run (init Witness.pbtCfg) (Witness.pbtPrefix ++ Witness.pbtRest)).status.last = List.range 3 := by
  have h : (alongB bOkB (init Witness.pbtCfg) (Witness.pbtPrefix ++ Witness.pbtRest) = true ∧
      alongB kOkB (init Witness.pbtCfg) (Witness.pbtPrefix ++ Witness.pbtRest) = true) ∧
      (run (init Witness.pbtCfg) (Witness.pbtPrefix ++ Witness.pbtRest)).status.numStarted = 3 := by decide +kernel
  exact h.2 ▸ started_keys Witness.pbtCfg _ (along_of bOk_of h.1.1) (along_of kOk_of h.1.2)

/-- `started_end` on the whole PBT run and the whole two-worker run (normal returns) -/
example :
    (run (init Witness.pbtCfg) (Witness.pbtPrefix ++ Witness.pbtRest)).pc = .done ∧
    (run (init Witness.pbtCfg) (Witness.pbtPrefix ++ Witness.pbtRest)).err = none ∧
    (run (init Witness.cwCfg) (Witness.twoPrefix ++ Witness.twoWaitRest)).pc = .done ∧
    (run (init Witness.cwCfg) (Witness.twoPrefix ++ Witness.twoWaitRest)).err = none ∧
    startIds (run (init Witness.cwCfg) (Witness.twoPrefix ++ Witness.twoWaitRest)).log = [0, 1, 2, 3] := by
  decide +kernel

example : startIds (run (init Witness.cwCfg) (Witness.twoPrefix ++ Witness.twoWaitRest)).log
    = keys (run (init Witness.cwCfg) (Witness.twoPrefix ++ Witness.twoWaitRest)).status.last :=
  have h : (alongB bOkB (init Witness.cwCfg) (Witness.twoPrefix ++ Witness.twoWaitRest) = true ∧
      alongB kOkB (init Witness.cwCfg) (Witness.twoPrefix ++ Witness.twoWaitRest) = true) ∧
      (run (init Witness.cwCfg) (Witness.twoPrefix ++ Witness.twoWaitRest)).pc = .done ∧
      (run (init Witness.cwCfg) (Witness.twoPrefix ++ Witness.twoWaitRest)).err = none := by decide +kernel
  (started_end Witness.cwCfg _ (along_of bOk_of h.1.1) (along_of kOk_of h.1.2) h.2.1 h.2.2).2.2

/-- `started_at_boundary`, `running_count_partial`, `running_count_eq` at the `while` test of the two-worker run:
4 started = 4 in the backend = 4 commands; 2 recorded as running = |{2, 3}| -/
example :
    (run (init Witness.cwCfg) Witness.twoPrefix).pc = .loopHead ∧
    (run (init Witness.cwCfg) Witness.twoPrefix).status.numStarted = 4 ∧
    (run (init Witness.cwCfg) Witness.twoPrefix).nStarted = 4 ∧
    (run (init Witness.cwCfg) Witness.twoPrefix).status.numRunning = 2 ∧
    (run (init Witness.cwCfg) Witness.twoPrefix).running = [2, 3] := by
  decide +kernel

example : (run (init Witness.cwCfg) Witness.twoPrefix).status.numRunning = (run (init Witness.cwCfg) Witness.twoPrefix).running.length :=
  have h : (alongB bOkB (init Witness.cwCfg) Witness.twoPrefix = true ∧
      alongB kOkB (init Witness.cwCfg) Witness.twoPrefix = true) ∧
      finPc (run (init Witness.cwCfg) Witness.twoPrefix).pc = false ∧
      (run (init Witness.cwCfg) Witness.twoPrefix).status.numIn (· == .stopping) = 0 := by decide +kernel
  running_count_eq Witness.cwCfg _ (along_of bOk_of h.1.1) (along_of kOk_of h.1.2) (rebindOk_of_swd _ rfl _) h.2.1 h.2.2

/-- `started_fin` with the upper bound attained: the `on_trial_add`-raises run inside the `finally` block -/
example :
    finPc (run (init Witness.addRaiseCfg) (Witness.addRaiseRun.take 15)).pc = true ∧
    (run (init Witness.addRaiseCfg) (Witness.addRaiseRun.take 15)).nStarted =
      (run (init Witness.addRaiseCfg) (Witness.addRaiseRun.take 15)).status.numStarted + 1 := by
  decide +kernel

end SyneTune.C01b
