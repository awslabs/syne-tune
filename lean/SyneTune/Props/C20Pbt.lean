import SyneTune.Lemmas.PBTStep
/-
C20 (population-based training, scheduler level) and C15 for the same scheduler.

Model: `Model/PBT.lean` (`PopulationBasedTraining.on_trial_add / on_trial_result / _quantiles /
_get_trial_id_to_continue / _suggest`; `on_trial_error / remove / complete` are no-ops on PBT's
state).  All theorems are about EVERY history of operations from the initial state (or about one
operation in an arbitrary well-formed state, `WF` = every trial id is a key of `_trial_state`
once — which `run_wf` shows for every reachable state).

C20 says: when a new trial is started from another trial's checkpoint, that checkpoint has not
been deleted before.  With checkpoint removal on, the backend deletes the checkpoint of a trial
when the scheduler answers STOP for it.  What the scheduler guarantees, and what it does not:

* at the moment a clone decision `(src, config)` is PUSHED, `src` is not stopped, has a score, is
  not the trial being stopped, and is a member of the upper quantile (`push_spec`, `stack_origin`,
  `clone_origin`, `stopped_never_pushed`, `never_pushed_after_stop`);
* between the push and the POP by the next `suggest` the source can be answered STOP — it reaches
  `max_t`, or falls into the lower quantile itself: `pbt_source_may_be_stopped_before_pop_counterexample`,
  `pbt_source_in_lower_quantile_before_pop_counterexample` (the known open finding
  `c20:pbt-source-checkpoint-deleted`; loop-level twin: `C20Loop.pbt_counterexample`);
* if no result of the source arrives between push and pop, it is not stopped at the pop:
  `source_alive_at_pop_partial`.

Degenerate quantiles: for `quantile_fraction = 0` the code's `trials[-0:]` is the whole list
(`quantiles_zero_fraction_counterexample`; harmless, `no_push_when_fraction_zero`); the constructor
does not reject NEGATIVE fractions (`Float(0.0, 0.5)` skips a falsy lower bound), for which the two
quantiles overlap, a trial can be asked to clone itself (the code's `assert` fires) or a worse
trial (`quantiles_negative_fraction_counterexample`).

The perturbed configuration (`_explore`) is outside the model.  The random pick
`random_state.choice(upper_quantile)` is an input; the model rejects a pick outside the upper
quantile, so every statement about "the source" holds for whatever the generator returns.
-/
namespace SyneTune.C20Pbt
open SyneTune SyneTune.PBT

namespace W

/-- `max_t = 4`, `perturbation_interval = 1`, `quantile_fraction = 0.5`, `mode = "max"` -/
def p : Params := { maxT := 4, interval := 1, frac := 1/2, mode := .max }

/-- two trials; trial 1 is replaced by a clone of trial 0; before the `suggest` that starts the
clone, trial 0 reports at `max_t` and is stopped -/
def hMaxT : List Op :=
  [.suggest, .add 0, .suggest, .add 1,
   .result 0 3 5 none none,          -- first score: CONTINUE
   .result 1 1 3 (some 0) none,      -- lower quantile: STOP, push "clone from 0"
   .result 0 4 6 none none,          -- trial 0 reaches max_t: STOP
   .suggest]                         -- pops "clone from 0"

/-- three trials; trial 1 is replaced by a clone of trial 2 (the best); before that entry is
popped trial 2 reports a bad value, falls into the lower quantile and is stopped itself -/
def hLower : List Op :=
  [.suggest, .add 0, .suggest, .add 1, .suggest, .add 2,
   .result 0 1 5 none none,          -- CONTINUE (single candidate)
   .result 2 1 9 none none,          -- CONTINUE (upper quantile)
   .result 1 1 3 (some 2) none,      -- lower quantile [1], upper [2]: STOP, push "clone from 2"
   .result 2 2 1 (some 0) none,      -- trial 2 now worst of {0, 2}: STOP, push "clone from 0"
   .suggest,                         -- pops "clone from 0" (alive)
   .add 3,
   .suggest]                         -- pops "clone from 2" (stopped)

/-- a negative fraction, accepted by the constructor -/
def pNeg : Params := { maxT := 10, interval := 1, frac := -1/4, mode := .max }

/-- four trials with scores 1, 2, 3, 4 -/
def hNeg : List Op :=
  [.suggest, .add 0, .add 1, .add 2, .add 3,
   .result 0 1 1 none none, .result 1 1 2 none none, .result 2 1 3 none none, .result 3 1 4 none none]

def pZero : Params := { maxT := 10, interval := 1, frac := 0, mode := .max }

/-- three trials with scores 1, 2, 3 -/
def hZero : List Op :=
  [.suggest, .add 0, .add 1, .add 2, .result 0 1 1 none none, .result 1 1 2 none none, .result 2 1 3 none none]

end W

/-- **Every reachable state is well formed**: each trial id is a key of `_trial_state` once. -/
theorem run_wf (p : Params) (ops : List Op) : WF (run p State.init ops) := run_wf_from init_wf ops

/-- **Answers never depend on the future**: the answers to a history followed by more operations
begin with the answers to the history alone; model answers are a function of the parameters,
the operations so far and the picks they carry — nothing else. -/
theorem outs_append (p : Params) (s : State) (a b : List Op) :
    outs p s (a ++ b) = outs p s a ++ outs p (run p s a) b := by
  induction a generalizing s with
  | nil => rfl
  | cons op a ih => exact congrArg _ (ih _)

example : outs W.p State.init W.hMaxT =
    [.fresh, .done, .fresh, .done, .decision .continue (some ([], [])), .decision .stop (some ([1], [0])),
     .decision .stop none, .clone 0] := by decide +kernel

/-- What holds at the moment `on_trial_result(tid, cost, metric)` pushes "clone from `src`":
in the state in which `_quantiles()` runs (score of `tid` saved) `src` is not the reporting
trial, the reporting trial is in the lower quantile, `src` is in the upper quantile, is not
stopped and has a score `v`, and `v` is no worse than the score of every non-stopped scored
trial outside the upper quantile. -/
def PushOK (p : Params) (s : State) (tid : Nat) (cost metric : Rat) (kh : Option Int) (src : Nat) : Prop :=
  ∃ st v, alookup tid s.trials = some st ∧ src ≠ tid ∧
    tid ∈ (quantiles p (saved p s tid st cost metric) kh).1 ∧
    src ∈ (quantiles p (saved p s tid st cost metric) kh).2 ∧
    Scored (saved p s tid st cost metric) src v ∧
    ∀ t w, t ∉ (quantiles p (saved p s tid st cost metric) kh).2 →
      Scored (saved p s tid st cost metric) t w → w ≤ v

/-- **A push is a STOP of a lower-quantile trial with a live, scored, upper-quantile source.**
If an operation puts `src` on the decision stack, the operation is a `result` carrying the pick
`src`, it is answered STOP, and `PushOK` holds. -/
theorem push_spec {p : Params} {s : State} (hw : WF s) {op : Op} {src : Nat} (h : Pushes p s op src) :
    ∃ tid cost metric kh, op = .result tid cost metric (some src) kh ∧ PushOK p s tid cost metric kh src ∧
      ∃ q, (step p s op).2 = .decision .stop (some q) := by
  obtain ⟨tid, cost, metric, kh, st, rfl, he⟩ := pushes_spec h
  have hw1 : WF (saved p s tid st cost metric) := saved_wf hw tid st cost metric
  obtain ⟨v, hv⟩ := (mem_sortedIds hw1).mp (upper_sub p _ kh he.upper)
  exact ⟨tid, cost, metric, kh, rfl,
    ⟨st, v, he.known, he.ne, he.lower, he.upper, hv, fun t w => upper_dominates hw1 kh he.upper hv⟩,
    _, congrArg Prod.snd he.step_eq⟩

example : Pushes W.p (run W.p State.init (W.hMaxT.take 5)) (.result 1 1 3 (some 0) none) 0 := by
  unfold Pushes; decide +kernel

/-- **The source is alive BEFORE the call as well**: the trial pushed as clone source was, in the
state before the `on_trial_result` call that pushed it, not stopped and had a score. -/
theorem push_source_alive_before {p : Params} {s : State} (hw : WF s) {op : Op} {src : Nat}
    (h : Pushes p s op src) : ∃ v, Scored s src v := by
  obtain ⟨tid, cost, metric, kh, _, ⟨st, v, _, hne, _, _, hv, _⟩, _⟩ := push_spec hw h
  obtain ⟨st', h1, h2, h3⟩ := hv
  rw [saved_lookup_ne p s hne] at h1
  exact ⟨v, st', h1, h2, h3⟩

theorem push_source_alive_after {p : Params} {s : State} (hw : WF s) {op : Op} {src : Nat}
    (hpush : Pushes p s op src) : NotStopped (step p s op).1 src := by
  obtain ⟨v, hv⟩ := push_source_alive_before hw hpush
  obtain ⟨tid, cost, metric, kh, st, rfl, he⟩ := pushes_spec hpush
  exact step_notStopped hv.notStopped (by simpa [isResultOf] using he.ne.symm)

/-- **Every entry of the decision stack, after every history**, was pushed by an earlier `result`
operation of that history which satisfied `PushOK` in the state reached just before it. -/
theorem stack_origin (p : Params) (ops : List Op) (src : Nat) (h : src ∈ (run p State.init ops).stack) :
    ∃ pre tid cost metric kh post, ops = pre ++ .result tid cost metric (some src) kh :: post ∧
      PushOK p (run p State.init pre) tid cost metric kh src := by
  obtain ⟨pre, op, post, he, hp⟩ := (stack_origin_from p State.init ops src h).resolve_left List.not_mem_nil
  obtain ⟨tid, cost, metric, kh, hop, hok, _⟩ := push_spec (run_wf p pre) hp
  exact ⟨pre, tid, cost, metric, kh, post, by rw [he, hop], hok⟩

example : 2 ∈ (run W.p State.init (W.hLower.take 11)).stack := by decide +kernel

/-- **Every clone source `suggest` names** comes from such a push: if, after any history,
`suggest` answers "start from the checkpoint of `src`", then an earlier `result` of the history
pushed `src` with `PushOK`. -/
theorem clone_origin (p : Params) (ops : List Op) (src : Nat)
    (h : (step p (run p State.init ops) .suggest).2 = .clone src) :
    ∃ pre tid cost metric kh post, ops = pre ++ .result tid cost metric (some src) kh :: post ∧
      PushOK p (run p State.init pre) tid cost metric kh src := by
  obtain ⟨rest, h1⟩ := suggest_clone (s := run p State.init ops) h
  exact stack_origin p ops src (h1 ▸ List.mem_cons_self)

example : (step W.p (run W.p State.init (W.hMaxT.take 7)) .suggest).2 = .clone 0 := by decide +kernel

/-- **Fewer than two candidates: both quantiles empty** (`if len(trials) <= 1: return [], []`). -/
theorem quantiles_short (p : Params) (s : State) (kh : Option Int) (h : (sortedIds s).length ≤ 1) :
    quantiles p s kh = ([], []) := PBT.quantiles_short kh h

example : (sortedIds (run W.p State.init (W.hMaxT.take 5))).length ≤ 1 := by decide +kernel

/-- **Lower and upper quantile are disjoint** for every fraction in the documented range
(`0 ≤ quantile_fraction`; the upper end is enforced by the guard `> len/2` anyway). -/
theorem quantiles_disjoint (p : Params) (s : State) (hw : WF s) (kh : Option Int) (hf : 0 ≤ p.frac) :
    List.Disjoint (quantiles p s kh).1 (quantiles p s kh).2 := by
  obtain ⟨k, h2k, _, h1, h2 | ⟨rfl, _⟩⟩ := quantiles_shape (s := s) kh hf
  · rw [h1, h2]
    exact List.disjoint_take_drop (sortedIds_nodup hw) (by omega)
  · rw [h1]; exact List.disjoint_nil_left _

/-- **Sizes, exactly as the code guarantees them** (`0 ≤ quantile_fraction`): the lower quantile
holds at most half of the candidates; the upper quantile has the same size — or the lower one
is empty and the upper one is the WHOLE candidate list (`trials[-0:]`, when
`num_trials_in_quantile = 0`). -/
theorem quantiles_sizes (p : Params) (s : State) (kh : Option Int) (hf : 0 ≤ p.frac) :
    2 * (quantiles p s kh).1.length ≤ (sortedIds s).length ∧
    ((quantiles p s kh).2.length = (quantiles p s kh).1.length ∨
     ((quantiles p s kh).1 = [] ∧ (quantiles p s kh).2 = sortedIds s)) := by
  obtain ⟨k, h2k, _, h1, h2 | ⟨rfl, h2⟩⟩ := quantiles_shape (s := s) kh hf
  · have hk : k ≤ (sortedIds s).length := by omega
    rw [h1, h2, List.length_take_of_le hk, List.length_drop, Nat.sub_sub_self hk]
    exact ⟨h2k, .inl rfl⟩
  · rw [h1, h2]; exact ⟨Nat.zero_le _, .inr ⟨rfl, rfl⟩⟩

/-- **Equal size, at least one, at most half** when `0 < quantile_fraction` and there are at
least two candidates. -/
theorem quantiles_equal_size (p : Params) (s : State) (kh : Option Int) (hf : 0 < p.frac)
    (hn : 2 ≤ (sortedIds s).length) :
    (quantiles p s kh).1.length = (quantiles p s kh).2.length ∧ 1 ≤ (quantiles p s kh).1.length ∧
    2 * (quantiles p s kh).1.length ≤ (sortedIds s).length := by
  obtain ⟨k, h2k, hk, h1, h2⟩ := quantiles_shape (s := s) kh hf.le
  have hpos := numInQuantile_pos hf hn kh
  rw [hk (by omega)] at hpos
  obtain h2 | ⟨rfl, _⟩ := h2
  · have hk : k ≤ (sortedIds s).length := by omega
    rw [h1, h2, List.length_take_of_le hk, List.length_drop, Nat.sub_sub_self hk]
    exact ⟨rfl, Int.ofNat_le.1 hpos, h2k⟩
  · cases hpos

example : 0 < W.p.frac ∧ 2 ≤ (sortedIds (run W.p State.init (W.hLower.take 9))).length ∧
    WF (run W.p State.init (W.hLower.take 9)) :=
  ⟨by decide +kernel, by decide +kernel, run_wf _ _⟩

example : quantiles W.p (run W.p State.init (W.hLower.take 9)) none = ([0], [2]) := by decide +kernel

/-- **`quantile_fraction = 0` (the documented lower end): the quantiles are NOT of equal size.**
Three candidates with scores 1, 2, 3: `num_trials_in_quantile = 0`, the lower quantile is
`trials[:0] = []`, the upper quantile is `trials[-0:]` = all three. -/
theorem quantiles_zero_fraction_counterexample :
    W.pZero.documented ∧
    quantiles W.pZero (run W.pZero State.init W.hZero) none = ([], [0, 1, 2]) := by
  refine ⟨by decide +kernel, by decide +kernel⟩

/-- **… which is harmless**: with `quantile_fraction = 0` no operation ever pushes a clone
decision ("doing no exploitation at all", as the docstring of the class says). -/
theorem no_push_when_fraction_zero (p : Params) (hf : p.frac = 0) (s : State) (op : Op) (src : Nat) :
    ¬ Pushes p s op src := by
  intro h
  obtain ⟨tid, cost, metric, kh, st, -, he⟩ := pushes_spec h
  have hlo := he.lower
  rw [lower_empty_of_frac_zero kh hf] at hlo
  cases hlo

example : W.pZero.frac = 0 := rfl

/-- **A negative `quantile_fraction` passes the constructor's check and breaks the quantiles.**
`Float(0.0, 0.5).assert_valid` skips the falsy lower bound `0.0`; `-0.25` is accepted.  With four
candidates (scores 1, 2, 3, 4 for trials 0, 1, 2, 3) `num_trials_in_quantile = ceil(-1) = -1`, the
lower quantile is `trials[:-1] = [0, 1, 2]`, the upper one `trials[1:] = [1, 2, 3]`: they overlap.
When trial 2 (second best) reports again it is in the lower quantile; if the generator picks
trial 2 itself the code's `assert trial_id != trial_id_to_clone` fires; if it picks trial 1 the
second best trial is stopped and replaced by a clone of a WORSE one. -/
theorem quantiles_negative_fraction_counterexample :
    W.pNeg.accepted = true ∧ ¬ W.pNeg.documented ∧
    quantiles W.pNeg (run W.pNeg State.init W.hNeg) none = ([0, 1, 2], [1, 2, 3]) ∧
    (step W.pNeg (run W.pNeg State.init W.hNeg) (.result 2 2 3 (some 2) none)).2 = .err .selfPick ∧
    (step W.pNeg (run W.pNeg State.init W.hNeg) (.result 2 2 3 (some 1) none)).2
      = .decision .stop (some ([0, 1, 2], [1, 2, 3])) ∧
    Pushes W.pNeg (run W.pNeg State.init W.hNeg) (.result 2 2 3 (some 1) none) 1 := by
  refine ⟨by decide +kernel, by decide +kernel, by decide +kernel, by decide +kernel, by decide +kernel, ?_⟩
  unfold Pushes; decide +kernel

/-- **A trial answered STOP is marked stopped** (both STOP branches of `on_trial_result`). -/
theorem stop_marks_stopped (p : Params) (s : State) (tid : Nat) (cost metric : Rat) (pick : Option Nat)
    (kh : Option Int) (q : Option (List Nat × List Nat))
    (h : (step p s (.result tid cost metric pick kh)).2 = .decision .stop q) :
    IsStopped (step p s (.result tid cost metric pick kh)).1 tid := by
  rcases stop_cases h with ⟨st, h1, _, he⟩ | ⟨_, src, st, rfl, he⟩
  · rw [he]; exact ⟨_, markStopped_lookup_self h1, rfl⟩
  · rw [he.step_eq]; exact ⟨_, markStopped_lookup_self (saved_lookup_self p s tid st cost metric), rfl⟩

example : (step W.p (run W.p State.init (W.hMaxT.take 6)) (.result 0 4 6 none none)).2 = .decision .stop none := by
  decide +kernel

/-- **Stopped stays stopped**, along every continuation that does not `add` the same trial id
again (`on_trial_add` overwrites the record; the tuner never reuses an id). -/
theorem stopped_stays_stopped (p : Params) (s : State) (t : Nat) (h : IsStopped s t) (ops : List Op)
    (hops : ∀ op ∈ ops, op ≠ .add t) : IsStopped (run p s ops) t :=
  run_induction (P := (IsStopped · t)) (fun _ _ hop h => step_stopped h hop) h ops hops

/-- **A stopped trial is never pushed as clone source**: `_quantiles` skips stopped trials. -/
theorem stopped_never_pushed (p : Params) (s : State) (hw : WF s) (t : Nat) (h : IsStopped s t) (op : Op) :
    ¬ Pushes p s op t := by
  intro hp
  obtain ⟨v, hv⟩ := push_source_alive_before hw hp
  exact IsStopped.not_notStopped h hv.notStopped

/-- **After STOP, never a source again — every history.**  If a `result` of trial `t` is
answered STOP after the history `pre`, then whatever follows (`mid`, not re-adding the id `t`),
no later operation pushes `t` as clone source. -/
theorem never_pushed_after_stop (p : Params) (pre mid : List Op) (t : Nat) (cost metric : Rat)
    (pick : Option Nat) (kh : Option Int) (q : Option (List Nat × List Nat))
    (h : (step p (run p State.init pre) (.result t cost metric pick kh)).2 = .decision .stop q)
    (hmid : ∀ op ∈ mid, op ≠ .add t) (op : Op) :
    ¬ Pushes p (run p State.init (pre ++ .result t cost metric pick kh :: mid)) op t := by
  apply stopped_never_pushed p _ (run_wf p _)
  rw [run_append, run_cons]
  exact stopped_stays_stopped p _ t (stop_marks_stopped p _ t cost metric pick kh q h) mid hmid

example : (step W.p (run W.p State.init (W.hMaxT.take 5)) (.result 1 1 3 (some 0) none)).2
    = .decision .stop (some ([1], [0])) ∧ ∀ op ∈ [Op.result 0 4 6 none none, Op.suggest], op ≠ .add 1 := by
  constructor <;> decide +kernel

/-- **Known gap (open finding `c20:pbt-source-checkpoint-deleted`), `max_t` variant.**
History `W.hMaxT` (`max_t = 4`, interval 1, fraction 1/2, mode max, two trials): the 6th
operation — trial 1 reports 3 against trial 0's 5 — is answered STOP and pushes "clone from
trial 0" while trial 0 is alive; the 7th — trial 0 reports at resource 4 = `max_t` — is
answered STOP (with checkpoint removal on, the backend deletes trial 0's checkpoint now); the
8th, `suggest`, pops the entry: start a new trial from the checkpoint of trial 0, which is
marked stopped. -/
theorem pbt_source_may_be_stopped_before_pop_counterexample :
    Pushes W.p (run W.p State.init (W.hMaxT.take 5)) (.result 1 1 3 (some 0) none) 0 ∧
    NotStopped (run W.p State.init (W.hMaxT.take 6)) 0 ∧
    (step W.p (run W.p State.init (W.hMaxT.take 6)) (.result 0 4 6 none none)).2 = .decision .stop none ∧
    IsStopped (run W.p State.init (W.hMaxT.take 7)) 0 ∧
    (step W.p (run W.p State.init (W.hMaxT.take 7)) .suggest).2 = .clone 0 := by
  refine ⟨by unfold Pushes; decide +kernel,
    ⟨{ lastScore := some 5, lastPert := 3, stopped := false }, by decide +kernel, rfl⟩,
    by decide +kernel,
    ⟨{ lastScore := some 5, lastPert := 3, stopped := true }, by decide +kernel, rfl⟩,
    by decide +kernel⟩

/-- the history of the witness is the prefix used above followed by the three operations -/
example : W.hMaxT = W.hMaxT.take 5 ++ [.result 1 1 3 (some 0) none, .result 0 4 6 none none, .suggest] := by
  decide +kernel

/-- **Known gap, lower-quantile variant.**  History `W.hLower` (three trials): trial 1 is
stopped and "clone from trial 2" (the best) is pushed; before any `suggest`, trial 2 reports a
bad value, is now the worst of the two live candidates, is answered STOP itself (and pushes
"clone from trial 0"); the first `suggest` pops "clone from 0", the second pops "clone from 2" —
a trial stopped by PBT's own exploit step. -/
theorem pbt_source_in_lower_quantile_before_pop_counterexample :
    Pushes W.p (run W.p State.init (W.hLower.take 8)) (.result 1 1 3 (some 2) none) 2 ∧
    NotStopped (run W.p State.init (W.hLower.take 9)) 2 ∧
    (step W.p (run W.p State.init (W.hLower.take 9)) (.result 2 2 1 (some 0) none)).2
      = .decision .stop (some ([2], [0])) ∧
    IsStopped (run W.p State.init (W.hLower.take 12)) 2 ∧
    (step W.p (run W.p State.init (W.hLower.take 12)) .suggest).2 = .clone 2 := by
  refine ⟨by unfold Pushes; decide +kernel,
    ⟨{ lastScore := some 9, lastPert := 1, stopped := false }, by decide +kernel, rfl⟩,
    by decide +kernel,
    ⟨{ lastScore := some 1, lastPert := 2, stopped := true }, by decide +kernel, rfl⟩,
    by decide +kernel⟩

example : W.hLower = W.hLower.take 8 ++
    [.result 1 1 3 (some 2) none, .result 2 2 1 (some 0) none, .suggest, .add 3, .suggest] := by decide +kernel

/-- **Positive part (`_partial`): no result of the source between push and pop ⇒ the source is
not stopped.**  If the operation after history `pre` pushes "clone from `src`" and none of the
operations `mid` that follow is a result reported by `src`, then `src` is not marked stopped
after `pre ++ op :: mid` — in particular at the `suggest` that pops the entry, whenever that is.
Results of OTHER trials, further pushes and pops, failures, removals may all happen in `mid`.
Without the hypothesis the statement is false: the two counterexamples above. -/
theorem source_alive_at_pop_partial (p : Params) (pre mid : List Op) (op : Op) (src : Nat)
    (hpush : Pushes p (run p State.init pre) op src)
    (hmid : ∀ o ∈ mid, isResultOf src o = false) :
    NotStopped (run p State.init (pre ++ op :: mid)) src := by
  rw [run_append, run_cons]
  exact run_notStopped (push_source_alive_after (run_wf p pre) hpush) mid hmid

/-- the hypotheses hold on the first witness with two operations of another trial in between -/
example : NotStopped (run W.p State.init
    (W.hMaxT.take 5 ++ .result 1 1 3 (some 0) none :: [.suggest, .add 2, .result 2 1 7 none none])) 0 :=
  source_alive_at_pop_partial W.p _ _ _ 0 pbt_source_may_be_stopped_before_pop_counterexample.1 (by decide +kernel)

/-- what the counterexample breaks is exactly that hypothesis -/
example : isResultOf 0 (.result 0 4 6 none none) = true := rfl

/-- **STOP at `max_t`**: a result of a known trial with `cost ≥ max_t` is answered STOP, the
trial is marked stopped, nothing else changes (no score saved, no quantiles, no push). -/
theorem stop_at_max_t (p : Params) (s : State) (tid : Nat) (st : TState) (cost metric : Rat)
    (pick : Option Nat) (kh : Option Int) (hk : alookup tid s.trials = some st) (hc : p.maxT ≤ cost) :
    step p s (.result tid cost metric pick kh) = (markStopped s tid, .decision .stop none) ∧
    IsStopped (markStopped s tid) tid ∧ (markStopped s tid).stack = s.stack :=
  ⟨onResult_maxT pick kh hk hc, ⟨_, markStopped_lookup_self hk, rfl⟩, markStopped_stack s tid⟩

example : alookup 0 (run W.p State.init (W.hMaxT.take 6)).trials
    = some { lastScore := some 5, lastPert := 3, stopped := false } ∧ W.p.maxT ≤ 4 := by
  constructor <;> decide +kernel

/-- **CONTINUE strictly inside the perturbation interval**: below `max_t` and with
`cost - last_perturbation_time < perturbation_interval` the answer is CONTINUE and the state
does not change at all. -/
theorem continue_inside_interval (p : Params) (s : State) (tid : Nat) (st : TState) (cost metric : Rat)
    (pick : Option Nat) (kh : Option Int) (hk : alookup tid s.trials = some st) (hc : cost < p.maxT)
    (hi : cost - st.lastPert < p.interval) :
    step p s (.result tid cost metric pick kh) = (s, .decision .continue none) :=
  onResult_inside pick kh hk (not_le.mpr hc) hi

example : alookup 0 (run W.p State.init (W.hMaxT.take 5)).trials
    = some { lastScore := some 5, lastPert := 3, stopped := false } ∧ (7/2 : Rat) < W.p.maxT ∧
    (7/2 : Rat) - 3 < W.p.interval := by
  refine ⟨by decide +kernel, by decide +kernel, by decide +kernel⟩

/-- **Below `max_t`, STOP happens only by the exploit step**: a STOP at `cost < max_t` means the
trial was in the lower quantile and a clone decision for the supplied pick was pushed. -/
theorem stop_below_max_t_only_from_lower_quantile (p : Params) (s : State) (tid : Nat) (cost metric : Rat)
    (pick : Option Nat) (kh : Option Int) (q : Option (List Nat × List Nat)) (hc : cost < p.maxT)
    (h : (step p s (.result tid cost metric pick kh)).2 = .decision .stop q) :
    ∃ src, pick = some src ∧ Pushes p s (.result tid cost metric pick kh) src := by
  rcases stop_cases h with ⟨_, _, hc', _⟩ | ⟨_, src, st, rfl, he⟩
  · exact absurd hc' (not_le.mpr hc)
  · exact ⟨src, rfl, he.pushes⟩

/-- **The random pick only names the source.**  Two admissible picks (both calls answered with a
decision, not rejected) give the same decision, the same quantiles and the same trial records;
the stacks are equal, or differ exactly in the entry pushed. -/
theorem pick_only_names_the_source (p : Params) (s : State) (tid : Nat) (cost metric : Rat) (a b : Nat)
    (kh : Option Int) (da db : Decision) (qa qb : Option (List Nat × List Nat))
    (ha : (step p s (.result tid cost metric (some a) kh)).2 = .decision da qa)
    (hb : (step p s (.result tid cost metric (some b) kh)).2 = .decision db qb) :
    da = db ∧ qa = qb ∧
    (step p s (.result tid cost metric (some a) kh)).1.trials = (step p s (.result tid cost metric (some b) kh)).1.trials ∧
    ((step p s (.result tid cost metric (some a) kh)).1.stack = (step p s (.result tid cost metric (some b) kh)).1.stack ∨
     ((step p s (.result tid cost metric (some a) kh)).1.stack = a :: s.stack ∧
      (step p s (.result tid cost metric (some b) kh)).1.stack = b :: s.stack)) := by
  simp only [step] at ha hb ⊢
  rcases onResult_pick p s tid cost metric kh with h | ⟨st, h⟩
  · rw [h (some b) (some a)] at hb ⊢; rw [ha] at hb; cases hb; exact ⟨rfl, rfl, rfl, .inl rfl⟩
  · obtain ⟨a', ha', ea⟩ := h _ _ _ ha
    obtain ⟨b', hb', eb⟩ := h _ _ _ hb
    cases ha'; cases hb'
    rw [ea] at ha ⊢; rw [eb] at hb ⊢; cases ha; cases hb
    exact ⟨rfl, rfl, rfl, .inr ⟨rfl, rfl⟩⟩

example : (step W.p (run W.p State.init (W.hLower.take 8)) (.result 1 1 3 (some 2) none)).2
    = .decision .stop (some ([1], [2])) := by decide +kernel

/-- **No pick needed, none used**: when the call without a pick is answered with a decision
(the trial is not in the lower quantile, or the call ends before `_quantiles`), a supplied pick
changes nothing — state and answer are the same. -/
theorem pick_ignored_outside_lower_quantile (p : Params) (s : State) (tid : Nat) (cost metric : Rat)
    (pick : Option Nat) (kh : Option Int) (d : Decision) (q : Option (List Nat × List Nat))
    (h : (step p s (.result tid cost metric none kh)).2 = .decision d q) :
    step p s (.result tid cost metric pick kh) = step p s (.result tid cost metric none kh) := by
  simp only [step] at h ⊢
  rcases onResult_pick p s tid cost metric kh with h' | ⟨st, h'⟩
  · exact h' _ _
  · obtain ⟨_, hp, _⟩ := h' _ _ _ h; cases hp

example : (step W.p (run W.p State.init (W.hLower.take 7)) (.result 2 1 9 none none)).2
    = .decision .continue (some ([0], [2])) := by decide +kernel

/-- **`on_trial_error`, `on_trial_remove`, `on_trial_complete` do not touch PBT's state**: a failed,
removed or completed trial keeps its record (and, unless it was answered STOP, remains a
candidate for the quantiles). -/
theorem bookkeeping_ops_are_noops (p : Params) (s : State) (t : Nat) :
    step p s (.error t) = (s, .done) ∧ step p s (.remove t) = (s, .done) ∧ step p s (.complete t) = (s, .done) :=
  ⟨rfl, rfl, rfl⟩

/-- **One step of the mirrored experiment equals one step of the original**: with the mode flipped
and the reported metric negated (same cost, same pick, same round-off hint) the answer and the
new state are IDENTICAL — the state stores `_metric_op * metric`, which is the same number in both
experiments. -/
theorem step_symm (p : Params) (s : State) (op : Op) : step (negParams p) s (negOp op) = step p s op := by
  cases op with
  | result tid c m pk kh => exact onResult_symm p s tid c m pk kh
  | _ => rfl

/-- **C15 for the whole PBT scheduler, every history**: same final state. -/
theorem run_symm (p : Params) (s : State) (ops : List Op) :
    run (negParams p) s (ops.map negOp) = run p s ops := by
  unfold run
  rw [List.foldl_map]
  simp only [step_symm]

/-- **… and the same answers** (decisions, quantiles, clone sources, errors), every history. -/
theorem outs_symm (p : Params) (s : State) (ops : List Op) :
    outs (negParams p) s (ops.map negOp) = outs p s ops := by
  induction ops generalizing s with
  | nil => rfl
  | cons op ops ih => rw [List.map_cons, outs, outs, step_symm, ih]

example : (negParams W.p).mode = .min ∧
    negOp (.result 1 1 3 (some 0) none) = .result 1 1 (-3) (some 0) none := ⟨rfl, by decide +kernel⟩

example : outs (negParams W.p) State.init (W.hLower.map negOp) = outs W.p State.init W.hLower := by decide +kernel

end SyneTune.C20Pbt
