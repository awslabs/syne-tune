import SyneTune.Lemmas.ReportChannelRun
/-
C18 — metrics reported by a training script arrive unchanged at the tuner.
Model: `Model/ReportChannel.lean`.

Trusted (hypotheses, exercised by the correspondence check): `json.dumps` produces a text
without line terminators that starts with `{` and ends with `}` (`PayloadOK`), and
`json.loads (json.dumps d) = d` for normalised `d` (`hdec` below); a report line including
its `'\n'` reaches the file in one piece (the `'\n'` is part of `render`); the clock.
-/
namespace SyneTune.C18
open SyneTune.Report

/-- `ST_SAGEMAKER_METRIC_TAG = "tune-metric"`: no line terminator inside, and the marker
`"[tune-metric]: {"` has no proper border (does not overlap itself). -/
theorem tag_ok : MarkerOK tuneMetricTag := markerOK_of_B (by decide +kernel)

/-- the diagnostics printed by `_serialize_report_dict` on a rejected report cannot
contribute to an occurrence of the marker. -/
theorem diag_ok : DiagOK tuneMetricTag :=
  ⟨by decide +kernel, by decide +kernel,
    marker_not_infix fun h => diagType_shape.2 (List.mem_of_mem_tail h),
    marker_not_infix fun h => diagSize_shape.2 (List.mem_of_mem_tail h)⟩

/-- **Framing, as the local back-end reads it.**  For every list of report texts `p₁ … p_k`
(each satisfying J1/J2) and all noise chunks `n₁ … n_k`, `tail` none of which contains the
marker `"[tag]: {"` — a chunk being *everything* written between two consecutive report
lines, empty or not, with or without trailing newline, so in particular noise directly in
front of a report on the same line — the file `n₁ line(p₁) n₂ line(p₂) … tail`, read with
`open(…).readlines()` (universal newlines, lines keep their `'\n'`) and parsed by
`retrieve` (`re.findall(r"\[tag\]: (\{.*\})", "\n".join(lines))`), yields exactly
`p₁ … p_k`, in order. -/
theorem framing (tag : List Char) (hm : MarkerOK tag)
    (segs : List (List Char × List Char)) (tail : List Char)
    (hp : ∀ s ∈ segs, PayloadOK s.2)
    (hn : ∀ s ∈ segs, ¬ marker tag <:+: s.1) (ht : ¬ marker tag <:+: tail) :
    retrieve tag (localRead (streamText tag segs tail)) = segs.map (·.2) := by
  unfold localRead
  rw [retrieve_readlines (marker_nl hm.nl)]
  exact findall_univAux_streamText hm segs tail hp hn ht false

/-- the same for lines obtained without newline translation (`readlines` of a `StringIO`,
`splitlines(keepends=True)` on `'\n'`). -/
theorem framing_readlines (tag : List Char) (hm : MarkerOK tag)
    (segs : List (List Char × List Char)) (tail : List Char)
    (hp : ∀ s ∈ segs, PayloadOK s.2)
    (hn : ∀ s ∈ segs, ¬ marker tag <:+: s.1) (ht : ¬ marker tag <:+: tail) :
    retrieve tag (readlines (streamText tag segs tail)) = segs.map (·.2) := by
  rw [retrieve_readlines (marker_nl hm.nl)]
  exact findall_streamText hm segs tail hp hn ht

/-- the same for the regular expression applied to the raw text (what `retrieve` computes
when the lines come from `text.split("\n")`). -/
theorem framing_text (tag : List Char) (hm : MarkerOK tag)
    (segs : List (List Char × List Char)) (tail : List Char)
    (hp : ∀ s ∈ segs, PayloadOK s.2)
    (hn : ∀ s ∈ segs, ¬ marker tag <:+: s.1) (ht : ¬ marker tag <:+: tail) :
    findall tag (streamText tag segs tail) = segs.map (·.2) :=
  findall_streamText hm segs tail hp hn ht

/-- the property's wording: noise that does not contain the *tag* (`tune-metric`) at all. -/
theorem framing_tag_free (tag : List Char) (hm : MarkerOK tag)
    (segs : List (List Char × List Char)) (tail : List Char)
    (hp : ∀ s ∈ segs, PayloadOK s.2)
    (hn : ∀ s ∈ segs, ¬ tag <:+: s.1) (ht : ¬ tag <:+: tail) :
    retrieve tag (localRead (streamText tag segs tail)) = segs.map (·.2) := by
  have htm : tag <:+: marker tag := ⟨['['], [']', ':', ' ', '{'], by simp [marker]⟩
  exact framing tag hm segs tail hp (fun s hs h => hn s hs (htm.trans h)) (fun h => ht (htm.trans h))

/-- extra line breaks are invisible to the regex: `"\n".join(f.readlines())` (which doubles
every newline) contains the same reports as the text itself — for *every* text. -/
theorem join_readlines_invisible (tag : List Char) (hnl : '\n' ∉ tag) (s : List Char) :
    retrieve tag (readlines s) = findall tag s :=
  retrieve_readlines (marker_nl hnl) s

/-- matches never cross a line break — for *every* text. -/
theorem findall_lines (tag : List Char) (hnl : '\n' ∉ tag) (a b : List Char) :
    findall tag (a ++ '\n' :: b) = findall tag a ++ findall tag b :=
  scan_append_nl (marker_nl hnl) a 0 b (Nat.zero_le _)

/-- **The line break that ends a report line is essential.**  The statement of `framing`
with report lines *not* terminated (noise may follow the report on the same line) is
false: with noise `" done}"` behind `{"a": 1}` the greedy `.*\}` runs to the noise's
brace.  (Replayed on the real `retrieve`: `json.loads` raises on the group, see
`harness/props/c18.py`.)  In the code the terminator is written by the same `print` call
as the line; that this `print` is not interleaved with other writers is an assumption. -/
theorem framing_needs_line_end_counterexample :
    ¬ (∀ (payload noise : List Char), PayloadOK payload → ¬ marker tuneMetricTag <:+: noise →
        findall tuneMetricTag (linePrefix tuneMetricTag ++ payload ++ noise) = [payload]) := by
  intro h
  exact absurd (h "{\"a\": 1}".toList " done}".toList (payloadOK_of_B (by decide +kernel))
    (by decide +kernel)) (by decide +kernel)

/-- **A forged marker is a report** (the hypothesis on noise in `framing` cannot be
dropped; this is the protocol, not a defect). -/
theorem forged_marker_is_a_report :
    findall tuneMetricTag "x[tune-metric]: {}\n".toList = ["{}".toList] := by
  decide +kernel

/-- **Reserved namespace.**  If any key of the report starts with `st_`, the call fails with
an assertion error *before* anything is written, and the reporter is unchanged (the
counter is not consumed).  (`noneValue` is the earlier assertion on `None` values.) -/
theorem reject_reserved (c : Cfg) (enc : PDict → List Char) (st : St)
    (kw : List (List Nat × Val)) (now perf : Rat)
    (k : List Nat) (v : Val) (hmem : (k, v) ∈ kw) (hk : reservedPrefix <+: k) :
    (st.call c enc kw now perf = (st, some .reserved) ∨
      st.call c enc kw now perf = (st, some .noneValue)) ∧
    (hasNone kw = false → st.call c enc kw now perf = (st, some .reserved)) := by
  have hr : hasReserved kw = true := by
    unfold hasReserved
    rw [List.any_eq_true]
    exact ⟨(k, v), hmem, List.isPrefixOf_iff_prefix.mpr hk⟩
  constructor
  · cases h0 : hasNone kw with
    | true => exact Or.inr (call_none c enc st kw now perf h0)
    | false => exact Or.inl (call_reserved c enc st kw now perf h0 hr)
  · intro h0; exact call_reserved c enc st kw now perf h0 hr

/-- a `None` value is rejected before anything is written. -/
theorem reject_none (c : Cfg) (enc : PDict → List Char) (st : St)
    (kw : List (List Nat × Val)) (now perf : Rat)
    (k : List Nat) (hmem : (k, Val.leaf .null) ∈ kw) :
    st.call c enc kw now perf = (st, some .noneValue) := by
  apply call_none
  unfold hasNone
  rw [List.any_eq_true]
  exact ⟨_, hmem, rfl⟩

/-- **Unserialisable values.**  A report (with admissible keys) is rejected with
`TypeError` iff some value contains — at any depth — an object that is neither natively
JSON-encodable nor a numpy scalar whose `.item()` is, or a dictionary key of a
non-JSON type.  No report line is written: the only output is the diagnostic line, which
is marker-free (`diag_ok`). -/
theorem reject_unserialisable (c : Cfg) (enc : PDict → List Char) (st : St)
    (kw : List (List Nat × Val)) (now perf : Rat)
    (h0 : hasNone kw = false) (h1 : hasReserved kw = false) :
    ((∃ kv ∈ kw, kv.2.bad = true) ↔ (st.call c enc kw now perf).2 = some .typeError) ∧
    ((∃ kv ∈ kw, kv.2.bad = true) →
      st.call c enc kw now perf =
        ({ st with iter := st.iter + 1, cur := st.cur ++ diagType }, some .typeError)) := by
  have key := normKw_none_iff kw
  constructor
  · constructor
    · intro h; rw [call_type c enc st kw now perf h0 h1 (key.mpr h)]
    · intro h
      have hc := call_cases c enc st kw now perf
      generalize st.call c enc kw now perf = r at hc h
      cases hc with
      | typeError hn => exact key.mp hn
      | _ => cases h
  · intro h; exact call_type c enc st kw now perf h0 h1 (key.mpr h)

/-- **Size limit.**  A serialisable report whose JSON text has
`sys.getsizeof(text) = overhead + len(text) ≥ 50000` is rejected with an assertion error;
no report line is written (only the marker-free diagnostic). -/
theorem size (c : Cfg) (enc : PDict → List Char) (st : St)
    (kw : List (List Nat × Val)) (now perf : Rat) (dkw : PDict)
    (h0 : hasNone kw = false) (h1 : hasReserved kw = false) (h : normKw kw = some dkw)
    (hs : sizeLimit ≤ c.overhead + (enc (sentDict c st dkw now perf)).length) :
    st.call c enc kw now perf =
      ({ st with iter := st.iter + 1, cur := st.cur ++ diagSize }, some .tooLarge) :=
  call_large c enc st kw now perf dkw h0 h1 h (Nat.not_lt.mpr hs)

/-- **What is sent.**  Every other report is accepted: exactly one line is appended after
the noise written so far, carrying the reported dictionary with every value normalised
(`Val.norm`: numpy scalars replaced by their `.item()`, nothing else changed), followed by
the time stamp, [the elapsed time, [the cost]] and the counter. -/
theorem accepted (c : Cfg) (enc : PDict → List Char) (st : St)
    (kw : List (List Nat × Val)) (now perf : Rat) (dkw : PDict)
    (h0 : hasNone kw = false) (h1 : hasReserved kw = false) (h : normKw kw = some dkw)
    (hs : c.overhead + (enc (sentDict c st dkw now perf)).length < sizeLimit) :
    st.call c enc kw now perf =
      ({ st with iter := st.iter + 1,
                 segs := st.segs ++ [(st.cur, dkw ++ (extras c st now perf st.iter).map
                                                fun e => (e.1, Plain.leaf e.2))],
                 cur := [] }, none) :=
  call_ok c enc st kw now perf dkw h0 h1 h hs

/-- a numpy scalar arrives as the plain number its `.item()` is; a plain value arrives
as it is; ndarray / set / arbitrary objects are not serialisable. -/
theorem numpy_scalar_plain (l : Leaf) :
    (Val.np (.leaf l)).norm = some (.leaf l) ∧ (Val.leaf l).norm = some (.leaf l) ∧
    Val.other.norm = none ∧ (Val.np .other).norm = none := by
  simp [Val.norm]

/-- a value is rejected iff it contains something unserialisable, at any depth. -/
theorem norm_none_iff_bad (v : Val) : v.norm = none ↔ v.bad = true := Val.norm_none_iff v

/-- **Counter strictly increasing.**  After any history of reports (accepted or rejected in
any way) and noise, the `st_worker_iter` values of the delivered dictionaries, in order of
delivery, are natural numbers in strictly increasing order, all below the reporter's
counter. -/
theorem counter_increasing (c : Cfg) (hc : CfgOK c) (enc : PDict → List Char) (perf0 : Rat)
    (ops : List Op) :
    ∃ is : List Nat,
      (St.run c enc (St.init c perf0) ops).segs.map (fun s => iterOf c s.2) =
        is.map (fun i : Nat => some (i : Int)) ∧
      is.Pairwise (· < ·) ∧ ∀ i ∈ is, i < (St.run c enc (St.init c perf0) ops).iter := by
  obtain ⟨D, h1, -, h3, h4, -, -⟩ := run_sent c enc ops (St.init c perf0)
  refine ⟨D.map (·.i), ?_, h4, fun i hi => ?_⟩
  · exact map_sent h1 _ _ _ fun e he => iterOf_sent c hc _ (h3 e he).1
  · obtain ⟨e, he, rfl⟩ := List.mem_map.mp hi
    exact (h3 e he).2.2

/-- **Counter = 0, 1, 2, …** as long as no report fails inside `_serialize_report_dict`
(`TypeError` / size): the k-th delivered dictionary carries `st_worker_iter = k`.
(A report failing there has already consumed a counter value — the code increments
`self.iter` before serialising — so afterwards the sequence has a gap but stays strictly
increasing, `counter_increasing`.) -/
theorem counter_contiguous (c : Cfg) (hc : CfgOK c) (enc : PDict → List Char) (perf0 : Rat)
    (ops : List Op) (hs : serialOK c enc (St.init c perf0) ops = true) :
    (St.run c enc (St.init c perf0) ops).segs.map (fun s => iterOf c s.2) =
      (List.range (St.run c enc (St.init c perf0) ops).iter).map (fun i : Nat => some (i : Int)) :=
  contig_run c hc enc ops _ (by simp [ContigInv, St.init]) hs

/-- the configuration of a default `Reporter()` with the constants of `constants.py`
(CPython 3.12: `sys.getsizeof("") = 41`), used in the examples -/
def shipped : Cfg where
  tag := tuneMetricTag
  kTimestamp := cps "st_worker_timestamp"
  kTime := cps "st_worker_time"
  kCost := cps "st_worker_cost"
  kIter := cps "st_worker_iter"
  overhead := 41
  addTime := true
  dollarCost := none

/-- the gap after a serialisation failure is real (model level): report an ndarray, then a
number — the delivered counter is 1, not 0. -/
theorem counter_gap_example :
    let c := shipped
    (St.run c (fun _ => "{}".toList) (St.init c 0)
      [.report [(cps "a", .other)] 1 1, .report [(cps "a", .leaf (.int 5))] 2 2]).segs.map
        (fun s => iterOf c s.2) = [some 1] := by
  decide +kernel

/-- **Time stamps non-decreasing.**  If the readings of `time()` at successive report calls
are non-decreasing (trusted: the clock), the `st_worker_timestamp` values of the delivered
dictionaries are non-decreasing in order of delivery. -/
theorem timestamps_nondecreasing (c : Cfg) (hc : CfgOK c) (enc : PDict → List Char)
    (perf0 : Rat) (ops : List Op) (hclock : (nows ops).Pairwise (· ≤ ·)) :
    ∃ L : List Rat,
      (St.run c enc (St.init c perf0) ops).segs.map (fun s => tsOf c s.2) = L.map some ∧
      L.Pairwise (· ≤ ·) := by
  obtain ⟨D, h1, -, h3, -, h5, -⟩ := run_sent c enc ops (St.init c perf0)
  refine ⟨D.map (·.now), ?_, hclock.sublist h5⟩
  exact map_sent h1 _ _ _ fun e he => tsOf_sent c hc _ (h3 e he).1

/-- the same for `st_worker_time = perf_counter() - start` (when `add_time`). -/
theorem times_nondecreasing (c : Cfg) (hc : CfgOK c) (hat : c.addTime = true)
    (enc : PDict → List Char) (perf0 : Rat) (ops : List Op)
    (hclock : (perfs ops).Pairwise (· ≤ ·)) :
    ∃ L : List Rat,
      (St.run c enc (St.init c perf0) ops).segs.map (fun s => timeOf c s.2) = L.map some ∧
      L.Pairwise (· ≤ ·) := by
  obtain ⟨D, h1, -, h3, -, -, h6⟩ := run_sent c enc ops (St.init c perf0)
  -- `grind` is asked `a ≤ b → a - s ≤ b - s` on `Rat`
  refine ⟨D.map fun e => e.perf - (St.init c perf0).start, ?_,
    List.pairwise_map.mpr ((List.pairwise_map.mp (hclock.sublist h6)).imp fun h => by grind)⟩
  exact map_sent h1 _ _ _ fun e he => timeOf_sent c hc hat _ (h3 e he).1

/-- **End to end.**  Let a training script produce any history of report calls (accepted or
rejected for any of the reasons above) and other output, such that the other output never
completes an occurrence of the marker (`cleanRun`).  Then reading the captured file the way
the local back-end does and applying `retrieve` finds exactly the JSON texts of the accepted
reports, in order; and with `json.loads` inverting `json.dumps` on normalised dictionaries
(trusted), the tuner obtains exactly the dictionaries described by `accepted`. -/
theorem end_to_end (c : Cfg) (hm : MarkerOK c.tag) (hd : DiagOK c.tag)
    (enc : PDict → List Char) (henc : ∀ d, PayloadOK (enc d))
    (dec : List Char → Option PDict) (hdec : ∀ d, dec (enc d) = some d)
    (perf0 : Rat) (ops : List Op) (hclean : cleanRun c enc (St.init c perf0) ops) :
    retrieve c.tag (localRead ((St.run c enc (St.init c perf0) ops).out c enc)) =
      (St.run c enc (St.init c perf0) ops).segs.map (fun s => enc s.2) ∧
    (retrieve c.tag (localRead ((St.run c enc (St.init c perf0) ops).out c enc))).map dec =
      (St.run c enc (St.init c perf0) ops).segs.map (fun s => some s.2) := by
  have h1 := retrieve_out c hm enc henc _ (free_run c hd enc ops (St.init c perf0)
    ⟨nofun, marker_not_infix List.not_mem_nil⟩ hclean)
  exact ⟨h1, by rw [h1]; simp [hdec]⟩

/-- a concrete stream: noise without newline directly in front of a report, a partial
marker `"[tune-"` glued to a report, a payload containing the marker, braces and an
escaped newline inside strings, `'\r'` line ends, trailing noise containing `'}'`. -/
example :
    let segs : List (List Char × List Char) :=
      [("epoch 1 }{ ".toList, "{\"a\": {\"s\": \"}[tune-metric]: {x\\n\"}}".toList),
       ("\rlog\r\n[tune-".toList, "{}".toList)]
    let tail := "} bye".toList
    (∀ s ∈ segs, PayloadOK s.2) ∧ (∀ s ∈ segs, ¬ marker tuneMetricTag <:+: s.1) ∧
      ¬ marker tuneMetricTag <:+: tail ∧
      retrieve tuneMetricTag (localRead (streamText tuneMetricTag segs tail)) = segs.map (·.2) := by
  refine ⟨fun s hs => payloadOK_of_B ?_, by decide +kernel⟩
  revert s
  decide +kernel

/-- the configuration used by the shipped constants satisfies `CfgOK`. -/
example : CfgOK shipped :=
  have h : (reservedPrefix <+: shipped.kTimestamp ∧ reservedPrefix <+: shipped.kTime ∧
      reservedPrefix <+: shipped.kIter) ∧ shipped.kIter ≠ shipped.kTimestamp ∧
      shipped.kIter ≠ shipped.kTime ∧ shipped.kIter ≠ shipped.kCost ∧
      shipped.kTime ≠ shipped.kTimestamp := by decide +kernel
  ⟨h.1.1, h.1.2.1, h.1.2.2, h.2.1, h.2.2.1, h.2.2.2.1, h.2.2.2.2⟩

/-- a clean history with an accepted report (numpy scalar inside a list), a reserved key,
an ndarray and noise: one line is delivered, the counter is 0, the numpy scalar is plain. -/
example :
    let c := shipped
    let enc : PDict → List Char := fun _ => "{}".toList
    let ops : List Op :=
      [.noise "hello ".toList,
       .report [(cps "st_x", .leaf (.int 1))] 1 1,
       .report [(cps "a", .list [.np (.leaf (.int 3))])] 2 2,
       .noise "}\n".toList,
       .report [(cps "b", .dict [(.str (cps "k"), .other)])] 3 3]
    cleanRun c enc (St.init c 0) ops ∧ serialOK c enc (St.init c 0) ops = false ∧
      (St.run c enc (St.init c 0) ops).segs.map (fun s => pget (cps "a") s.2) =
        [some (.list [.leaf (.int 3)])] ∧
      (St.run c enc (St.init c 0) ops).segs.map (fun s => iterOf c s.2) = [some 0] ∧
      (St.run c enc (St.init c 0) ops).iter = 2 := by
  refine ⟨?_, by decide +kernel, by rfl, by decide +kernel⟩
  simp only [cleanRun]
  decide +kernel

end SyneTune.C18
