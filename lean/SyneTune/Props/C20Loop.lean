import SyneTune.Lemmas.TunerWitness
import SyneTune.Lemmas.TunerWitnessData
/-
C20 (loop side) — a checkpoint exists whenever a trial is resumed or warm-started from it.
Property theorems only; model `Model/Tuner.lean` (incl. the generic `TrialBackend.stop_trial`,
`stop_all` and `RemoveCheckpointsCallback.on_loop_end`), lemmas `Lemmas/TunerCkpt.lean`.
The ghost list `deleted` records every trial for which `delete_checkpoint` has returned.
Scheduler-side parts (which schedulers satisfy `K2Ok` / `SrcOk`) are separate (`Props/C20Hb.lean`, `C20Pbt.lean`, `C20Sync.lean`,
`C04K.lean`); the link to these two contracts is not formal.
-/
namespace SyneTune.C20Loop
open SyneTune SyneTune.Tuner

/-- **A checkpoint is deleted only** (a) by `stop_trial` right after the scheduler's STOP of that
trial was carried out (`backend.stop_trial(t)` has just returned and `delete_checkpoints` is
on), (b) because the scheduler named the trial in `trials_checkpoints_can_be_removed`, or
(c) inside `stop_all` at the end of tuning (for a trial it has just stopped, or in the final
sweep over all trials).  Stated on the machine: `delete_checkpoint(t)` can only be the pending
call at four control points, each reached in exactly one way. -/
theorem delete_only_when (s : LState) (a : Ans) (t : Nat) (h : pending (step s a) = .delete t) :
    ((step s a).pc = .stopDel ∧ s.pc = .stopCmd ∧ pending s = .stop t ∧ s.cfg.deleteCkpt = true) ∨
    ((step s a).pc = .delRem ∧ s.pc = .delNext ∧ t ∈ s.dels) ∨
    ((step s a).pc = .finStopDel ∧ s.pc = .finStop ∧ pending s = .stop t ∧ s.cfg.deleteCkpt = true) ∨
    ((step s a).pc = .finDel ∧ s.pc = .finDelNext ∧ t ∈ s.dels) := by
  rw [step_pc]
  exact (next_trans s a).pending_delete (step_pending s a ▸ h)

/-- every deleted checkpoint belongs to a trial the scheduler stopped (it is in
`trials_scheduler_stopped`, or its `on_trial_remove` after STOP is the pending call) or named
removable — at every point of every run inside the loop -/
theorem deleted_only_stopped_or_named (c : Cfg) (as : List Ans)
    (hK2 : Along K2Ok (init c) as) (hSrc : Along SrcOk (init c) as) (hf : finPc (run (init c) as).pc = false) :
    ∀ t ∈ (run (init c) as).deleted,
      t ∈ (run (init c) as).schedStopped ∨ t ∈ (run (init c) as).removableSaid ∨
      ((run (init c) as).pc = .removeS ∧ t = (run (init c) as).cur.tid) :=
  (YInv.reach (reach_run c (hK2.and hSrc))).y1 hf

/-- the trials removed by `RemoveCheckpointsCallback` are the ones the scheduler named -/
theorem removal_callback_deletes_named (c : Cfg) (as : List Ans)
    (hK2 : Along K2Ok (init c) as) (hSrc : Along SrcOk (init c) as) (hp : (run (init c) as).pc = .delRem) :
    pending (run (init c) as) = .delete (run (init c) as).t ∧ (run (init c) as).t ∈ (run (init c) as).removableSaid :=
  ⟨by unfold pending; rw [hp], (YInv.reach (reach_run c (hK2.and hSrc))).y2' hp⟩

/-- **A resumed trial still has its checkpoint** — given contract K (resume only for a trial
whose run this scheduler ended with PAUSE, `KOk`; never for one it named removable, `K2Ok`) and
contract B: when `backend.resume_trial(id)` is the pending call, `delete_checkpoint(id)` has
never been carried out. -/
theorem resume_has_ckpt (c : Cfg) (as : List Ans)
    (hB : Along BOk (init c) as) (hK : Along KOk (init c) as)
    (hK2 : Along K2Ok (init c) as) (hSrc : Along SrcOk (init c) as)
    (hp : (run (init c) as).pc = .resumeCmd) :
    pending (run (init c) as) = .resume (run (init c) as).sId (run (init c) as).sRCfg ∧
    (run (init c) as).sId ∉ (run (init c) as).deleted := by
  refine ⟨by unfold pending; rw [hp], fun hd => ?_⟩
  have hY := YInv.reach (reach_run c (hK2.and hSrc))
  have hb := KInv.reach (reach_run c (hB.and hK)) (by rw [hp]; rfl)
  rcases hY.y1 (by rw [hp]; rfl) _ hd with h1 | h1 | h1
  · exact (hb.at_resumeCmd hp).2.2.2 h1
  · exact hY.y3 hp h1
  · rw [hp] at h1; exact nomatch h1.1

/-- **Warm start (population based training), partial.** If the scheduler never warm-starts from
a trial it has stopped or named removable (`SrcOk`; for PBT: the clone source is not stopped
between the clone decision and the next `suggest`), then whenever `copy_checkpoint(src, new)`
is the pending call the checkpoint of `src` has not been deleted.
The full statement (without `SrcOk`) is false for the loop: `pbt_counterexample`. -/
theorem pbt_partial (c : Cfg) (as : List Ans)
    (hK2 : Along K2Ok (init c) as) (hSrc : Along SrcOk (init c) as)
    (hp : (run (init c) as).pc = .copyCmd) (src : Nat) (hs : (run (init c) as).sCkpt = some src) :
    pending (run (init c) as) = .copy src (run (init c) as).sId ∧ src ∉ (run (init c) as).deleted := by
  refine ⟨by unfold pending; rw [hp, hs]; rfl, fun hd => ?_⟩
  have hY := YInv.reach (reach_run c (hK2.and hSrc))
  obtain ⟨h1, h2⟩ := hY.y4 (Or.inr hp) src hs
  rcases hY.y1 (by rw [hp]; rfl) _ hd with h3 | h3 | h3
  · exact h1 h3
  · exact h2 h3
  · rw [hp] at h3; exact nomatch h3.1

/-- **F5 — warm start from a deleted checkpoint.** `delete_checkpoints=True`, two workers.  One
poll delivers a result of trial 1, decided STOP (a PBT scheduler now queues "clone trial 0"), and
a result of trial 0, decided STOP as well (it reached `max_t`).  `stop_trial` deletes both
checkpoints; the next suggestion starts trial 2 from the checkpoint of trial 0.  The contracts
B, K and `K2Ok` hold along the run, yet `copy_checkpoint(0, 2)` is the pending call and the
checkpoint of trial 0 has been deleted.  (What fails is `SrcOk`: the scheduler names a source it
has itself stopped in between.) -/
theorem pbt_counterexample :
    Witness.pbtCfg.deleteCkpt = true ∧
    Along BOk (init Witness.pbtCfg) Witness.pbtPrefix ∧
    Along KOk (init Witness.pbtCfg) Witness.pbtPrefix ∧
    Along K2Ok (init Witness.pbtCfg) Witness.pbtPrefix ∧
    Along NCOk (init Witness.pbtCfg) Witness.pbtPrefix ∧
    pending (run (init Witness.pbtCfg) Witness.pbtPrefix) = .copy 0 2 ∧
    0 ∈ (run (init Witness.pbtCfg) Witness.pbtPrefix).deleted := by
  exact ⟨rfl, And.imp (along_of bOk_of) (And.imp (along_of kOk_of) (And.imp (along_of k2Ok_of)
    (And.imp_left (along_of ncOk_of)))) (by decide +kernel)⟩

/-- the Boolean test of the hypothesis that `pbt_partial` adds fails on the witness -/
example : alongB srcOkB (init Witness.pbtCfg) Witness.pbtPrefix = false := by decide +kernel

/-- the deletions of the witness run, in order: by `stop_trial` (1, then 0), then the final sweep of
`stop_all` over all trials -/
example : (run (init Witness.pbtCfg) (Witness.pbtPrefix ++ Witness.pbtRest)).deleted.reverse = [1, 0, 0, 1, 2] := by
  decide +kernel

/-- `delete_only_when` at the first deletion of the witness run (31 answers in): case (a) -/
example : pending (step (run (init Witness.pbtCfg) (Witness.pbtPrefix.take 30)) .ret) = .delete 1 ∧
    (run (init Witness.pbtCfg) (Witness.pbtPrefix.take 30)).pc = .stopCmd := by
  decide +kernel

end SyneTune.C20Loop
