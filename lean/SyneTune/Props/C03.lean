import SyneTune.Lemmas.HBOps
import SyneTune.Lemmas.RungLevels
/- C03 — stopping-type asynchronous Hyperband decides by the documented quantile rule. -/
namespace SyneTune.C03
open SyneTune

/-- `Rung.quantile` (the code's index arithmetic) is numpy's linear-interpolation
quantile of the recorded metrics, with `q = prom_quant` (min) / `1 - prom_quant` (max). -/
theorem cutoff_eq_numpy_quantile (m : Mode) (r : Rung) (hq0 : 0 < r.q) (hq1 : r.q < 1) :
    r.cutoff m = quantileAsc (r.ascVals m) (r.npQ m) :=
  cutoff_eq_quantileAsc m r hq0 hq1

/-- the cutoff exists exactly when the rung holds at least two entries (the code's
`assert 1 <= index < len_data` is unreachable for `0 < q < 1`). -/
theorem cutoff_isSome (m : Mode) (r : Rung) (hq0 : 0 < r.q) (hq1 : r.q < 1) :
    (r.cutoff m).isSome = true ↔ 2 ≤ r.data.length := by
  constructor
  · intro h
    by_contra hn
    simp only [Rung.cutoff, Nat.lt_of_not_le hn, if_true, Option.isSome_none] at h
    cases h
  · intro hn
    obtain ⟨i, d, hd, hi, _⟩ := exists_floor_mul hn (npQ_pos m r hq0 hq1).1 (npQ_pos m r hq0 hq1).2
    have hb : i + 1 < (r.ascVals m).length := by rw [ascVals_length]; omega
    rw [cutoff_eq_interpAt m r hd hi,
      interpAt_some (List.getElem?_eq_getElem (Nat.lt_of_succ_lt hb)) (List.getElem?_eq_getElem hb)]; rfl

/-- with fewer than two entries in the rung after insertion the trial continues
(restated at the level of `_task_continues`). -/
theorem fewer_than_two_continues (m : Mode) (v : Rat) (rg : Rung) (hint : Bool)
    (h : rg.data.length < 2) : (taskContinues m v rg hint).1 = true := by
  apply taskContinues_none
  unfold Rung.cutoff; simp [h]

/-- **Decision at an own rung level.**  A trial reporting resource `r ≠ max_t` where `r` is
the level of one of its own milestone rungs (`skip` = bracket offset) which does not yet
contain it: the value is inserted into exactly that rung (all other rungs untouched), and
the trial continues iff its metric is no worse than the numpy quantile of all metrics of
the rung *including its own* — for every comparison that is not within round-off
(`forced`); with fewer than two entries it continues. -/
theorem decision_at_own_rung (s : RungSys) (m : Mode) (tid r : Nat) (v : Rat) (skip : Nat)
    (hint : Bool) (hd : RungsDecr s.rungs) (hr : r ≠ s.maxT)
    (rg : Rung) (hmem : rg ∈ milestoneRungs s.rungs skip) (hl : rg.level = r)
    (hnc : rg.contains tid = false) (hq0 : 0 < rg.q) (hq1 : rg.q < 1) :
    let res := s.stopReport m tid r v skip hint
    let rg' := rg.add m { tid := tid, val := v }
    (∃ pre post, s.rungs = pre ++ rg :: post ∧ res.1.rungs = pre ++ rg' :: post) ∧
    res.2.reached = true ∧
    (rg'.data.length < 2 → res.2.continues = true) ∧
    (∀ c b, quantileAsc (rg'.ascVals m) (rg'.npQ m) = some c → cmpNoWorse m v c rg'.scale = .forced b →
        (res.2.continues = true ↔ m.noWorse v c)) := by
  intro res rg'
  obtain ⟨pre, post', hsplit⟩ := List.append_of_mem hmem
  have hpre : ∀ p ∈ pre, r < p.level ∨ p.contains tid = true := fun p hp => by
    have hdec : RungsDecr (pre ++ rg :: post') := hsplit ▸ hd.sublist (List.take_sublist _ _)
    exact .inl (hl ▸ hdec.above_of_append p hp)
  have hres : res = ({ s with rungs := pre ++ rg' :: post' ++ s.rungs.drop (s.rungs.length - skip) },
      { continues := (taskContinues m v rg' hint).1, reached := true, next := some (lastLevel s.maxT pre),
        free := (taskContinues m v rg' hint).2 }) := by
    show s.stopReport m tid r v skip hint = _
    unfold RungSys.stopReport
    simp only [hr, if_false, hsplit, stopScan_at_rung m tid r v hint s.maxT pre post' rg hpre hl hnc]
    rfl
  have hq' : rg'.q = rg.q := rfl
  refine ⟨⟨pre, post' ++ s.rungs.drop (s.rungs.length - skip), ?_, ?_⟩, ?_, ?_, ?_⟩
  · have := List.take_append_drop (s.rungs.length - skip) s.rungs
    unfold milestoneRungs at hsplit
    rw [hsplit] at this
    simpa using this.symm
  · rw [hres]; simp only [List.append_assoc, List.cons_append]
  · rw [hres]
  · intro hlen
    rw [hres]
    exact fewer_than_two_continues m v rg' hint hlen
  · intro c b hcq hf
    rw [hres]
    have hcut : rg'.cutoff m = some c := by
      rw [cutoff_eq_numpy_quantile m rg' (by rw [hq']; exact hq0) (by rw [hq']; exact hq1)]; exact hcq
    rw [taskContinues_forced m v rg' hint c b hcut hf]
    exact cmpNoWorse_forced m v c _ b hf

/-- **Decisions only at own rung levels, each rung entered at most once.**  If no own
milestone rung of level `r` is still missing the trial (i.e. `r` is not an own rung level,
or the trial is already recorded there), the report changes no rung and the trial
continues. -/
theorem only_own_rungs (s : RungSys) (m : Mode) (tid r : Nat) (v : Rat) (skip : Nat) (hint : Bool)
    (hr : r ≠ s.maxT)
    (h : ∀ rg ∈ milestoneRungs s.rungs skip, rg.level = r → rg.contains tid = true) :
    (s.stopReport m tid r v skip hint).1 = s ∧
    (s.stopReport m tid r v skip hint).2.continues = true ∧
    (s.stopReport m tid r v skip hint).2.reached = false := by
  obtain ⟨n, hs⟩ := stopScan_off_rung m tid r v hint s.maxT (milestoneRungs s.rungs skip) h
  unfold RungSys.stopReport
  simp only [hr, if_false, hs, and_self, and_true]
  unfold milestoneRungs
  rw [List.take_append_drop]

structure Report where
  tid : Nat
  r : Nat
  v : Rat
  skip : Nat
  hint : Bool

def runReports (m : Mode) (s : RungSys) (rs : List Report) : RungSys :=
  rs.foldl (fun s e => (s.stopReport m e.tid e.r e.v e.skip e.hint).1) s

/-- **Each trial enters a rung at most once; rungs stay sorted** — for every reachable
state, i.e. after any sequence of reports of any number of trials in any order. -/
theorem once_per_rung (m : Mode) (s : RungSys) (h : ∀ rg ∈ s.rungs, RungOK m rg)
    (rs : List Report) : ∀ rg ∈ (runReports m s rs).rungs, RungOK m rg := by
  induction rs generalizing s with
  | nil => exact h
  | cons e es ih =>
    exact ih _ ((s.stopReport_eff m e.tid e.r e.v e.skip e.hint).rungs.elim (fun he => he ▸ h) fun a => a.2.rungOK h)

/-- the freshly constructed rung system satisfies the invariant (non-vacuity of
`once_per_rung`). -/
theorem init_ok (m : Mode) (levels : List Nat) (qs : List Rat) (maxT : Nat) :
    ∀ rg ∈ (mkRungSys levels qs maxT).rungs, RungOK m rg := by
  intro rg hrg
  simp [RungOK, (mem_mkRungSys hrg).1, SortedBy]

/-- **Stop at the maximum resource.**  The bracket manager answers "do not continue" for
every report with `resource ≥ max_t`, without touching any rung. -/
theorem stop_at_max (g g' : Manager) (tid r : Nat) (v : Rat) (hint : Bool) (cost eps : Rat) (o : RepOut)
    (h : g.taskReport tid r v hint cost eps = .ok (g', o)) (hr : g.maxT ≤ r) :
    o.continues = false ∧ g' = g := by
  obtain ⟨rfl, rfl⟩ := Manager.taskReport_at_max h hr
  exact ⟨rfl, rfl⟩

/-- scheduler level: a live trial (recorded decision CONTINUE) whose report is not ignored
gets STOP iff the rung system says "do not continue" (for non-pause/resume types; PAUSE
below `max_t` for pause/resume types), else CONTINUE. -/
theorem decision_follows_report (s s' : Sched) (tid r : Nat) (v : Rat) (hint : Bool) (cost eps : Rat)
    (o : ResOut) (rec : TrialInfo) (g : Manager) (ro : RepOut)
    (hrec : alookup tid s.active = some rec) (hlive : rec.decision = .continue)
    (hrep : s.mgr.taskReport tid r v hint (s.totalCost tid cost) eps = .ok (g, ro))
    (hig : ro.ignoreData = false)
    (h : s.onResult tid r v hint cost eps = .ok (s', o)) :
    o.decision = (if ro.continues then Decision.continue
                  else if ¬ s.mgr.type.pauseResume ∨ s.mgr.maxT ≤ r then Decision.stop
                  else Decision.pause) ∧
    (s.mgr.type.pauseResume = false → ¬ ro.continues → o.decision = .stop) := by
  obtain ⟨rec', hrec', ⟨hd, _⟩ | ⟨_, g', ro', co, hrep', hcase⟩⟩ := Sched.onResult_ok h
  · rw [hrec] at hrec'; cases hrec'; exact absurd hlive hd
  · rw [hrep] at hrep'; cases hrep'
    rcases hcase with ⟨hig', _⟩ | ⟨_, _, rfl, _, _, rfl⟩
    · rw [hig] at hig'; cases hig'
    · have hc := (Manager.taskReport_eff hrep).const
      have hty : g.type = s.mgr.type := congrArg (·.type) hc
      have hmax : g.maxT = s.mgr.maxT := congrArg (·.maxT) hc
      simp only [Sched.decisionFor, hty, hmax]
      refine ⟨trivial, ?_⟩
      intro hst hnc
      simp [hst, hnc]

/-- **A report after the decision repeats the decision and touches nothing.** -/
theorem decided_repeats (s : Sched) (tid r : Nat) (v : Rat) (hint : Bool) (rec : TrialInfo)
    (cost eps : Rat)
    (hrec : alookup tid s.active = some rec) (hdec : rec.decision ≠ .continue) :
    ∃ o, s.onResult tid r v hint cost eps = .ok (s, o) ∧ o.decision = rec.decision := by
  unfold Sched.onResult
  simp only [hrec, hdec, ne_eq, not_false_eq_true, if_true]
  exact ⟨_, rfl, rfl⟩

/-- rung levels from `grace_period`, `rung_increment`: positive (for positive grace
period), strictly increasing and all `< max_t`. -/
theorem rung_levels_inc (minT inc maxT : Nat) (hinc : 0 < inc) (hmin : 0 < minT) :
    (∀ l ∈ rungLevelsInc minT inc maxT, 0 < l ∧ l < maxT) ∧
    (rungLevelsInc minT inc maxT).Pairwise (· < ·) :=
  rungLevelsInc_props minT inc maxT hinc hmin

/-- promotion quantiles `q_j = r_j / r_{j+1}` lie strictly between 0 and 1 for positive,
strictly increasing rung levels below `max_t`. -/
theorem promote_quantiles_in_unit_interval (levels : List Nat) (maxT : Nat)
    (hpos : ∀ l ∈ levels, 0 < l) (hinc : (levels ++ [maxT]).Pairwise (· < ·)) :
    ∀ q ∈ promoteQuantiles levels maxT, 0 < q ∧ q < 1 :=
  promoteQuantiles_mem_unit levels maxT hpos hinc

/-- rung levels from `grace_period`, `reduction_factor ≥ 2` (`round(min_t · rf^k)` with Python's
round-half-even, any rational factor such as 5/2): positive, strictly increasing, all `< max_t`. -/
theorem rung_levels_rf (minT : Nat) (rf : Rat) (maxT : Nat) (hm : 1 ≤ minT) (hrf : 2 ≤ rf) :
    (rungLevelsRF minT rf maxT).Pairwise (· < ·) ∧ ∀ l ∈ rungLevelsRF minT rf maxT, 0 < l ∧ l < maxT := by
  obtain ⟨hp, hb⟩ := rawLevelsRF_props minT rf maxT hm hrf
  obtain ⟨h1, h2⟩ := dropLast_bound _ maxT hp fun x hx => (hb x hx).2
  exact ⟨h1, fun l hl => ⟨(hb l (h2 l hl).1).1, (h2 l hl).2⟩⟩

/-- **The hypotheses of the decision theorems hold for every constructed rung system**: for
positive, strictly increasing levels below `max_t` (what `rung_levels_rf`, `rung_levels_inc`
and the explicit-list assertions give), the system built by the bracket manager has strictly
decreasing rung levels, empty well-formed rungs and promotion quantiles in (0,1). -/
theorem constructed_system_wf (m : Mode) (levels : List Nat) (maxT : Nat)
    (hpos : ∀ l ∈ levels, 0 < l) (hinc : (levels ++ [maxT]).Pairwise (· < ·)) :
    RungsDecr (mkRungSys levels (promoteQuantiles levels maxT) maxT).rungs ∧
    (∀ rg ∈ (mkRungSys levels (promoteQuantiles levels maxT) maxT).rungs, RungOK m rg ∧ 0 < rg.q ∧ rg.q < 1) := by
  constructor
  · unfold RungsDecr mkRungSys
    simp only
    rw [List.pairwise_reverse]
    have hl := zipWith_rung_levels levels (promoteQuantiles levels maxT) (promoteQuantiles_length levels maxT)
    have hp : levels.Pairwise (· < ·) := by
      rw [List.pairwise_append] at hinc; exact hinc.1
    rw [← hl, List.pairwise_map] at hp
    exact hp
  · exact fun rg hrg => ⟨init_ok m levels _ maxT rg hrg,
      promote_quantiles_in_unit_interval levels maxT hpos hinc _ (mem_mkRungSys hrg).2.1⟩

/-- the rule on a concrete rung: metrics 1,2,3,4 at a rung with `q = 1/3`, min mode:
numpy's 1/3-quantile is 2, so a trial with value 2 continues and one with 3 stops. -/
example :
    let rg : Rung := { level := 1, q := 1/3, data := [⟨0, 1, false, 0⟩, ⟨1, 2, false, 0⟩, ⟨2, 3, false, 0⟩, ⟨3, 4, false, 0⟩] }
    rg.cutoff .min = some 2 ∧ quantileAsc (rg.ascVals .min) (rg.npQ .min) = some 2 ∧
    cmpNoWorse .min 1 2 rg.scale = .forced true ∧ cmpNoWorse .min 3 2 rg.scale = .forced false := by
  decide +kernel

example : RungsDecr (mkRungSys [1, 3] (promoteQuantiles [1, 3] 9) 9).rungs := by
  unfold RungsDecr; simp [mkRungSys, promoteQuantiles]

end SyneTune.C03
