import SyneTune.Lemmas.SyncRun
import SyneTune.Lemmas.SyncLineage
/-
C13 (synchronous Hyperband part) — trial failures are contained.
`Reachable` (`Lemmas/SyncRun.lean`) as in `Props/C05.lean`.  `s.mgr.SlotAt id k p y`: slot
`p` of rung `k` of bracket `id` holds `y = (trial_id, metric_val)`.
-/
namespace SyneTune.C13Sync
open SyneTune SyneTune.Sync

/-- **`on_trial_error` never raises and touches nothing but the failed trial's own slot.**
At any point of any history: the call returns; if the trial is not pending nothing changes;
otherwise its pending entry is removed, the pending entries of all other trials are the
same, and every slot of every bracket except the slot the trial owed is unchanged. -/
theorem sync_total (mode : Mode) (systems : List (List (Nat × Nat))) (s : Sched)
    (h : Reachable mode systems s) (tid : Nat) :
    ∃ s' calls, s.onError tid = .ok (s', calls) ∧
      (alookup tid s.pending = none → s' = s) ∧
      (∀ t', t' ≠ tid → alookup t' s'.pending = alookup t' s.pending) ∧
      (∀ id sl, alookup tid s.pending = some (id, sl) →
        ∀ (j k p : Nat) (y : Slot), s.mgr.SlotAt j k p y → (j, k, p) ≠ (id, sl.rungIndex, sl.slotIndex) →
          s'.mgr.SlotAt j k p y) := by
  have he := error_eff h.inv tid
  generalize s.onError tid = res at he
  cases he with
  | idle hnone =>
    exact ⟨_, _, rfl, fun _ => rfl, fun _ _ => rfl, fun id sl hlook => by rw [hnone] at hlook; cases hlook⟩
  | failed hlook hrep =>
    refine ⟨_, _, rfl, fun hnone => (by rw [hnone] at hlook; cases hlook), fun t' hne => alookup_adel_ne hne _,
      fun id' sl' hlook' j k p y hslot hne => ?_⟩
    cases Option.mem_unique hlook hlook'
    exact (frame_report hrep).fwd j k p y hslot fun he => hne (Option.some.inj he).symm

/-- **After a failure the slot is occupied.**  The failed trial's slot holds
`(trial, NaN)` afterwards and the trial is not pending any more — so the barrier theorem
(`C05.barrier`) applies: the rung completes as soon as the other jobs have answered. -/
theorem sync_no_wait (mode : Mode) (systems : List (List (Nat × Nat))) (s : Sched)
    (h : Reachable mode systems s) (tid id : Nat) (sl : SlotInRung)
    (hlook : alookup tid s.pending = some (id, sl)) :
    ∃ s' calls, s.onError tid = .ok (s', calls) ∧
      s'.mgr.SlotAt id sl.rungIndex sl.slotIndex ⟨some tid, some .nan⟩ ∧
      alookup tid s'.pending = none := by
  have hI := h.inv
  obtain ⟨_, _, _, _, hps, _⟩ := hI.pend tid id sl hlook
  have he := error_eff hI tid
  generalize s.onError tid = res at he
  cases he with
  | idle hnone => rw [hnone] at hlook; cases hlook
  | failed hlook' hrep =>
    cases Option.mem_unique hlook hlook'
    exact ⟨_, _, rfl, hps.tid ▸ hrep.slotAt, alookup_adel_self hI.keys⟩

/-- **No slot waits for a job nobody owes.**  In every reachable state each slot that has
been handed out and is not yet occupied belongs to a trial registered as pending for
exactly this slot (which will report or fail). -/
theorem no_orphan_slot (mode : Mode) (systems : List (List (Nat × Nat))) (s : Sched)
    (h : Reachable mode systems s) (id : Nat) (br : Bracket) (rg : Rung) (p : Nat) (x : Slot)
    (hbr : s.mgr.brackets[id]? = some br) (hrg : br.rungs[br.current]? = some rg)
    (hx : rg.slots[p]? = some x) (hp : p < br.firstFree) (hxm : x.metric = none) :
    ∃ t sl, alookup t s.pending = some (id, sl) ∧ sl.slotIndex = p ∧ sl.rungIndex = br.current ∧
      sl.tid = some t := by
  have hI := h.inv
  obtain ⟨t, sl, hlook, hq⟩ := hI.owed id br rg p x hbr hrg hx hp hxm nofun
  obtain ⟨b', rg', x', hb', hps, -⟩ := hI.pend t id sl hlook
  obtain rfl := Option.mem_unique hbr hb'
  exact ⟨t, sl, hlook, hq, hps.ri, hps.tid⟩

/-- **A slot, once occupied, never changes** (over any continuation of the history): in
particular the NaN written for a failed trial stays where it is. -/
theorem occupied_slots_stable (mode : Mode) (systems : List (List (Nat × Nat))) (s : Sched)
    (h : Reachable mode systems s) (ops : List Op) (hl : LegalRun s ops)
    (j k p : Nat) (y : Slot) (hy : s.mgr.SlotAt j k p y) (hocc : y.metric.isSome = true) :
    (s.run ops).mgr.SlotAt j k p y :=
  (run_inv h.inv ops hl).2.slots j k p y hy hocc

/-- no completed rung of any bracket had fewer valid entries than the next rung has slots -/
def NoShortfall (g : Manager) : Prop := ∀ br ∈ g.brackets, NoShortfallBr br

/-- the full statement "a trial which is resumed has no failed (NaN) entry in any rung" -/
def NoResumeFailed : Prop :=
  ∀ (mode : Mode) (systems : List (List (Nat × Nat))) (s : Sched), Reachable mode systems s →
    ∀ (tid : Nat) (c : Bool), tid ∉ s.configs →
    ∀ (s' : Sched) (t lvl : Nat) (cl : Option Nat) (calls : List SCall),
      s.suggest tid c = .ok (s', .resume t lvl cl, calls) →
      ∀ br ∈ s.mgr.brackets, ∀ rg ∈ br.rungs, (⟨some t, some .nan⟩ : Slot) ∉ rg.slots

/-- **A failed trial is not resumed — as long as no rung runs short of valid entries.**
`_partial`: the full statement `NoResumeFailed` (without the hypothesis `NoShortfall`) is
false of the code, see `no_resume_failed_counterexample`: `get_top_list` fills a rung with
failed trials when the completed rung has fewer valid entries than the next rung has
slots (DESIGN §6 F4). -/
theorem no_resume_failed_partial (mode : Mode) (systems : List (List (Nat × Nat))) (s : Sched)
    (h : Reachable mode systems s) (hns : NoShortfall s.mgr) (tid : Nat) (c : Bool) (hfresh : tid ∉ s.configs)
    (s' : Sched) (t lvl : Nat) (cl : Option Nat) (calls : List SCall)
    (hs : s.suggest tid c = .ok (s', .resume t lvl cl, calls)) :
    ∀ br ∈ s.mgr.brackets, ∀ rg ∈ br.rungs, (⟨some t, some .nan⟩ : Slot) ∉ rg.slots := by
  have hI := h.inv
  obtain ⟨id, spec, br0, rg, p, x, hr⟩ := resume_spec hI hfresh hs
  intro br hbr rgy hrgy hmem
  obtain ⟨j, hj⟩ := List.mem_iff_getElem?.mp hbr
  obtain ⟨k, hk⟩ := List.mem_iff_getElem?.mp hrgy
  obtain ⟨i, hi⟩ := List.mem_iff_getElem?.mp hmem
  -- the trial sits in this bracket only
  obtain ⟨rfl, -⟩ := hI.slot_unique ⟨br, rgy, hj, hk, hi⟩ ⟨br0, rg, hr.hbr, hr.hrg, hr.hsl⟩ rfl hr.tid
  cases Option.mem_unique hr.hbr hj
  exact no_nan_of_waiting hr.wf (hns br0 hbr) hr.hrg hr.hsl hr.tid hr.empty k rgy hk hmem

/-- the history of the counterexample: rung system `[(2,1),(1,2)]`, both trials of the base
rung fail -/
def witnessOps : List Op := [.suggest 0 true, .suggest 1 true, .error 0, .error 1]

/-- after both trials have failed, the next `suggest` resumes trial 0, whose failed entry `(0, NaN)` is
still in the bracket -/
theorem witness_resumes_failed :
    ∃ s0 s', Sched.init .min [[(2, 1), (1, 2)]] false false = .ok s0 ∧ LegalRun s0 witnessOps ∧
      (s0.run witnessOps).suggest 2 true = .ok (s', .resume 0 2 none, []) ∧
      (∃ br ∈ (s0.run witnessOps).mgr.brackets, ∃ rg ∈ br.rungs, (⟨some 0, some .nan⟩ : Slot) ∈ rg.slots) ∧
      (s0.run witnessOps).configs = [0, 1] :=
  ⟨_, _, rfl, by decide +kernel, rfl, by decide +kernel, by decide +kernel⟩

/-- **The full statement is false of the code** (F4): with the rung system `[(2,1),(1,2)]`
and both trials of the base rung failing, `get_top_list` finds no valid entry for the one
slot of the next rung, promotes the failed trial 0, and the next `suggest` resumes it.
The harness replays this history on the real code (`harness/props/c05.py: WITNESS`). -/
theorem no_resume_failed_counterexample : ¬ NoResumeFailed := by
  intro hfull
  obtain ⟨s0, s', hinit, hlegal, hsug, ⟨br, hbr, rg, hrg, hin⟩, hcfg⟩ := witness_resumes_failed
  have hreach : Reachable .min [[(2, 1), (1, 2)]] (s0.run witnessOps) :=
    ⟨false, false, s0, witnessOps, hinit, hlegal, rfl⟩
  have hfresh : 2 ∉ (s0.run witnessOps).configs := by rw [hcfg]; decide
  exact hfull .min [[(2, 1), (1, 2)]] _ hreach 2 true hfresh s' 0 2 none [] hsug br hbr rg hrg hin

/-- the hypotheses of `no_resume_failed_partial` are satisfiable with a real promotion: on
`[(3,1),(1,3)]` one of three trials fails, two report; the state is reachable, has no
shortfall, and the next `suggest` resumes the best valid trial (2). -/
example :
    ∃ s0, Sched.init .min [[(3, 1), (1, 3)]] false false = .ok s0 ∧
      LegalRun s0 [.suggest 0 true, .suggest 1 true, .suggest 2 true, .error 0,
                   .result 1 1 (.val (3/4)), .result 2 1 (.val (1/4))] ∧
      (∀ br ∈ (s0.run [.suggest 0 true, .suggest 1 true, .suggest 2 true, .error 0,
                   .result 1 1 (.val (3/4)), .result 2 1 (.val (1/4))]).mgr.brackets, NoShortfallBr br) ∧
      ((s0.run [.suggest 0 true, .suggest 1 true, .suggest 2 true, .error 0,
                   .result 1 1 (.val (3/4)), .result 2 1 (.val (1/4))]).suggest 3 true).toOption.map (·.2.1)
        = some (.resume 2 3 none) := by
  refine ⟨_, rfl, by decide +kernel, ?_, by decide +kernel⟩
  intro br hbr
  apply noShortfallPairs_sound
  revert br
  decide +kernel

/-- a reachable state with a pending trial whose failure is then contained -/
example :
    ∃ s0, Sched.init .max [[(3, 1), (1, 3)]] true false = .ok s0 ∧
      alookup 1 (s0.run [.suggest 0 true, .suggest 1 true]).pending = some (0, ⟨0, 1, 1, some 1, none⟩) :=
  ⟨_, rfl, by decide +kernel⟩

end SyneTune.C13Sync
