import SyneTune.Lemmas.C14CompObs
import SyneTune.Props.C03
/-
C14, COMPOSED SYSTEM — "multi-fidelity surrogate data: each observation once, only live
pending entries", for the `HyperbandScheduler` model (`Model/HB.lean`, `Sched`) and the model
of the data bookkeeping of `GPMultiFidelitySearcher` (`Model/SearcherState.lean`, `SState`)
running together: every searcher call an operation emits is fed, in order, into `SState.apply`
(`stepC`, `Lemmas/C14CompDefs.lean`).  `OpOK` is the contract of the operation stream (what the
`Tuner` loop and the training scripts guarantee); each clause is justified at its definition, and
those for `remove` and `result` are shown necessary by the `…_counterexample`s below.  `CInv` is the invariant relating the two states.
-/
namespace SyneTune.C14Comp
open SyneTune SyneTune.C04K SyneTune.C14

/-- **The searcher accepts every call the scheduler makes.**  From a state satisfying the
invariant, for an operation within the contract, none of the emitted calls hits an assertion
of the searcher (`register_pending` for a level which already has an observation,
`remove_case` for a case which is not there): the error branch of `stepC` is unreachable. -/
theorem calls_accepted (y : Sys) (h : CInv y) (op : SOp) (hok : OpOK y op) :
    ∃ st', y.st.applyAll (opStep y.sched op).2 = .ok st' :=
  (cinv_opStep y h op hok).1

theorem cinv_step (y : Sys) (h : CInv y) (op : SOp) (hok : OpOK y op) : CInv (stepC y op) :=
  (cinv_opStep y h op hok).2

/-- **`CInv` holds after every history** of scheduler operations within the contract. -/
theorem cinv_all_histories (y0 : Sys) (h : CInv y0) (ops : List SOp) (hok : OpsOK y0 ops) :
    CInv (runC y0 ops) := by
  induction ops generalizing y0 with
  | nil => exact h
  | cons op ops ih => exact ih (stepC y0 op) (cinv_step y0 h op hok.1) hok.2

/-- **Every constructed system satisfies the invariant**: scheduler of any type (stopping,
promotion, pasha, cost_promotion, rush_stopping, rush_promotion) built by the bracket manager's
constructor from positive, strictly increasing rung levels below `max_t`, every `searcher_data`
policy, `register_pending_myopic` / `max_resource_attr` / cost attribute on or off; searcher
without data. -/
theorem init_CInv (ty : HBType) (mode : Mode) (maxT : Nat) (levels : List Nat) (brackets : Nat)
    (perBracket : Bool) (numThr : Nat) (sd : SearcherData) (my mra hc : Bool)
    (hmax : 1 ≤ maxT) (hinc : levels.Pairwise (· < ·)) (hlev : ∀ l ∈ levels, 1 ≤ l ∧ l < maxT) :
    CInv { sched := { mgr := Manager.init ty mode maxT levels brackets perBracket numThr, searcherData := sd,
                      hasCost := hc, pendingMyopic := my, maxResourceAttr := mra },
           st := { mode := mode } } := by
  exact .of_no_trials (init_MgrWF ty mode maxT levels brackets perBracket numThr hmax hinc hlev)
    (fun hpr => init_KInv ty hpr mode maxT levels brackets perBracket numThr sd my mra hc)
    (init_no_entries ty mode maxT levels brackets perBracket numThr) rfl rfl rfl

/-- the rung levels computed from `grace_period` / `reduction_factor` satisfy `init_CInv`'s
hypotheses -/
theorem init_CInv_rf (ty : HBType) (mode : Mode) (minT : Nat) (rf : Rat) (maxT : Nat) (brackets : Nat)
    (perBracket : Bool) (numThr : Nat) (sd : SearcherData) (my mra hc : Bool)
    (hmax : 1 ≤ maxT) (hm : 1 ≤ minT) (hrf : 2 ≤ rf) :
    CInv { sched := { mgr := Manager.init ty mode maxT (rungLevelsRF minT rf maxT) brackets perBracket numThr,
                      searcherData := sd, hasCost := hc, pendingMyopic := my, maxResourceAttr := mra },
           st := { mode := mode } } := by
  obtain ⟨h1, h2⟩ := C03.rung_levels_rf minT rf maxT hm hrf
  exact init_CInv ty mode maxT _ brackets perBracket numThr sd my mra hc hmax h1
    (fun l hl => ⟨(h2 l hl).1, (h2 l hl).2⟩)

/-- **Only live pending entries.**  After every history within the contract, every pending
evaluation `(t, r)` the searcher holds belongs to a trial which the scheduler currently
considers running (it is in `_active_trials` with decision CONTINUE — not paused, stopped,
completed, failed or removed), `r` is above the last level the trial reported, not above the
milestone it is currently running to, and has no observation yet. -/
theorem pending_only_running (y0 : Sys) (h0 : CInv y0) (ops : List SOp) (hok : OpsOK y0 ops) (t r : Nat)
    (hp : (t, r) ∈ (runC y0 ops).st.pending) :
    ∃ rec, alookup t (runC y0 ops).sched.active = some rec ∧ rec.decision = .continue ∧
      lastRep rec < r ∧ r ≤ milestoneOf (runC y0 ops).sched.mgr t (lastRep rec) ∧
      (runC y0 ops).st.isLabeled t r = false :=
  (cinv_all_histories y0 h0 ops hok).pending_running hp

/-- for `searcher_data = "rungs"` the only pending level of a running trial is its milestone;
and no pending entry occurs twice -/
theorem pending_rungs_milestone_nodup (y0 : Sys) (h0 : CInv y0) (ops : List SOp) (hok : OpsOK y0 ops) :
    (runC y0 ops).st.pending.Nodup ∧
    ((runC y0 ops).sched.searcherData = .rungs → ∀ t r, (t, r) ∈ (runC y0 ops).st.pending →
      ∀ rec, alookup t (runC y0 ops).sched.active = some rec →
        r = milestoneOf (runC y0 ops).sched.mgr t (lastRep rec)) := by
  have h := cinv_all_histories y0 h0 ops hok
  exact ⟨h.pnd, fun hsd _ _ hp _ hrec => h.rungs_milestone hsd hp hrec⟩

/-- no pending evaluation for a trial which is not running: paused, stopped, completed,
failed, removed (`NotRunning`: recorded with a decision other than CONTINUE) or unknown -/
theorem no_pending_unless_running (y0 : Sys) (h0 : CInv y0) (ops : List SOp) (hok : OpsOK y0 ops) (t : Nat)
    (hnr : NotRunning (runC y0 ops).sched t ∨ alookup t (runC y0 ops).sched.active = none) :
    ∀ p ∈ (runC y0 ops).st.pending, p.1 ≠ t :=
  (cinv_all_histories y0 h0 ops hok).no_pending_unless_running hnr

/-- **Each observation once, equal to what was reported.**  After every history (no contract
needed) started without data: the data set holds at most one record per trial and one value
per level (`ObsWF`: it is a dict of dicts and `label_trial` overwrites), and every stored
value for trial `t` at level `r` is the criterion (`1 - x` for mode max) of a metric value
which some `on_trial_result` / `on_trial_complete` call of the history reported for `t` at
level `r`. -/
theorem observed_once (y0 : Sys) (hemp : y0.st.observed = []) (ops : List SOp) :
    ObsWF (runC y0 ops).st ∧
    ∀ t r c, obsAt (runC y0 ops).st t r = some c →
      ∃ v, (t, r, v) ∈ ops.flatMap opReports ∧ c = y0.st.crit v :=
  (foldl_obsFrom stepC opReports stepC_obsFrom y0 (ObsWF_of_empty hemp) ops).of_empty hemp

/-- observations exist only for levels the trial has reported (within the contract) -/
theorem observed_only_reported_levels (y0 : Sys) (h0 : CInv y0) (ops : List SOp) (hok : OpsOK y0 ops) (t r : Nat)
    (hl : (runC y0 ops).st.isLabeled t r = true) :
    ∃ rec, alookup t (runC y0 ops).sched.active = some rec ∧ r ≤ lastRep rec :=
  (cinv_all_histories y0 h0 ops hok).obs t r hl

/-- **No pending evaluation survives the end of a trial.**  From a state satisfying the
invariant: after `on_trial_complete(t)` and after `on_trial_error(t)` no pending entry of `t`
remains; and after an `on_trial_result` (within the contract) whose answer is STOP or PAUSE no
pending entry of the reporting trial remains. -/
theorem no_pending_after_end (y : Sys) (h : CInv y) :
    (∀ t r v, ∀ p ∈ (stepC y (.complete t r v)).st.pending, p.1 ≠ t) ∧
    (∀ t, ∀ p ∈ (stepC y (.error t)).st.pending, p.1 ≠ t) ∧
    (∀ t r v hint c e s' out, OpOK y (.result t r v hint c e) →
      y.sched.onResult t r v hint c e = .ok (s', out) → out.decision ≠ .continue →
      ∀ p ∈ (stepC y (.result t r v hint c e)).st.pending, p.1 ≠ t) := by
  refine ⟨stepC_complete_no_pending y h, fun t => stepC_error_no_pending y t, ?_⟩
  intro t r v hint c e s' out hok hres hd
  obtain ⟨⟨st', hst⟩, h'⟩ := cinv_opStep y h _ hok
  obtain ⟨rec', k1, k2⟩ := onResult_decision_recorded y.sched s' t r v hint c e out hres hd
  refine h'.no_pending_unless_running (.inl ⟨rec', ?_, k2 ▸ hd⟩)
  rw [stepC_of_ok hst, opStep_result, hres]; exact k1

/-- ASHA, `max_t = 9`, rung levels 1, 3, one bracket, `searcher_data = "rungs"` -/
def exPromo : Sys :=
  { sched := { mgr := Manager.init .promotion .min 9 [1, 3] 1 false }, st := { mode := .min } }

/-- the same with `searcher_data = "all"` (pending for every level up to the milestone) -/
def exPromoAll : Sys :=
  { sched := { mgr := Manager.init .promotion .min 9 [1, 3] 1 false, searcherData := .all }, st := { mode := .min } }

/-- stopping type, `searcher_data = "all"` -/
def exStopAll : Sys :=
  { sched := { mgr := Manager.init .stopping .min 9 [1, 3] 1 false, searcherData := .all }, st := { mode := .min } }

/-
`pending_only_running` without the contract is FALSE:
  ∀ ops, ∀ (t, r) ∈ (runC y0 ops).st.pending, t is running in (runC y0 ops).sched
`on_trial_remove` only calls `_cleanup_trial`; unlike `on_trial_complete` / `on_trial_error` it
does not clean the searcher's pending list.  It is harmless when called as the `Tuner` does
(right after a STOP / PAUSE answer: the milestone report has labelled the pending entries),
but removing a trial the scheduler considers RUNNING leaves its pending evaluations behind for
good (the trial can never be promoted again: it sits in no rung as unpromoted).
-/
/-- **Counterexample (clause `remove` of the contract is necessary).**  Start trial 0
(pending `(0, 1)` registered), then `on_trial_remove(0)` while it is running: the scheduler
records it as PAUSED, the searcher keeps the pending evaluation `(0, 1)`. -/
theorem pending_only_running_counterexample :
    ¬ OpsOK exPromo [.suggest 0 0 none, .remove 0] ∧
    (runC exPromo [.suggest 0 0 none, .remove 0]).st.pending = [(0, 1)] ∧
    (alookup 0 (runC exPromo [.suggest 0 0 none, .remove 0]).sched.active).map (·.decision) = some .pause := by
  decide +kernel

/-- the same for a promoted trial removed on its way to the next milestone, policy `all`:
trial 0 pauses at level 1, is promoted to milestone 3 (pending `(0,2)`, `(0,3)`), reports level 2
and is removed: `(0, 3)` stays pending although trial 0 is not running -/
theorem pending_only_running_counterexample_promoted :
    ¬ OpsOK exPromoAll [.suggest 0 0 none, .result 0 1 1 false 0 0, .remove 0, .suggest 1 0 none,
        .result 1 1 2 false 0 0, .remove 1, .suggest 2 0 none, .result 0 2 1 false 0 0, .remove 0] ∧
    (runC exPromoAll [.suggest 0 0 none, .result 0 1 1 false 0 0, .remove 0, .suggest 1 0 none,
        .result 1 1 2 false 0 0, .remove 1, .suggest 2 0 none, .result 0 2 1 false 0 0, .remove 0]).st.pending = [(0, 3)] ∧
    (alookup 0 (runC exPromoAll [.suggest 0 0 none, .result 0 1 1 false 0 0, .remove 0, .suggest 1 0 none,
        .result 1 1 2 false 0 0, .remove 1, .suggest 2 0 none, .result 0 2 1 false 0 0,
        .remove 0]).sched.active).map (·.decision) = some .pause := by
  decide +kernel

/-- **Counterexample (clause `result` of the contract is necessary).**  Stopping type, policy
`all`: trial 1 reports levels 1 and 3 but never level 2; it is STOPPED at rung 3 and its
pending evaluation `(1, 2)` is left behind. -/
theorem skipped_level_counterexample :
    ¬ OpsOK exStopAll [.suggest 0 0 none, .result 0 1 1 false 0 0, .result 0 2 1 false 0 0, .result 0 3 1 false 0 0,
        .suggest 1 0 none, .result 1 1 (1/2) false 0 0, .result 1 3 2 false 0 0] ∧
    (1, 2) ∈ (runC exStopAll [.suggest 0 0 none, .result 0 1 1 false 0 0, .result 0 2 1 false 0 0, .result 0 3 1 false 0 0,
        .suggest 1 0 none, .result 1 1 (1/2) false 0 0, .result 1 3 2 false 0 0]).st.pending ∧
    (alookup 1 (runC exStopAll [.suggest 0 0 none, .result 0 1 1 false 0 0, .result 0 2 1 false 0 0, .result 0 3 1 false 0 0,
        .suggest 1 0 none, .result 1 1 (1/2) false 0 0, .result 1 3 2 false 0 0]).sched.active).map (·.decision) = some .stop := by
  decide +kernel

example : CInv exPromo := init_CInv .promotion .min 9 [1, 3] 1 false 0 .rungs false false false (by decide) (by decide) (by decide)
example : CInv exPromoAll := init_CInv .promotion .min 9 [1, 3] 1 false 0 .all false false false (by decide) (by decide) (by decide)
example : CInv exStopAll := init_CInv .stopping .min 9 [1, 3] 1 false 0 .all false false false (by decide) (by decide) (by decide)

/-- two trials pause at rung 1 (values 1, 2), the next `_suggest` promotes trial 0 to
milestone 3, which reports level 2 -/
def histPromo : List SOp :=
  [.suggest 0 0 none, .result 0 1 1 false 0 0, .remove 0, .suggest 1 0 none, .result 1 1 2 false 0 0, .remove 1,
   .suggest 2 0 none, .result 0 2 1 false 0 0]

/-- the history is within the contract; mid-run the promoted trial 0 has the pending
evaluation `(0, 3)` (policy `all`, levels 2 and 3 registered at promotion, 2 observed since),
trial 1 (paused) has none; observations: both at level 1, trial 0 also at level 2 -/
example : OpsOK exPromoAll histPromo ∧ (runC exPromoAll histPromo).st.pending = [(0, 3)] ∧
    (runC exPromoAll histPromo).st.observed = [(0, [(1, 1), (2, 1)]), (1, [(1, 2)])] ∧
    (runC exPromoAll (histPromo.take 7)).st.pending = [(0, 2), (0, 3)] := by decide +kernel

/-- stopping type, policy `all`: trial 0 passes rungs 1 and 3, trial 1 is STOPPED at rung 3;
before its last report it has the pending evaluation `(1, 3)`, afterwards none, while
trial 0 (still running to `max_t = 9`) keeps `(0, 4) … (0, 9)` -/
def histStop : List SOp :=
  [.suggest 0 0 none, .result 0 1 1 false 0 0, .result 0 2 1 false 0 0, .result 0 3 1 false 0 0,
   .suggest 1 0 none, .result 1 1 (1/2) false 0 0, .result 1 2 2 false 0 0, .result 1 3 2 false 0 0]

example : OpsOK exStopAll histStop ∧
    (runC exStopAll (histStop.take 7)).st.pending = [(0, 4), (0, 5), (0, 6), (0, 7), (0, 8), (0, 9), (1, 3)] ∧
    (runC exStopAll histStop).st.pending = [(0, 4), (0, 5), (0, 6), (0, 7), (0, 8), (0, 9)] ∧
    (alookup 1 (runC exStopAll histStop).sched.active).map (·.decision) = some .stop := by decide +kernel

end SyneTune.C14Comp
