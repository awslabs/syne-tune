import SyneTune.Lemmas.GP
/-
C08 — GP posterior, likelihood and incremental updates equal the dense definition.
PARTIAL proof: what is proved is that the *formulas the code
evaluates* — modelled in `Model/GPExec.lean`, with `nll` in `Lemmas/GP.lean` — are the
textbook dense-matrix quantities; LAPACK (the verdict of the factorisation inside `isPD` included),
`sqrt`, `log`, round-off and the kernel function values are outside the model and exercised by the `gp`
correspondence.

Notation: `toM`/`toV` read a model matrix/vector as a Mathlib matrix/function.  All theorems
except `nll` hold over every linearly ordered field `𝕜` (so for the `Rat` twin and for `ℝ`).
-/
namespace SyneTune.C08
open SyneTune.GP Matrix

-- the statements are over one ordered field throughout, whether or not they use the order
set_option linter.unusedSectionVars false

variable {𝕜 : Type} [Field 𝕜] [LinearOrder 𝕜] [IsStrictOrderedRing 𝕜] {n m t : ℕ}

/-- targets minus the mean function on the training inputs, `Y − m(X)·1ᵀ` -/
def centered (Y : Matrix (Fin n) (Fin m) 𝕜) (mX : Fin n → 𝕜) : Matrix (Fin n) (Fin m) 𝕜 :=
  Y - Matrix.of fun i _ => mX i

/-- **the posterior state invariant** (`posterior_state.py`): `L` lower triangular with non-zero
diagonal, `L Lᵀ = K + σ²I`, `L P = Y − m(X)`. -/
structure IsPosteriorState (L : Mat 𝕜 n n) (P : Mat 𝕜 n m) (K : Matrix (Fin n) (Fin n) 𝕜) (s2 : 𝕜)
    (Y : Matrix (Fin n) (Fin m) 𝕜) (mX : Fin n → 𝕜) : Prop where
  lower : LowerTri L
  diag : DiagNZ L
  factor : toM L * (toM L)ᵀ = K + s2 • 1
  solve : toM L * toM P = centered Y mX

namespace IsPosteriorState
variable {L : Mat 𝕜 n n} {P : Mat 𝕜 n m} {K : Matrix (Fin n) (Fin n) 𝕜} {s2 : 𝕜}
  {Y : Matrix (Fin n) (Fin m) 𝕜} {mX : Fin n → 𝕜}

theorem isUnit (hS : IsPosteriorState L P K s2 Y mX) : IsUnit (toM L).det :=
  isUnit_det_toM hS.lower hS.diag

/-- the one identity behind mean, variance, covariance and likelihood: for `V = L⁻¹B`, `Q = L⁻¹R`
(whatever way they were computed) `VᵀQ = Bᵀ (K + σ²I)⁻¹ R`. -/
theorem quad (hS : IsPosteriorState L P K s2 Y mX) {V B : Matrix (Fin n) (Fin t) 𝕜}
    {k : ℕ} {Q R : Matrix (Fin n) (Fin k) 𝕜} (hV : toM L * V = B) (hQ : toM L * Q = R) :
    Vᵀ * Q = Bᵀ * (K + s2 • 1)⁻¹ * R := by
  rw [quad_form hS.isUnit hV hQ, hS.factor]

/-- `solve_triangular(L, scale · Ks)`, the `linv_k_tr_te` of the code -/
theorem solveKs (hS : IsPosteriorState L P K s2 Y mX) (Ks : Mat 𝕜 n t) (scale : 𝕜) :
    toM L * toM (solveLowerM L (scaleM Ks scale)) = scale • toM Ks :=
  (solveLowerM_spec L _ hS.lower hS.diag).trans (toM_scaleM Ks scale)

theorem mean_eq (hS : IsPosteriorState L P K s2 Y mX) (Ks : Mat 𝕜 n t) (scale : 𝕜) (ms : Vec 𝕜 t) :
    toM (predMean (solveLowerM L (scaleM Ks scale)) P ms) =
      (scale • toM Ks)ᵀ * (K + s2 • 1)⁻¹ * centered Y mX + Matrix.of fun i _ => toV ms i := by
  rw [toM_predMean, hS.quad (hS.solveKs Ks scale) hS.solve]
  rfl

theorem unique (hS : IsPosteriorState L P K s2 Y mX) {P' : Mat 𝕜 n m} (hS' : IsPosteriorState L P' K s2 Y mX) :
    P = P' :=
  have := Matrix.invertibleOfIsUnitDet _ hS.isUnit
  toM_injective ((Matrix.mul_right_inj_of_invertible (toM L)).mp (hS.solve.trans hS'.solve.symm))

theorem column (hS : IsPosteriorState L P K s2 Y mX) (j : Fin m) :
    IsPosteriorState L (Mat.of fun i (_ : Fin 1) => toM P i j) K s2 (Matrix.of fun i _ => Y i j) mX := by
  refine ⟨hS.lower, hS.diag, hS.factor, ?_⟩
  ext i c
  simpa [Matrix.mul_apply, centered] using congrFun (congrFun hS.solve i) j

end IsPosteriorState

theorem centered_snocRowM (Y : Matrix (Fin n) (Fin m) 𝕜) (mX : Fin n → 𝕜) (y : Fin m → 𝕜) (c : 𝕜) :
    centered (snocRowM Y y) (Fin.snoc mX c) = snocRowM (centered Y mX) fun j => y j - c := by
  refine snocRowM_ext (fun i j => ?_) (fun j => ?_) <;> simp [centered]

/-- `cholesky_computations` given a factor: if `L` is a triangular factor of `K + σ²I` with
non-zero diagonal, then `(L, solve_triangular(L, Y − m(X)))` is a posterior state. -/
theorem state_of_factor (L : Mat 𝕜 n n) (K : Matrix (Fin n) (Fin n) 𝕜) (s2 : 𝕜) (Yc : Mat 𝕜 n m)
    (Y : Matrix (Fin n) (Fin m) 𝕜) (mX : Fin n → 𝕜) (hL : LowerTri L) (hd : DiagNZ L)
    (hA : toM L * (toM L)ᵀ = K + s2 • 1) (hY : toM Yc = centered Y mX) :
    IsPosteriorState L (solveLowerM L Yc) K s2 Y mX :=
  ⟨hL, hd, hA, by rw [solveLowerM_spec L Yc hL hd, hY]⟩

/-- **the jitter search only changes the diagonal** (`AddJitterOp`): whenever it returns, the result
is `x + (σ²_init + jitter)·I` with `jitter ≥ 0`, and it is a matrix that passed the factorisation
test — so `state_of_factor` applies with `σ² := σ²_init + jitter`. -/
theorem add_jitter (eps : 𝕜) (x : Mat 𝕜 n n) (s initF g ubF : 𝕜) (hi : 0 ≤ initF) (hg : 0 ≤ g) (fuel : ℕ)
    (r : JitterOut 𝕜 n) (h : addJitter eps x s initF g ubF fuel = some r) :
    toM r.sys = toM x + (s + r.jitter) • (1 : Matrix (Fin n) (Fin n) 𝕜) ∧ 0 ≤ r.jitter ∧
      isPD eps n r.sys = true := by
  have hm : ∀ a : 𝕜, 0 ≤ maxOf 1 a := fun a =>
    (zero_le_one.trans (le_max_left 1 a)).trans_eq (maxOf_eq_max 1 a).symm
  obtain ⟨h1, h2, h3, _⟩ := jitterLoop_spec eps x s _ g _ (mul_nonneg hi (hm _)) hg fuel 0 0 r le_rfl h
  exact ⟨by rw [h1, toM_addDiag], h3, h2⟩

/-- **posterior mean** returned by `predict_posterior_marginals`:
`K*ᵀ (K + σ²I)⁻¹ (Y − m(X)) + m(X*)` with `K* = covariance_scale · kernel(X, X*)`. -/
theorem mean (L : Mat 𝕜 n n) (P : Mat 𝕜 n m) (K : Matrix (Fin n) (Fin n) 𝕜) (s2 : 𝕜)
    (Y : Matrix (Fin n) (Fin m) 𝕜) (mX : Fin n → 𝕜) (hS : IsPosteriorState L P K s2 Y mX)
    (Ks : Mat 𝕜 n t) (scale : 𝕜) (kd ms : Vec 𝕜 t) (floor : 𝕜) :
    toM (predictMarginals L P Ks scale kd ms floor).means =
      (scale • toM Ks)ᵀ * (K + s2 • 1)⁻¹ * centered Y mX + Matrix.of fun i _ => ms[i] :=
  hS.mean_eq Ks scale ms

/-- **posterior variance** returned by `predict_posterior_marginals`: the diagonal of
`K** − K*ᵀ (K + σ²I)⁻¹ K*` clamped from below at `floor = MIN_POSTERIOR_VARIANCE`; it lies
between the floor and the prior variance `covariance_scale · k(x*, x*)` (when the floor does not
exceed the prior variance). `Kss = kernel(X*, X*)`, of which the code only evaluates the
diagonal `kd`. -/
theorem var (L : Mat 𝕜 n n) (P : Mat 𝕜 n m) (K : Matrix (Fin n) (Fin n) 𝕜) (s2 : 𝕜)
    (Y : Matrix (Fin n) (Fin m) 𝕜) (mX : Fin n → 𝕜) (hS : IsPosteriorState L P K s2 Y mX)
    (Ks : Mat 𝕜 n t) (scale : 𝕜) (kd ms : Vec 𝕜 t) (floor : 𝕜)
    (Kss : Matrix (Fin t) (Fin t) 𝕜) (hkd : ∀ i : Fin t, kd[i] = Kss i i) (i : Fin t) :
    let v := (predictMarginals L P Ks scale kd ms floor).vars
    v[i] = max ((scale • Kss - (scale • toM Ks)ᵀ * (K + s2 • 1)⁻¹ * (scale • toM Ks)) i i) floor ∧
    floor ≤ v[i] ∧ (floor ≤ kd[i] * scale → v[i] ≤ kd[i] * scale) := by
  intro v
  have hv := toV_predictMarginals_vars L P Ks scale kd ms floor i
  refine ⟨hv.trans ?_, (le_max_right _ _).trans hv.ge, fun hf => hv.le.trans (max_le ?_ hf)⟩
  · rw [hS.quad (hS.solveKs Ks scale) (hS.solveKs Ks scale), Matrix.sub_apply, Matrix.smul_apply, ← hkd i,
      smul_eq_mul, mul_comm]
    rfl
  · refine sub_le_self _ ?_
    rw [Matrix.mul_apply]
    exact Finset.sum_nonneg fun k _ => mul_self_nonneg _

/-- **joint posterior** computed by `sample_posterior_joint`: same mean as the marginals,
covariance `K** − K*ᵀ (K + σ²I)⁻¹ K*`; its diagonal is the unclamped marginal variance, and the
matrix factorised for sampling is this covariance plus `jitter_init · I`. -/
theorem joint_cov (L : Mat 𝕜 n n) (P : Mat 𝕜 n m) (K : Matrix (Fin n) (Fin n) 𝕜) (s2 : 𝕜)
    (Y : Matrix (Fin n) (Fin m) 𝕜) (mX : Fin n → 𝕜) (hS : IsPosteriorState L P K s2 Y mX)
    (Ks : Mat 𝕜 n t) (Kss : Mat 𝕜 t t) (scale : 𝕜) (ms : Vec 𝕜 t) (jit : 𝕜) :
    let J := posteriorJoint L P Ks Kss scale ms jit
    toM J.mean = (scale • toM Ks)ᵀ * (K + s2 • 1)⁻¹ * centered Y mX + Matrix.of (fun i _ => ms[i]) ∧
    toM J.cov = scale • toM Kss - (scale • toM Ks)ᵀ * (K + s2 • 1)⁻¹ * (scale • toM Ks) ∧
    toM J.sys = toM J.cov + jit • 1 := by
  intro J
  have hV := hS.solveKs Ks scale
  refine ⟨hS.mean_eq Ks scale ms, ?_, toM_addDiag J.cov jit⟩
  · show toM (jointCov (solveLowerM L (scaleM Ks scale)) (scaleM Kss scale)) = _
    rw [toM_jointCov, hS.quad hV hV, toM_scaleM]

/-- **negative log marginal likelihood** (`negative_log_marginal_likelihood`, single target
column): `½ (y−m)ᵀ A⁻¹ (y−m) + ½ log det A + (n/2) log 2π` with `A = K + σ²I`. -/
theorem nll (L : Mat ℝ n n) (P : Mat ℝ n 1) (K : Matrix (Fin n) (Fin n) ℝ) (s2 : ℝ)
    (Y : Matrix (Fin n) (Fin 1) ℝ) (mX : Fin n → ℝ) (hS : IsPosteriorState L P K s2 Y mX) :
    GP.nll L P =
      (1 / 2) * ((centered Y mX)ᵀ * (K + s2 • 1)⁻¹ * centered Y mX) 0 0 +
      (1 / 2) * Real.log (K + s2 • 1).det + (n : ℝ) / 2 * Real.log (2 * Real.pi) := by
  rw [nll_eq, logdet_eq L hS.lower hS.diag, sqNorm_one_col, hS.quad hS.solve hS.solve, hS.factor]
  push_cast
  ring

/-- **incremental update** (`cholesky_update`): the bordered factor is a triangular factor with
non-zero diagonal of the bordered matrix `[[K + σ²I, k], [kᵀ, κ + noise + δ]]`
(`k = covariance_scale · kernel(X, x)`, `κ = covariance_scale · k(x, x)`), where `δ ≥ 0` is the
jitter the code adds on the new diagonal entry only when `κ + noise − ‖l‖²` is below
`MIN_CHOLESKY_DIAGONAL_VALUE²` (`δ = 0` otherwise); and the extended `P` solves the extended
system.  `sqrt` is only required to be a square root at the one argument it is called with. -/
theorem update (L : Mat 𝕜 n n) (P : Mat 𝕜 n m) (K : Matrix (Fin n) (Fin n) 𝕜) (s2 : 𝕜)
    (Y : Matrix (Fin n) (Fin m) 𝕜) (mX : Fin n → 𝕜) (hS : IsPosteriorState L P K s2 Y mX)
    (sqrt : 𝕜 → 𝕜) (minDiag : 𝕜) (hmin : 0 < minDiag) (kvec : Vec 𝕜 n)
    (scale kdiag noise mscal : 𝕜) (target : Vec 𝕜 m) :
    let U := cholUpdate sqrt minDiag L P kvec scale kdiag noise mscal target
    let raw := kdiag * scale + noise - ∑ k : Fin n, U.lvec[k] * U.lvec[k]
    let δ := U.lsq - raw
    sqrt U.lsq * sqrt U.lsq = U.lsq →
    (0 ≤ δ ∧ (minDiag * minDiag ≤ raw → δ = 0)) ∧
    LowerTri U.L ∧ DiagNZ U.L ∧
    toM U.L * (toM U.L)ᵀ =
      borderM (K + s2 • 1) (fun i => kvec[i] * scale) (fun i => kvec[i] * scale) (kdiag * scale + noise + δ) ∧
    toM U.L * toM U.P = snocRowM (centered Y mX) (fun j => target[j] - mscal) := by
  intro U raw δ hs
  have hlsq : U.lsq = max raw (minDiag * minDiag) :=
    cholUpdateWith_lsq.trans (maxOf_eq_max _ _)
  have hpos : 0 < U.lsq := hlsq ▸ (mul_pos hmin hmin).trans_le (le_max_right _ _)
  have hne : U.lscal ≠ 0 := mul_self_ne_zero.1 (hs.trans_ne hpos.ne')
  have hUL : toM U.L = borderM (toM L) 0 (toV U.lvec) U.lscal := toM_cholUpdateWith_L
  refine ⟨⟨sub_nonneg.2 (hlsq ▸ le_max_left _ _), fun h => sub_eq_zero.2 (hlsq.trans (max_eq_left h))⟩,
    hS.lower.border _ _, hS.diag.border _ _ hne, ?_, ?_⟩
  · have hlv : toM L *ᵥ toV U.lvec = fun i => toV kvec i * scale :=
      computeLvec_spec L kvec scale hS.lower hS.diag
    rw [hUL, border_factor, hlv, hS.factor]
    refine congrArg (borderM _ _ _) ?_
    rw [show U.lscal * U.lscal = U.lsq from hs]
    simp only [δ, raw, toV_apply]
    ring
  · have hUP : toM U.P = snocRowM (toM P) fun j =>
        (toV target j - mscal - ∑ k, toV U.lvec k * toM P k j) / U.lscal := toM_cholUpdateWith_P
    rw [hUL, hUP, border_solve _ _ hne, hS.solve]
    rfl

/-- **update = recompute**: after `cholesky_update` with `noise = σ²` the new pair is a posterior
state for the data set extended by `(x, target)` — for the kernel matrix bordered by `k`, `κ`
(plus the diagonal jitter `δ` of `update`, zero unless the new pivot is clamped) — hence, by
`mean`, `var`, `nll` applied to the new state, every prediction from the updated state equals the
dense expression for the extended data set. -/
theorem update_state (L : Mat 𝕜 n n) (P : Mat 𝕜 n m) (K : Matrix (Fin n) (Fin n) 𝕜) (s2 : 𝕜)
    (Y : Matrix (Fin n) (Fin m) 𝕜) (mX : Fin n → 𝕜) (hS : IsPosteriorState L P K s2 Y mX)
    (sqrt : 𝕜 → 𝕜) (minDiag : 𝕜) (hmin : 0 < minDiag) (kvec : Vec 𝕜 n)
    (scale kdiag mscal : 𝕜) (target : Vec 𝕜 m) :
    let U := cholUpdate sqrt minDiag L P kvec scale kdiag s2 mscal target
    let δ := U.lsq - (kdiag * scale + s2 - ∑ k : Fin n, U.lvec[k] * U.lvec[k])
    sqrt U.lsq * sqrt U.lsq = U.lsq →
    IsPosteriorState U.L U.P
      (borderM K (fun i => kvec[i] * scale) (fun i => kvec[i] * scale) (kdiag * scale + δ)) s2
      (snocRowM Y (toV target)) (Fin.snoc mX mscal) := by
  intro U δ hs
  obtain ⟨_, h1, h2, h3, h4⟩ := update L P K s2 Y mX hS sqrt minDiag hmin kvec scale kdiag s2 mscal target hs
  refine ⟨h1, h2, h3.trans ?_, h4.trans (centered_snocRowM Y mX (toV target) mscal).symm⟩
  rw [borderM_add_smul_one]
  exact congrArg (borderM _ _ _) (add_right_comm _ _ _)

/-- **update = recompute, for the predictive mean** (the instance of `mean` at the updated
state; the same instantiation works for `var`, `joint_cov`, `nll`). -/
theorem update_eq_recompute (L : Mat 𝕜 n n) (P : Mat 𝕜 n m) (K : Matrix (Fin n) (Fin n) 𝕜) (s2 : 𝕜)
    (Y : Matrix (Fin n) (Fin m) 𝕜) (mX : Fin n → 𝕜) (hS : IsPosteriorState L P K s2 Y mX)
    (sqrt : 𝕜 → 𝕜) (minDiag : 𝕜) (hmin : 0 < minDiag) (kvec : Vec 𝕜 n)
    (scale kdiag mscal : 𝕜) (target : Vec 𝕜 m)
    (Ks' : Mat 𝕜 (n + 1) t) (kd ms : Vec 𝕜 t) (floor : 𝕜) :
    let U := cholUpdate sqrt minDiag L P kvec scale kdiag s2 mscal target
    let δ := U.lsq - (kdiag * scale + s2 - ∑ k : Fin n, U.lvec[k] * U.lvec[k])
    let K' := borderM K (fun i => kvec[i] * scale) (fun i => kvec[i] * scale) (kdiag * scale + δ)
    sqrt U.lsq * sqrt U.lsq = U.lsq →
    toM (predictMarginals U.L U.P Ks' scale kd ms floor).means =
      (scale • toM Ks')ᵀ * (K' + s2 • 1)⁻¹ * centered (snocRowM Y (toV target)) (Fin.snoc mX mscal)
        + Matrix.of fun i _ => ms[i] := by
  intro U δ K' hs
  exact mean U.L U.P K' s2 _ _
    (update_state L P K s2 Y mX hS sqrt minDiag hmin kvec scale kdiag mscal target hs) Ks' scale kd ms floor

/-- **`sample_and_cholesky_update`** (fantasising one pending evaluation): the target is drawn from
the marginal posterior at the new input — predictive mean plus `N(0,1)` draw times the clamped
predictive standard deviation, exactly the quantities `predict_posterior_marginals` returns for
that single test point — and the state is then updated by `cholesky_update` with that target
(so `update`, `update_state` apply to it). -/
theorem sample_update (sqrt : 𝕜 → 𝕜) (minDiag minVar : 𝕜) (L : Mat 𝕜 n n) (P : Mat 𝕜 n m) (kvec : Vec 𝕜 n)
    (scale kdiag noise mscal : 𝕜) (n01 : Vec 𝕜 m) :
    let S := sampleAndUpdate sqrt minDiag minVar L P kvec scale kdiag noise mscal n01
    let M := predictMarginals L P (Mat.of fun i (_ : Fin 1) => kvec[i]) scale (Vec.of fun _ => kdiag)
      (Vec.of fun _ => mscal) minVar
    S.upd = cholUpdate sqrt minDiag L P kvec scale kdiag noise mscal S.target ∧
    ∀ j : Fin m, S.target[j] = M.means[(0 : Fin 1)][j] + n01[j] * sqrt M.vars[(0 : Fin 1)] := by
  intro S M
  refine ⟨rfl, fun j => ?_⟩
  simp only [S, M, sampleAndUpdate, predictMarginals, solveLowerM_single, predMean, predVarRaw, Vec.of_get,
    Mat.of_get, toV_apply]

/-- **fantasy columns are independent target vectors sharing one covariance**: column `j` of
the state, of the predictive means and of the updated state computed from a target matrix `Y`
equals what is computed from column `j` of `Y` (and of the new target) alone; the variances do
not depend on the targets at all. -/
theorem fantasies (L : Mat 𝕜 n n) (P : Mat 𝕜 n m) (K : Matrix (Fin n) (Fin n) 𝕜) (s2 : 𝕜)
    (Y : Matrix (Fin n) (Fin m) 𝕜) (mX : Fin n → 𝕜) (hS : IsPosteriorState L P K s2 Y mX)
    (j : Fin m) (p : Mat 𝕜 n 1)
    (hp : IsPosteriorState L p K s2 (Matrix.of fun i _ => Y i j) mX)
    (Ks : Mat 𝕜 n t) (scale : 𝕜) (kd ms : Vec 𝕜 t) (floor : 𝕜)
    (sqrt : 𝕜 → 𝕜) (minDiag : 𝕜) (kvec : Vec 𝕜 n) (kdiag noise mscal : 𝕜) (target : Vec 𝕜 m) :
    (∀ i : Fin n, P[i][j] = p[i][(0 : Fin 1)]) ∧
    (∀ i : Fin t, (predictMarginals L P Ks scale kd ms floor).means[i][j] =
        (predictMarginals L p Ks scale kd ms floor).means[i][(0 : Fin 1)]) ∧
    (predictMarginals L P Ks scale kd ms floor).vars = (predictMarginals L p Ks scale kd ms floor).vars ∧
    (∀ i : Fin (n + 1), (cholUpdate sqrt minDiag L P kvec scale kdiag noise mscal target).P[i][j] =
        (cholUpdate sqrt minDiag L p kvec scale kdiag noise mscal (Vec.of fun _ => target[j])).P[i][(0 : Fin 1)]) := by
  -- `p` and column `j` of `P` are both the state for column `j` of `Y`, and the state is unique
  have hcol : ∀ i, toM P i j = toM p i 0 := fun i =>
    ((congrArg (toM · i 0) (hp.unique (hS.column j))).trans (Mat.of_get _ i 0)).symm
  exact ⟨hcol, fun i => predMean_congr_col hcol _ ms i, rfl, fun i =>
    cholUpdateWith_P_congr_col hcol (congrFun (toV_of fun _ : Fin 1 => toV target j) 0).symm i⟩

/-! ### non-vacuity: a concrete posterior state over `ℚ` -/

/-- written from the factor: `L = [[1, 0], [1/2, 1]]`, `L Lᵀ = [[1, 1/2], [1/2, 5/4]] = K + ¼ I` with
`K = [[3/4, 1/2], [1/2, 1]]`; targets `(1, 2)`, zero mean, `P = L⁻¹ y = (1, 3/2)`. -/
example :
    IsPosteriorState (𝕜 := ℚ) (n := 2) (m := 1)
      #v[#v[1, 0], #v[1/2, 1]] #v[#v[1], #v[3/2]] !![3/4, 1/2; 1/2, 1] (1/4) !![1; 2] (fun _ => 0) := by
  refine ⟨?_, ?_, ?_, ?_⟩
  · unfold LowerTri; decide +kernel
  · unfold DiagNZ; decide +kernel
  · decide +kernel
  · decide +kernel

/-- the square-root hypothesis of `update` is satisfiable: for this state and new point the new
pivot is `λ² = 1` (no clamping), so `sqrt := id` is a square root at the argument it is called with. -/
example :
    let U := cholUpdate (α := ℚ) (n := 2) (m := 1) (fun x => x) (1/10000000000)
      #v[#v[1, 0], #v[1/2, 1]] #v[#v[1], #v[3/2]] #v[1/2, 1/4] 1 1 (1/4) 0 #v[2]
    U.lsq = 1 ∧ (fun x : ℚ => x) U.lsq * (fun x : ℚ => x) U.lsq = U.lsq ∧
      U.L = #v[#v[1, 0, 0], #v[1/2, 1, 0], #v[1/2, 0, 1]] ∧ U.P = #v[#v[1], #v[3/2], #v[3/2]] := by
  decide +kernel

end SyneTune.C08
