import SyneTune.Lemmas.Pareto
import SyneTune.Lemmas.Moasha
/-
C19 — Multi-objective ranking is Pareto-consistent and MOASHA follows it.
Models: `Model/Pareto.lean` (`pareto_efficient`, `nondominated_sort`, `NonDominatedPriority`),
`Model/Moasha.lean` (`_Bracket.on_result`, `MOASHA`).

`Rect X d` = the rows of `X` all have `d` entries (a numpy array of shape
`[N, d]`); `EpsOK eps` = every value returned by `compute_epsilon_net` is a permutation of
`range(len(front))` (the oracle's contract, checked by the driver on every recorded value);
`specFront / specRest / specLayers` = Pareto front, remainder and layers by the O(n²)
definition (`Lemmas/Pareto.lean`), independent of the mask algorithm.
-/
namespace SyneTune.C19
open SyneTune

theorem dominates_irrefl (a : Point) : dominates a a = false := by
  simp [dominates, anyLt_irrefl]

theorem dominates_trans (a b c : Point) (h1 : a.length = b.length) (h2 : b.length = c.length)
    (hab : dominates a b = true) (hbc : dominates b c = true) : dominates a c = true :=
  dominates_trans' a b c h1 hab hbc

/-- **`pareto_efficient` marks exactly the points no other point dominates** — for the
iterative mask algorithm as coded, any number of points, any dimension, ties and
duplicates included. -/
theorem pareto (X : List Point) (d : Nat) (hX : Rect X d) :
    (paretoEfficient X).length = X.length ∧
    ∀ (i : Nat) (hi : i < X.length),
      ((paretoEfficient X)[i]? = some true ↔
        ¬ ∃ (j : Nat) (hj : j < X.length), dominates X[j] X[i] = true) := by
  -- the loop computes the quadratic definition; the rest turns membership into indices
  rw [paretoEfficient_eq_brute X d hX]
  refine ⟨List.length_map _, fun i hi => ?_⟩
  rw [List.getElem?_map, List.getElem?_eq_getElem hi, Option.map_some, Option.some.injEq, Bool.not_eq_true',
    List.any_eq_false]
  constructor
  · rintro h ⟨j, hj, hd⟩
    exact h X[j] (List.getElem_mem hj) hd
  · intro hn a ha hd
    obtain ⟨j, hj, rfl⟩ := List.getElem_of_mem ha
    exact hn ⟨j, hj, hd⟩

/-- a non-empty point set has a non-dominated point (so every pass of the sort removes
at least one index). -/
theorem pareto_front_nonempty (X : List Point) (d : Nat) (hX : Rect X d) (hne : X ≠ []) :
    true ∈ paretoEfficient X := by
  have hR := rectI_enumFrom 0 X d hX
  have hne' : enumFrom 0 X ≠ [] := fun h =>
    hne (List.eq_nil_of_length_eq_zero (by rw [← enumFrom_length 0 X, h]; rfl))
  obtain ⟨q, hq⟩ := List.exists_mem_of_ne_nil _ (specFront_ne_nil (enumFrom 0 X) d hR hne')
  rw [← enumFrom_map_snd 0 X, mask_eq_isMinimal _ d hR]
  exact List.mem_map.mpr ⟨q, List.mem_filter.mp hq⟩

/-- the oracle the driver builds from the recorded `compute_epsilon_net` values satisfies
the contract for every argument, so the theorems below apply to every driver run. -/
theorem tape_oracle_contract (tape : List (List Nat)) : EpsOK (tapeOracle tape) := by
  intro k P
  unfold tapeOracle
  split
  · split
    · rename_i h; exact List.isPerm_iff.mp h
    · exact List.Perm.refl _
  · exact List.Perm.refl _

/-- **layers.** With `max_items = None` the sort succeeds and its `t`-th list (`flatten=False`)
is a permutation of the `t`-th Pareto layer by the O(n²) definition. -/
theorem layers (X : List Point) (d : Nat) (hX : Rect X d) (eps : Nat → List Point → List Nat)
    (hε : EpsOK eps) :
    ∃ L, nondominatedSortLayers X eps none = .ok L ∧
      List.Forall₂ List.Perm L (specLayers X.length (enumFrom 0 X)) := by
  obtain ⟨L, hfor, hL, -⟩ := sortLayersRaw_spec X d hX eps hε
  exact ⟨L, by rw [nondominatedSortLayers, hL]; rfl, hfor⟩

/-- **every index exactly once** (`max_items = None`). -/
theorem sort_perm (X : List Point) (d : Nat) (hX : Rect X d) (eps : Nat → List Point → List Nat)
    (hε : EpsOK eps) :
    ∃ r, nondominatedSort X eps none = .ok r ∧ r.Perm (List.range X.length) := by
  obtain ⟨L, hL, hfor⟩ := layers X d hX eps hε
  exact ⟨L.flatten, nondominatedSort_of_layers hL,
    (List.Perm.flatten_congr hfor).trans (specLayers_enum_perm X d hX)⟩

/-- **blocks**: the full sort places the `b`-th Pareto layer in the block of positions right behind the
earlier layers. -/
theorem sort_block {X : List Point} {d : Nat} (hX : Rect X d) {eps : Nat → List Point → List Nat}
    (hε : EpsOK eps) {r : List Nat} (h : nondominatedSort X eps none = .ok r) {b i : Nat} {lb : List Nat}
    (hb : (specLayers X.length (enumFrom 0 X))[b]? = some lb) (hi : i ∈ lb) :
    sumLengths ((specLayers X.length (enumFrom 0 X)).take b) ≤ r.idxOf i ∧
    r.idxOf i < sumLengths ((specLayers X.length (enumFrom 0 X)).take b) + lb.length := by
  obtain ⟨L, hL, hfor⟩ := layers X d hX eps hε
  obtain rfl := Except.ok.inj ((nondominatedSort_of_layers hL).symm.trans h)
  obtain ⟨lb', hb', hpb⟩ := forall₂_getElem? hfor b lb hb
  have hi' : i ∈ lb' := hpb.mem_iff.mpr hi
  have hnd := ((List.Perm.flatten_congr hfor).trans (specLayers_enum_perm X d hX)).nodup_iff.mpr List.nodup_range
  rw [idxOf_flatten_eq L hnd b lb' hb' i hi', ← forall₂_sumLengths_take hfor b, ← hpb.length_eq]
  exact ⟨Nat.le_add_right _ _, Nat.add_lt_add_left (List.idxOf_lt_length_of_mem hi') _⟩

theorem sort_block_lt {X : List Point} {d : Nat} (hX : Rect X d) {eps : Nat → List Point → List Nat}
    (hε : EpsOK eps) {r : List Nat} (h : nondominatedSort X eps none = .ok r) {a b i j : Nat} {la lb : List Nat}
    (ha : (specLayers X.length (enumFrom 0 X))[a]? = some la)
    (hb : (specLayers X.length (enumFrom 0 X))[b]? = some lb) (hab : a < b) (hi : i ∈ la) (hj : j ∈ lb) :
    r.idxOf i < r.idxOf j :=
  Nat.lt_of_lt_of_le (sort_block hX hε h ha hi).2
    (Nat.le_trans (sumLengths_take_mono hab ha) (sort_block hX hε h hb hj).1)

/-- **a prefix otherwise**: with `max_items = m ≥ 1` on a non-empty array the result is the
first `m` entries of the full sort (same oracle). -/
theorem sort_prefix (X : List Point) (d : Nat) (hX : Rect X d) (eps : Nat → List Point → List Nat)
    (hε : EpsOK eps) (m : Nat) (hm : 0 < m) (hne : X ≠ []) :
    ∃ full, nondominatedSort X eps none = .ok full ∧
      nondominatedSort X eps (some m) = .ok (full.take m) := by
  obtain ⟨L, hfor, hL, hsome⟩ := sortLayersRaw_spec X d hX eps hε
  have hLne : L ≠ [] := fun h => by
    have := ((List.Perm.flatten_congr hfor).trans (specLayers_enum_perm X d hX)).length_eq
    rw [h, List.flatten_nil, List.length_nil, List.length_range] at this
    exact hne (List.eq_nil_of_length_eq_zero this.symm)
  obtain ⟨T, hT, hTf⟩ := truncateLayers_takeLayers m L hm hLne
  exact ⟨L.flatten, by rw [nondominatedSort, nondominatedSortLayers, hL]; rfl,
    by simp only [nondominatedSort, nondominatedSortLayers, hsome, hT, hTf]⟩

/-- the sort never fails for `max_items = None`, nor for `max_items ≥ 1` on a non-empty
array (the fuel of the model's loop suffices, `front[order]` stays in range). -/
theorem sort_total (X : List Point) (d : Nat) (hX : Rect X d) (eps : Nat → List Point → List Nat)
    (hε : EpsOK eps) :
    (∃ r, nondominatedSort X eps none = .ok r) ∧
    (∀ m, 0 < m → X ≠ [] → ∃ r, nondominatedSort X eps (some m) = .ok r) := by
  constructor
  · obtain ⟨r, hr, _⟩ := sort_perm X d hX eps hε; exact ⟨r, hr⟩
  · intro m hm hne
    obtain ⟨full, _, h⟩ := sort_prefix X d hX eps hε m hm hne
    exact ⟨_, h⟩

/-- the one failure of the code: `indices[-1]` on an empty list (`IndexError`) when
`max_items` is given and the array is empty or `max_items = 0`. -/
theorem sort_index_error (X : List Point) (eps : Nat → List Point → List Nat) (m : Nat)
    (h : X = [] ∨ m = 0) :
    nondominatedSort X eps (some m) = .error (.indexError "indices[-1]") := by
  have : sortLayersRaw X eps (some m) = .ok [] :=
    sortLoop_stop eps (some m) _ 0 _ 0 (by rcases h with rfl | rfl <;> simp [loopCond, enumFrom])
  rw [nondominatedSort, nondominatedSortLayers, this]
  rfl

theorem sort_ok (X : List Point) (d : Nat) (hX : Rect X d) (eps : Nat → List Point → List Nat)
    (hε : EpsOK eps) (mx : Option Nat) (order : List Nat) (h : nondominatedSort X eps mx = .ok order) :
    ∃ full, nondominatedSort X eps none = .ok full ∧ full.Perm (List.range X.length) ∧
      order = mx.elim full (full.take ·) := by
  obtain ⟨full, hfull, hperm⟩ := sort_perm X d hX eps hε
  refine ⟨full, hfull, hperm, ?_⟩
  cases mx with
  | none => exact Except.ok.inj (h.symm.trans hfull)
  | some m =>
    by_cases hcase : X = [] ∨ m = 0
    · rw [sort_index_error X eps m hcase] at h; cases h
    · obtain ⟨full', hfull', hpre⟩ := sort_prefix X d hX eps hε m
        (Nat.pos_of_ne_zero fun h0 => hcase (.inr h0)) fun hx => hcase (.inl hx)
      cases hfull.symm.trans hfull'
      exact Except.ok.inj (h.symm.trans hpre)

/-- **earlier layer first**: every index of the `a`-th list precedes every index of the
`b`-th list in the flattened sort, `a < b`. -/
theorem layers_order (X : List Point) (d : Nat) (hX : Rect X d) (eps : Nat → List Point → List Nat)
    (hε : EpsOK eps) (L : List (List Nat)) (h : nondominatedSortLayers X eps none = .ok L)
    (a b : Nat) (la lb : List Nat) (ha : L[a]? = some la) (hb : L[b]? = some lb) (hab : a < b)
    (i j : Nat) (hi : i ∈ la) (hj : j ∈ lb) :
    L.flatten.idxOf i < L.flatten.idxOf j := by
  obtain ⟨L', hL', hfor⟩ := layers X d hX eps hε
  cases hL'.symm.trans h
  obtain ⟨la', ha', hpa⟩ := forall₂_getElem?' hfor a la ha
  obtain ⟨lb', hb', hpb⟩ := forall₂_getElem?' hfor b lb hb
  exact sort_block_lt hX hε (nondominatedSort_of_layers h) ha' hb' hab (hpa.mem_iff.mp hi) (hpb.mem_iff.mp hj)

/-- **Pareto consistency**: an index whose point dominates another's is sorted before it. -/
theorem dominated_later (X : List Point) (d : Nat) (hX : Rect X d) (eps : Nat → List Point → List Nat)
    (hε : EpsOK eps) (r : List Nat) (h : nondominatedSort X eps none = .ok r)
    (i j : Nat) (hi : i < X.length) (hj : j < X.length) (hd : dominates X[i] X[j] = true) :
    r.idxOf i < r.idxOf j := by
  obtain ⟨a, b, la, lb, hab, ha, hb, hia, hjb⟩ :=
    specLayers_dominated X.length (enumFrom 0 X) d (rectI_enumFrom 0 X d hX) (by rw [enumFrom_length])
      (i, X[i]) (j, X[j]) (mem_enumFrom 0 X i X[i] (List.getElem?_eq_getElem hi))
      (mem_enumFrom 0 X j X[j] (List.getElem?_eq_getElem hj)) hd
  exact sort_block_lt hX hε h ha hb hab hia hjb

/-- **the priority of a sample is its position in the non-dominated sort** (`len(order)`
for a sample cut off by `max_num_samples`; `List.idxOf` is the length for an absent index). -/
theorem priority_is_position (X : List Point) (d : Nat) (hX : Rect X d)
    (eps : Nat → List Point → List Nat) (hε : EpsOK eps) (mx : Option Nat) (p : List Nat)
    (h : ndPriority X eps mx = .ok p) :
    ∃ order, nondominatedSort X eps mx = .ok order ∧ order.Nodup ∧
      p = (List.range X.length).map (fun i => order.idxOf i) := by
  unfold ndPriority at h
  cases ho : nondominatedSort X eps mx with
  | error e => rw [ho] at h; cases h
  | ok order =>
    rw [ho] at h
    cases h
    -- the order is the full sort, which holds every index once, or a prefix of it
    obtain ⟨full, -, hperm, rfl⟩ := sort_ok X d hX eps hε mx order ho
    have hnd : (mx.elim full (full.take ·)).Nodup := by
      cases mx with
      | none => exact hperm.nodup_iff.mpr List.nodup_range
      | some m => exact (hperm.nodup_iff.mpr List.nodup_range).sublist (List.take_sublist _ _)
    exact ⟨_, rfl, hnd, scatter_eq_idxOf _ X.length hnd⟩

/-- **earlier Pareto layer ⇒ strictly smaller priority** (`max_num_samples = None`). -/
theorem priority_layers (X : List Point) (d : Nat) (hX : Rect X d)
    (eps : Nat → List Point → List Nat) (hε : EpsOK eps) (p : List Nat)
    (h : ndPriority X eps none = .ok p)
    (a b : Nat) (la lb : List Nat)
    (ha : (specLayers X.length (enumFrom 0 X))[a]? = some la)
    (hb : (specLayers X.length (enumFrom 0 X))[b]? = some lb) (hab : a < b)
    (i j : Nat) (hi : i ∈ la) (hj : j ∈ lb) :
    ∃ pi pj, p[i]? = some pi ∧ p[j]? = some pj ∧ pi < pj := by
  obtain ⟨order, ho, _, rfl⟩ := priority_is_position X d hX eps hε none p h
  exact ⟨_, _, getElem?_map_idxOf _ (lt_of_mem_specLayers X d hX ha hi),
    getElem?_map_idxOf _ (lt_of_mem_specLayers X d hX hb hj),
    sort_block_lt hX hε ho ha hb hab hi hj⟩

/-- a sample whose point dominates another's has the strictly smaller priority. -/
theorem priority_dominates (X : List Point) (d : Nat) (hX : Rect X d)
    (eps : Nat → List Point → List Nat) (hε : EpsOK eps) (p : List Nat)
    (h : ndPriority X eps none = .ok p)
    (i j : Nat) (hi : i < X.length) (hj : j < X.length) (hd : dominates X[i] X[j] = true) :
    ∃ pi pj, p[i]? = some pi ∧ p[j]? = some pj ∧ pi < pj := by
  obtain ⟨order, ho, _, rfl⟩ := priority_is_position X d hX eps hε none p h
  exact ⟨_, _, getElem?_map_idxOf _ hi, getElem?_map_idxOf _ hj,
    dominated_later X d hX eps hε order ho i j hi hj hd⟩

/-- `np.searchsorted(sorted(p), v)` is the number of elements of `p` strictly smaller than `v`. -/
theorem searchsorted_counts_smaller (p : List Rat) (v : Rat) :
    searchsortedLeft (sortRat p) v = p.countP (fun x => decide (x < v)) :=
  searchsortedLeft_sortRat p v

/-- a forced rank comparison is the exact comparison `count / n > 1 / rf`. -/
theorem rank_cmp_forced (c n : Nat) (rf : Rat) (x : Bool) (h : cmpRankGt c n rf = .forced x) :
    (x = true ↔ 1 / rf < (c : Rat) / (n : Rat)) := by
  unfold cmpRankGt at h
  split at h
  · rename_i heq
    cases h
    exact ⟨nofun, fun hlt => absurd heq (ne_of_gt hlt)⟩
  · split at h <;> cases h
    exact decide_eq_true_iff

/-- **the rule.**  The result is taken by the first rung (largest milestone) that
`cur_iter` has reached and that does not hold the trial yet; the trial is appended to
exactly that rung; if the rung already held entries and the priority function returned
`ps ++ [v]` (`v` for the new trial), the trial continues iff
`#{recorded priorities < v} / (entries incl. the new one) ≤ 1 / rf` and is stopped
otherwise — for every comparison that is not within round-off. -/
theorem moasha_rule (prio : List Point → Except MErr (List Rat)) (rf : Rat) (tid cur : Nat)
    (metrics : Point) (hint : Bool) (pre : List MRung) (rg : MRung) (post : List MRung)
    (hpre : ∀ r ∈ pre, r.skips tid cur) (hrg : ¬ rg.skips tid cur) (hne : rg.recorded ≠ [])
    (ps : List Rat) (v : Rat)
    (hp : prio (rg.recorded.map (·.2) ++ [metrics]) = .ok (ps ++ [v])) (x : Bool)
    (hf : cmpRankGt (ps.countP (fun y => decide (y < v))) (ps.length + 1) rf = .forced x) :
    ∃ dec, bracketScan prio rf tid cur metrics hint (pre ++ rg :: post)
        = .ok (pre ++ rg.record tid metrics :: post, dec, false) ∧
      (dec = .continue ↔
        ((ps.countP (fun y => decide (y < v)) : Nat) : Rat) / ((ps.length + 1 : Nat) : Rat) ≤ 1 / rf) ∧
      (dec = .stop ↔
        1 / rf < ((ps.countP (fun y => decide (y < v)) : Nat) : Rat) / ((ps.length + 1 : Nat) : Rat)) := by
  have hdec : rungDecision prio rf rg metrics hint = .ok (if x then .stop else .continue, false) := by
    rw [rungDecision, if_neg (by simpa using hne)]
    simp only [hp, rankDecision_forced rf ps v hint x hf]
  have hx := rank_cmp_forced _ _ rf x hf
  refine ⟨if x then .stop else .continue,
    by rw [bracketScan_at hpre hrg, hdec], ?_, ?_⟩
  · rw [← not_lt, ← hx]; cases x <;> simp
  · rw [← hx]; cases x <;> simp

/-- the first entry of a rung continues (and is recorded). -/
theorem moasha_first_continues (prio : List Point → Except MErr (List Rat)) (rf : Rat) (tid cur : Nat)
    (metrics : Point) (hint : Bool) (pre : List MRung) (rg : MRung) (post : List MRung)
    (hpre : ∀ r ∈ pre, r.skips tid cur) (hrg : ¬ rg.skips tid cur) (hemp : rg.recorded = []) :
    bracketScan prio rf tid cur metrics hint (pre ++ rg :: post)
      = .ok (pre ++ rg.record tid metrics :: post, .continue, false) := by
  rw [bracketScan_at hpre hrg]
  simp [rungDecision, hemp]

/-- **decisions only at milestones, each trial once per rung**: a report for which every rung
is either not yet reached or already holds the trial changes nothing and continues. -/
theorem moasha_off_milestone (prio : List Point → Except MErr (List Rat)) (rf : Rat) (tid cur : Nat)
    (metrics : Point) (hint : Bool) (rungs : List MRung) (h : ∀ r ∈ rungs, r.skips tid cur) :
    bracketScan prio rf tid cur metrics hint rungs = .ok (rungs, .continue, false) := by
  induction rungs with
  | nil => rfl
  | cons r rest ih =>
    rw [List.forall_mem_cons] at h
    rw [bracketScan_skip h.1, ih h.2]

/-- the operations of the scheduler; every `result`/`complete` comes with the priority
function of that call (it depends on the ε-net oracle of the call). A failing call
(Python exception) leaves the state unchanged. -/
inductive MOp
  | add (tid idx : Nat)
  | result (prio : List Point → Except MErr (List Rat)) (tid cur : Nat) (raw : Point) (hint : Bool)
  | complete (prio : List Point → Except MErr (List Rat)) (tid cur : Nat) (raw : Point) (hint : Bool)
  | remove (tid : Nat)

def applyOp (s : Moasha) : MOp → Moasha
  | .add tid idx => match s.onAdd tid idx with | .ok s' => s' | .error _ => s
  | .result prio tid cur raw hint => match s.onResult prio tid cur raw hint with | .ok r => r.1 | .error _ => s
  | .complete prio tid cur raw hint => match s.onComplete prio tid cur raw hint with | .ok r => r.1 | .error _ => s
  | .remove tid => match s.onRemove tid with | .ok s' => s' | .error _ => s

def runOps (s : Moasha) (ops : List MOp) : Moasha := ops.foldl applyOp s

theorem applyOp_keeps (s : Moasha) (op : MOp) : s.Keeps (applyOp s op) := by
  -- a call that succeeds keeps the rungs (`*_keeps`); one that raises leaves the state as it is
  cases op with
  | add tid idx =>
    rw [applyOp]; split
    · exact onAdd_keeps ‹_›
    · exact .of_brackets_eq rfl
  | result prio tid cur raw hint =>
    rw [applyOp]; split
    · exact onResult_keeps ‹_›
    · exact .of_brackets_eq rfl
  | complete prio tid cur raw hint =>
    rw [applyOp]; split
    · exact onComplete_keeps ‹_›
    · exact .of_brackets_eq rfl
  | remove tid =>
    rw [applyOp]; split
    · exact onRemove_keeps ‹_›
    · exact .of_brackets_eq rfl

theorem runOps_keeps (ops : List MOp) : ∀ s : Moasha, s.Keeps (runOps s ops) := by
  induction ops with
  | nil => exact fun s => .of_brackets_eq rfl
  | cons op ops ih => exact fun s => (applyOp_keeps s op).trans (ih _)

/-- **each trial is recorded at most once per rung, and the milestones never change** — in
every reachable state, i.e. after any sequence of operations with any priority functions. -/
theorem moasha_once_per_rung (s : Moasha) (h : s.OK) (ops : List MOp) :
    (runOps s ops).OK ∧
    (runOps s ops).brackets.map (fun b => b.map (·.milestone)) = s.brackets.map (fun b => b.map (·.milestone)) :=
  ⟨(runOps_keeps ops s).1 h, (runOps_keeps ops s).2⟩

/-- **stop at the maximum resource**: a report with `time_attr ≥ max_t` is answered STOP
without consulting or changing any rung (only `_num_stopped` is incremented). -/
theorem moasha_stop_at_max (s : Moasha) (prio : List Point → Except MErr (List Rat))
    (tid cur : Nat) (raw : Point) (hint : Bool) (h : s.maxT ≤ cur) :
    s.onResult prio tid cur raw hint = .ok (s.countStop .stop, .stop, false) ∧
    (s.countStop .stop).brackets = s.brackets ∧ (s.countStop .stop).trialInfo = s.trialInfo := by
  unfold Moasha.onResult Moasha.countStop
  simp [h]

/-- below `max_t` the scheduler's answer is the answer of the trial's bracket on the
sign-flipped metrics (`mode` per metric), and only that bracket changes. -/
theorem moasha_result_uses_bracket (s s' : Moasha) (prio : List Point → Except MErr (List Rat))
    (tid cur : Nat) (raw : Point) (hint : Bool) (dec : Decision) (fr : Bool) (hlt : cur < s.maxT)
    (h : s.onResult prio tid cur raw hint = .ok (s', dec, fr)) :
    ∃ b rungs rungs', alookup tid s.trialInfo = some b ∧ s.brackets[b]? = some rungs ∧
      bracketScan prio s.rf tid cur (List.zipWith (· * ·) raw s.ops) hint rungs = .ok (rungs', dec, fr) ∧
      s'.brackets = s.brackets.set b rungs' := by
  rw [Moasha.onResult, if_neg (Nat.not_le.mpr hlt)] at h
  cases hb : s.bracketResult prio tid cur raw hint with
  | error e => rw [hb] at h; cases h
  | ok res =>
    obtain ⟨s₁, o⟩ := res
    rw [hb] at h
    cases h
    obtain ⟨b, rungs, rungs', h1, h2, h3, rfl⟩ := bracketResult_ok hb
    refine ⟨b, rungs, rungs', h1, h2, h3, ?_⟩
    rw [Moasha.countStop]
    split <;> rfl

/-- **composition with `NonDominatedPriority`** (`max_num_samples = None`): the priorities MOASHA
ranks are positions in the non-dominated sort, so an entry of an earlier Pareto layer of the
rung always has a strictly smaller priority than one of a later layer. -/
theorem moasha_nds_layers (pts : List Point) (d : Nat) (hX : Rect pts d)
    (eps : Nat → List Point → List Nat) (hε : EpsOK eps) (p : List Rat)
    (h : prioNDS eps none pts = .ok p)
    (a b : Nat) (la lb : List Nat)
    (ha : (specLayers pts.length (enumFrom 0 pts))[a]? = some la)
    (hb : (specLayers pts.length (enumFrom 0 pts))[b]? = some lb) (hab : a < b)
    (i j : Nat) (hi : i ∈ la) (hj : j ∈ lb) :
    p.length = pts.length ∧ ∃ pi pj, p[i]? = some pi ∧ p[j]? = some pj ∧ pi < pj := by
  obtain ⟨pn, hn, rfl⟩ := prioNDS_ok h
  obtain ⟨order, _, _, hp⟩ := priority_is_position pts d hX eps hε none pn hn
  obtain ⟨pi, pj, h1, h2, hlt⟩ := priority_layers pts d hX eps hε pn hn a b la lb ha hb hab i j hi hj
  exact ⟨by rw [List.length_map, hp, List.length_map, List.length_range], pi, pj,
    by rw [List.getElem?_map, h1]; rfl, by rw [List.getElem?_map, h2]; rfl, Nat.cast_lt.mpr hlt⟩

/-- **MOASHA's rank is bounded by the Pareto layers** (`NonDominatedPriority`,
`max_num_samples = None`): if the new entry (the last row) lies in the `b`-th Pareto layer of the
rung, the number of recorded priorities strictly smaller than its own is at least the number of
entries in the layers before `b` and less than that number plus the size of layer `b`.  With
`moasha_rule`: more than `n / rf` entries in strictly earlier layers force STOP; at most `n / rf`
entries in the same or earlier layers (itself included) force CONTINUE. -/
theorem moasha_nds_rank_bounds (pts : List Point) (d : Nat) (hX : Rect pts d)
    (eps : Nat → List Point → List Nat) (hε : EpsOK eps) (ps : List Rat) (v : Rat)
    (h : prioNDS eps none pts = .ok (ps ++ [v]))
    (b : Nat) (lb : List Nat)
    (hb : (specLayers pts.length (enumFrom 0 pts))[b]? = some lb) (hmem : pts.length - 1 ∈ lb) :
    sumLengths ((specLayers pts.length (enumFrom 0 pts)).take b) ≤ ps.countP (fun y => decide (y < v)) ∧
    ps.countP (fun y => decide (y < v)) <
      sumLengths ((specLayers pts.length (enumFrom 0 pts)).take b) + lb.length := by
  obtain ⟨pn, hn, h⟩ := prioNDS_ok h
  obtain ⟨order, ho, -, rfl⟩ := priority_is_position pts d hX eps hε none pn hn
  obtain ⟨full, hfull, hperm⟩ := sort_perm pts d hX eps hε
  cases hfull.symm.trans ho
  obtain ⟨k, hk⟩ := Nat.exists_eq_add_one.mpr (Nat.zero_lt_of_lt (lt_of_mem_specLayers pts d hX hb hmem))
  rw [hk] at h hperm hmem
  -- the priority vector is the recorded part followed by the new entry
  rw [List.range_succ, List.map_append, List.map_append] at h
  obtain ⟨rfl, hv⟩ := List.append_inj' h rfl
  cases hv
  -- the count is the position of the new entry in the sort, which lies inside layer `b`
  rw [List.map_map, List.countP_map]
  simp only [Function.comp_def, Nat.cast_lt]
  rw [countP_before order k hperm]
  exact sort_block hX hε ho hb hmem

/-- ties and duplicates: `(1,1)` twice and `(0,5)` are non-dominated among
`(3,3),(1,1),(4,4),(2,2),(1,1),(0,5)`; the sort with the recorded ε-net values. -/
example :
    let X : List Point := [[3, 3], [1, 1], [4, 4], [2, 2], [1, 1], [0, 5]]
    Rect X 2 ∧ paretoEfficient X = [false, true, false, false, true, true] ∧
    nondominatedSort X (tapeOracle [[1, 2, 0], [0], [0], [0]]) none = .ok [4, 5, 1, 3, 0, 2] ∧
    nondominatedSort X (tapeOracle [[1, 2, 0], [0]]) (some 4) = .ok [4, 5, 1, 3] ∧
    ndPriority X (tapeOracle [[1, 2, 0]]) (some 3) = .ok [3, 2, 3, 3, 0, 1] := by
  refine ⟨?_, by decide +kernel⟩
  unfold Rect
  decide +kernel

/-- the F13 witness: priorities of `(3,3),(1,1),(4,4),(2,2)` are the ranks `2,0,3,1`; with
`rf = 3` the fourth trial `(2,2)` has one of four priorities strictly smaller, `1/4 ≤ 1/3`,
and continues (`moasha_rule` with `ps = [2,0,3]`, `v = 1`). -/
example :
    let rg : MRung := { milestone := 1, recorded := [(0, [3, 3]), (1, [1, 1]), (2, [4, 4])] }
    let prio := prioNDS (tapeOracle [[0], [0], [0], [0]]) none
    prio (rg.recorded.map (·.2) ++ [[2, 2]]) = .ok ([2, 0, 3] ++ [1]) ∧
    cmpRankGt (([2, 0, 3] : List Rat).countP (fun y => decide (y < 1))) 4 3 = .forced false ∧
    ¬ rg.skips 3 1 ∧ rg.OK ∧
    bracketScan prio 3 3 1 [2, 2] true [{ milestone := 3, recorded := [] }, rg]
      = .ok ([{ milestone := 3, recorded := [] }, rg.record 3 [2, 2]], .continue, false) := by
  refine ⟨by decide +kernel, by decide +kernel, by decide +kernel, ?_, by decide +kernel⟩
  unfold MRung.OK
  decide +kernel

end SyneTune.C19
