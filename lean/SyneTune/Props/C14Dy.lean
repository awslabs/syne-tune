import SyneTune.Lemmas.DyHPOComp
import SyneTune.Lemmas.DyHPOHistory
import SyneTune.Props.C14Comp
/-
C14 / C04 for DyHPO — `HyperbandScheduler(type="dyhpo", searcher="dyhpo")`.

The model of `DyHPORungSystem` (`Model/DyHPO.lean`) sits on top of the promotion rung system of
`Model/HB.lean`: `_suggest` goes through `Sched.suggestDy`, whose `on_task_schedule` first tries
the successive-halving rule (if the coin `sh` says so) and otherwise resumes the paused trial
the searcher picked (`pick = some t`, an ORACLE whose answer must be in the paused list handed to
it) or starts a new trial (`pick = none`).  All other operations are the inherited ones.
`DOp` = the operations of `C04K.SOp` + `suggestDy`; `stepD`/`runD` is the scheduler alone,
`stepCD`/`runCD` the scheduler composed with the searcher's data bookkeeping (`C14Comp.Sys`).
The invariants `KInv` and `CInv` are lifted to every history of `DOp` operations.
-/
namespace SyneTune.C14Dy
open SyneTune SyneTune.C04K SyneTune.C14 SyneTune.C14Comp SyneTune.DyHPO

/-- A history made of inherited operations only runs exactly as in `Props/C14Comp.lean`, and its
contract is the inherited contract: the DyHPO system extends the Hyperband system, it does not
change it. -/
theorem runCD_old (y : Sys) (ops : List SOp) :
    runCD y (ops.map DOp.old) = runC y ops ∧ (OpsOKD y (ops.map DOp.old) ↔ OpsOK y ops) := by
  induction ops generalizing y with
  | nil => exact ⟨rfl, Iff.rfl⟩
  | cons op ops ih =>
    obtain ⟨i1, i2⟩ := ih (stepC y op)
    exact ⟨i1, and_congr Iff.rfl i2⟩

/-- One operation of a DyHPO scheduler — an inherited one or `_suggest` through
`DyHPORungSystem.on_task_schedule` — preserves the scheduler invariant `KInv` of
`Lemmas/HBContractK.lean` (every not-yet-promoted rung entry belongs to a trial the scheduler records as
not running, each at most once; resumed runs have `resume_from < milestone`). -/
theorem step_KInv_dy (s : Sched) (op : DOp) (h : KInv s) : KInv (stepD s op) := by
  cases op with
  | old op => exact step_KInv s op h
  | suggestDy n b sh hint pick =>
    simp only [stepD]
    cases hs : s.suggestDy n b sh hint pick with
    | error e => exact h
    | ok res => exact (suggestDy_KInv s _ n b sh hint pick _ _ _ h hs).1

/-- **`KInv` holds after every history** of DyHPO scheduler operations. -/
theorem kinv_all_histories_dy (s : Sched) (h : KInv s) (ops : List DOp) : KInv (runD s ops) := by
  induction ops generalizing s with
  | nil => exact h
  | cons op ops ih => exact ih (stepD s op) (step_KInv_dy s op h)

/-- **Contract K for DyHPO.**  After any history, if `_suggest` answers `resume(t, from, to)` —
whether the successive-halving rule or the searcher's scoring chose `t` — the scheduler has `t`
recorded with a decision other than CONTINUE (it was paused and has not been resumed since), so
the assertions "Paused trial must be in _active_trials" / "marked as running" of
`_promote_trial` are unreachable; and it never answers `start` with an id it already knows. -/
theorem resume_only_not_running_dy (s : Sched) (h : KInv s) (ops : List DOp) (newTid bracket : Nat) (sh : Bool)
    (hint pick : Option Nat) (s' : Sched) (sg : Suggestion) (calls : List SCall) (fr : Bool)
    (hs : (runD s ops).suggestDy newTid bracket sh hint pick = .ok (s', sg, calls, fr)) :
    (∀ t f m, sg = .resume t f m → NotRunning (runD s ops) t) ∧
    (∀ t b m, sg = .start t b m → alookup t (runD s ops).active = none) := by
  have hk := kinv_all_histories_dy s h ops
  obtain ⟨_, h2, h3⟩ := suggestDy_KInv _ s' newTid bracket sh hint pick sg calls fr hk hs
  exact ⟨h2, h3⟩

/-- **What the searcher is asked to score.**  The trial ids of `_paused_trials_and_milestones`
are exactly the ids of the not-yet-promoted rung entries (in rung order, with multiplicity):
nothing else can be picked. -/
theorem paused_list_is_unpromoted (sys : RungSys) : sys.pausedTrials.map (·.1) = unpromotedOf sys.rungs :=
  pausedScan_tids sys.maxT sys.rungs

/-- **The searcher's pick is checked.**  When the DyHPO branch runs (no successive-halving
attempt) with the oracle answer `pick = some t` and the model accepts it, then `t` is one of the
paused trials handed to the searcher and `t` is the trial promoted; a pick outside the list is
rejected (an error the correspondence check reports). -/
theorem pick_is_paused (sys sys' : RungSys) (m : Mode) (hint : Option Nat) (t : Nat) (so : Option SchedOut) (fr : Bool)
    (h : sys.dyhpoSchedule m false hint (some t) = .ok (sys', so, fr)) :
    t ∈ sys.pausedTrials.map (·.1) ∧ ∃ o, so = some o ∧ o.trial = t := by
  -- without the successive-halving attempt the pick is promoted on `sys` itself
  rcases dyhpoSchedule_cases sys sys' m false hint (some t) so fr h with ⟨_, rfl, hn⟩ | ⟨t', o, _, hpk, rfl, hp⟩
  · cases hn rfl
  · cases hpk
    obtain ⟨p, _, _, _, sp⟩ := dyhpoPromote_spec hp
    obtain ⟨g1, g2⟩ := findPaused_some t _ p sp.paused
    exact ⟨List.mem_map.mpr ⟨p, g1, g2⟩, o, rfl, sp.trial⟩

/-- **DyHPO promotes only eligible trials.**  For a well-formed scheduler (`MgrWF`: strictly
decreasing rung levels below `max_t`, as the constructor builds them): if `_suggest` answers
`resume(t, f, m)` — by the SH rule or by the searcher's pick — then in the rung system of the
sampled bracket trial `t` was paused in the rung of level `f` (it has an entry there) and had NOT
been promoted from it (`promoted = false`); the step marks exactly that entry (`promoted = true`
afterwards: `PromotedAt … f t`); the trial is told to run exactly to the next rung level above `f`
(`nextAbove`: the level of the rung before it in `_rungs`, `max_t` from the top rung), `f < m`;
and `_running[t] = (m, f)`. -/
theorem resume_only_eligible_dy (s s' : Sched) (hw : MgrWF s.mgr) (n b : Nat) (sh : Bool) (hint pick : Option Nat)
    (t f m : Nat) (calls : List SCall) (fr : Bool)
    (h : s.suggestDy n b sh hint pick = .ok (s', .resume t f m, calls, fr)) :
    ∃ sys sys' i rg pos e,
      s.mgr.systems[(s.mgr.sysFor b).1]? = some sys ∧ s'.mgr.systems[(s.mgr.sysFor b).1]? = some sys' ∧
      rungPos sys.rungs f = some i ∧ sys.rungs[i]? = some rg ∧ rg.level = f ∧
      rg.data[pos]? = some e ∧ e.tid = t ∧ e.promoted = false ∧
      sys'.rungs = sys.rungs.set i (markPromoted s.mgr.mode rg pos) ∧ PromotedAt sys'.rungs f t ∧
      m = nextAbove sys.rungs i sys.maxT ∧ f < m ∧ alookup t sys'.running = some (m, some f) := by
  obtain ⟨g1, so, ms, fr0, hts, ha⟩ := suggestDy_ok h
  obtain ⟨g2, first, ⟨_, _, _, _, _, hsg⟩ | ⟨o, rec, rfl, hta, _, _, rfl, _, hsg⟩⟩ := Sched.afterSchedule_ok ha
  · cases hsg
  · cases hsg
    obtain ⟨hty, sys, sys1, hs, hd, rfl, _⟩ := taskScheduleDy_cases s.mgr g1 b sh hint pick (some o) ms fr0 hts
    obtain ⟨_, hdec, _⟩ := MgrWF_sys hw (List.mem_of_getElem? hs)
    have eff := dyhpoSchedule_eff sys sys1 s.mgr.mode sh hint pick (some o) fr0 hd
    obtain ⟨i, rg, pos, e, k1, k2, k3, k4, k5, k6, k7, k8⟩ := eff.eligible hdec
    have hprom := (eff.mark o rfl).1.eligible.2
    obtain ⟨a1, a2⟩ := taskAdd_resume _ g2 o.trial b o.milestone o.resumeFrom first sys1 hta
      (show s.mgr.type.pauseResume = true by rw [hty]; rfl) (getElem?_set_self' _ _ sys sys1 hs)
    exact ⟨sys, _, i, rg, pos, e, hs, a2, k1, k2, k3, k4, k5, k6, k7, hprom, k8, a1, alookup_aset_self _ _ _⟩

/-- **A resumed trial leaves the paused list.**  On a state satisfying `KInv`, after `_suggest`
answered `resume(t, …)` trial `t` is in no rung system's paused list any more: until it pauses
again (at a higher level) neither the SH rule nor the searcher can choose it. -/
theorem resumed_trial_leaves_paused_list (s s' : Sched) (hk : KInv s) (n b : Nat) (sh : Bool) (hint pick : Option Nat)
    (t f m : Nat) (calls : List SCall) (fr : Bool)
    (h : s.suggestDy n b sh hint pick = .ok (s', .resume t f m, calls, fr)) :
    ∀ sys ∈ s'.mgr.systems, t ∉ sys.pausedTrials.map (·.1) := by
  obtain ⟨g1, so, ms, fr0, hts, ha⟩ := suggestDy_ok h
  intro sys hsys hmem
  rw [paused_list_is_unpromoted] at hmem
  exact afterSchedule_resumed_gone hk (taskScheduleDy_eff hts) ha (List.mem_flatMap.mpr ⟨sys, hsys, hmem⟩)

/-- the invariant used by `promoted_once_dy`, over every history of rung-system operations:
each trial at most once per rung, rung levels never change, a promotion record is never lost -/
theorem history_invariant_dy (m : Mode) (s : RungSys) (ops : List DPOp) :
    (AllNodup s.rungs → AllNodup (runDP m s ops).rungs) ∧
    (∀ level t, PromotedAt s.rungs level t → PromotedAt (runDP m s ops).rungs level t) ∧
    (runDP m s ops).rungs.map (·.level) = s.rungs.map (·.level) :=
  RungSteps.foldl_preserve (·.rungs) (stepDP m) (stepDP_steps m) s ops

/-- **A trial is promoted from a rung at most once — over every history.**  Rung system with
each trial at most once per rung and strictly decreasing levels (true of the constructor's,
preserved by every operation).  Once trial `t` is recorded as promoted from the rung of level
`level`, then after ANY history of rung-system operations (inherited `on_task_schedule` /
`on_task_report` / `on_task_add` / `on_task_remove`, and DyHPO's `on_task_schedule` with
arbitrary coin and oracle answers) no `DyHPORungSystem.on_task_schedule` promotes `t` from
`level` again — neither by the SH rule nor for any answer of the searcher. -/
theorem promoted_once_dy (m : Mode) (s : RungSys) (ops : List DPOp) (hnd : AllNodup s.rungs) (hdec : RungsDecr s.rungs)
    (level t : Nat) (hp : PromotedAt s.rungs level t) (sh : Bool) (hint pick : Option Nat) (s' : RungSys)
    (o : SchedOut) (fr : Bool) (h : (runDP m s ops).dyhpoSchedule m sh hint pick = .ok (s', some o, fr))
    (ht : o.trial = t) : o.resumeFrom ≠ level := by
  obtain ⟨i1, i2, i3⟩ := history_invariant_dy m s ops
  subst ht
  exact (dyhpoSchedule_eff _ s' m sh hint pick (some o) fr h).not_again (i1 hnd) (.of_levels_eq i3 hdec) (i2 level _ hp)

/-- **The searcher accepts every call a DyHPO scheduler makes.**  From a state satisfying the
invariant, for an operation within the contract (`OpOKD`: the inherited contract; `suggestDy` needs
nothing), none of the emitted calls hits an assertion of the searcher's data bookkeeping. -/
theorem calls_accepted_dy (y : Sys) (h : CInv y) (op : DOp) (hok : OpOKD y op) :
    ∃ st', y.st.applyAll (opStepD y.sched op).2 = .ok st' :=
  (cinv_opStepD y h op hok).1

theorem cinv_step_dy (y : Sys) (h : CInv y) (op : DOp) (hok : OpOKD y op) : CInv (stepCD y op) :=
  (cinv_opStepD y h op hok).2

/-- **`CInv` holds after every history** of DyHPO scheduler operations within the contract,
whatever the coin and the searcher's scoring answered along the way. -/
theorem cinv_all_histories_dy (y0 : Sys) (h : CInv y0) (ops : List DOp) (hok : OpsOKD y0 ops) :
    CInv (runCD y0 ops) := by
  induction ops generalizing y0 with
  | nil => exact h
  | cons op ops ih => exact ih (stepCD y0 op) (cinv_step_dy y0 h op hok.1) hok.2

/-- **Only live pending entries (DyHPO).**  After every history within the contract, every
pending evaluation `(t, r)` the searcher holds belongs to a trial the scheduler currently
considers running (decision CONTINUE — not paused, stopped, completed, failed or removed), `r` is
above the last level the trial reported, not above the milestone it is running to, and has no
observation yet. -/
theorem pending_only_running_dy (y0 : Sys) (h0 : CInv y0) (ops : List DOp) (hok : OpsOKD y0 ops) (t r : Nat)
    (hp : (t, r) ∈ (runCD y0 ops).st.pending) :
    ∃ rec, alookup t (runCD y0 ops).sched.active = some rec ∧ rec.decision = .continue ∧
      lastRep rec < r ∧ r ≤ milestoneOf (runCD y0 ops).sched.mgr t (lastRep rec) ∧
      (runCD y0 ops).st.isLabeled t r = false :=
  (cinv_all_histories_dy y0 h0 ops hok).pending_running hp

/-- for `searcher_data = "rungs"` the only pending level of a running trial is its milestone;
and no pending entry occurs twice (DyHPO) -/
theorem pending_rungs_milestone_nodup_dy (y0 : Sys) (h0 : CInv y0) (ops : List DOp) (hok : OpsOKD y0 ops) :
    (runCD y0 ops).st.pending.Nodup ∧
    ((runCD y0 ops).sched.searcherData = .rungs → ∀ t r, (t, r) ∈ (runCD y0 ops).st.pending →
      ∀ rec, alookup t (runCD y0 ops).sched.active = some rec →
        r = milestoneOf (runCD y0 ops).sched.mgr t (lastRep rec)) := by
  have h := cinv_all_histories_dy y0 h0 ops hok
  exact ⟨h.pnd, fun hsd _ _ hp _ hrec => h.rungs_milestone hsd hp hrec⟩

/-- no pending evaluation for a trial which is not running: paused, stopped, completed, failed,
removed or unknown (DyHPO) -/
theorem no_pending_unless_running_dy (y0 : Sys) (h0 : CInv y0) (ops : List DOp) (hok : OpsOKD y0 ops) (t : Nat)
    (hnr : NotRunning (runCD y0 ops).sched t ∨ alookup t (runCD y0 ops).sched.active = none) :
    ∀ p ∈ (runCD y0 ops).st.pending, p.1 ≠ t :=
  (cinv_all_histories_dy y0 h0 ops hok).no_pending_unless_running hnr

/-- **Each observation once, equal to what was reported (DyHPO).**  After every history (no
contract needed) started without data: the data set holds at most one record per trial and one
value per level, and every stored value for trial `t` at level `r` is the criterion (`1 - x` for
mode max) of a metric value which some `on_trial_result` / `on_trial_complete` call of the
history reported for `t` at level `r`; `suggestDy` never writes an observation. -/
theorem observed_once_dy (y0 : Sys) (hemp : y0.st.observed = []) (ops : List DOp) :
    ObsWF (runCD y0 ops).st ∧
    ∀ t r c, obsAt (runCD y0 ops).st t r = some c →
      ∃ v, (t, r, v) ∈ ops.flatMap opReportsD ∧ c = y0.st.crit v :=
  (foldl_obsFrom stepCD opReportsD stepCD_obsFrom y0 (ObsWF_of_empty hemp) ops).of_empty hemp

/-- observations exist only for levels the trial has reported (DyHPO, within the contract) -/
theorem observed_only_reported_levels_dy (y0 : Sys) (h0 : CInv y0) (ops : List DOp) (hok : OpsOKD y0 ops) (t r : Nat)
    (hl : (runCD y0 ops).st.isLabeled t r = true) :
    ∃ rec, alookup t (runCD y0 ops).sched.active = some rec ∧ r ≤ lastRep rec :=
  (cinv_all_histories_dy y0 h0 ops hok).obs t r hl

/-- **No pending evaluation survives the end of a trial (DyHPO).**  In the state reached by any
history within the contract: after `on_trial_complete(t)` and after `on_trial_error(t)` no
pending entry of `t` remains; and after an `on_trial_result` (within the contract) whose answer
is STOP or PAUSE no pending entry of the reporting trial remains. -/
theorem no_pending_after_end_dy (y0 : Sys) (h0 : CInv y0) (ops : List DOp) (hok : OpsOKD y0 ops) :
    (∀ t r v, ∀ p ∈ (stepCD (runCD y0 ops) (.old (.complete t r v))).st.pending, p.1 ≠ t) ∧
    (∀ t, ∀ p ∈ (stepCD (runCD y0 ops) (.old (.error t))).st.pending, p.1 ≠ t) ∧
    (∀ t r v hint c e s' out, OpOKD (runCD y0 ops) (.old (.result t r v hint c e)) →
      (runCD y0 ops).sched.onResult t r v hint c e = .ok (s', out) → out.decision ≠ .continue →
      ∀ p ∈ (stepCD (runCD y0 ops) (.old (.result t r v hint c e))).st.pending, p.1 ≠ t) :=
  no_pending_after_end (runCD y0 ops) (cinv_all_histories_dy y0 h0 ops hok)

/-- DyHPO as recommended: linearly spaced rung levels 1, 2, 3, `max_t = 4`, one bracket,
`searcher_data = "all"` -/
def exDy : Sys :=
  { sched := { mgr := Manager.init .promotion .min 4 [1, 2, 3] 1 false, searcherData := .all }, st := { mode := .min } }

example : CInv exDy := init_CInv .promotion .min 4 [1, 2, 3] 1 false 0 .all false false false (by decide) (by decide) (by decide)
example : KInv exDy.sched := init_KInv .promotion rfl .min 4 [1, 2, 3] 1 false 0 .all false false false
example : MgrWF exDy.sched.mgr :=
  (init_CInv .promotion .min 4 [1, 2, 3] 1 false 0 .all false false false (by decide) (by decide) (by decide)).wf

/-- Trials 0 and 1 are started by DyHPO (`pick = none`) and pause at rung 1 (values 1/2, 1/4).
The searcher then picks trial 0 (`pick = some 0`) — NOT the one the SH rule would take — which
is resumed from 1 to 2 and pauses at rung 2.  The next `_suggest` tries the SH rule (`sh`),
which promotes trial 1 from rung 1 (the only unpromoted entry there; 1/4 is below the cutoff 3/8);
it reports level 2. -/
def histDy : List DOp :=
  [.suggestDy 0 0 false none none, .old (.result 0 1 (1/2) false 0 0), .old (.remove 0),
   .suggestDy 1 0 false none none, .old (.result 1 1 (1/4) false 0 0), .old (.remove 1),
   .suggestDy 2 0 false none (some 0), .old (.result 0 2 (1/3) false 0 0), .old (.remove 0),
   .suggestDy 2 0 true (some 1) none, .old (.result 1 2 (1/8) false 0 0)]

def sgOf (r : Except Err (Sched × Suggestion × List SCall × Bool)) : Option Suggestion :=
  match r with | .ok res => some res.2.1 | .error _ => none

/-- the history is within the contract; the 7th operation (`pick = some 0`) resumes the paused
trial 0 from level 1 to level 2 — the paused list handed to the searcher was
`[(1, 0, 2), (0, 1, 2)]` — and registers the pending evaluation `(0, 2)`; the 10th (SH rule)
resumes trial 1; a pick which is not paused (trial 5) is rejected; at the end nothing is pending
and every reported level is observed once. -/
example : OpsOKD exDy histDy ∧
    (runCD exDy (histDy.take 6)).sched.mgr.systems.map (·.pausedTrials) = [[(1, 0, 2), (0, 1, 2)]] ∧
    sgOf ((runCD exDy (histDy.take 6)).sched.suggestDy 2 0 false none (some 0)) = some (.resume 0 1 2) ∧
    (runCD exDy (histDy.take 7)).st.pending = [(0, 2)] ∧
    (runCD exDy (histDy.take 9)).sched.mgr.systems.map (·.pausedTrials) = [[(0, 0, 3), (1, 0, 2)]] ∧
    sgOf ((runCD exDy (histDy.take 9)).sched.suggestDy 2 0 true (some 1) none) = some (.resume 1 1 2) ∧
    sgOf ((runCD exDy (histDy.take 9)).sched.suggestDy 2 0 false none (some 5)) = none ∧
    (runCD exDy (histDy.take 10)).st.pending = [(1, 2)] ∧
    (runCD exDy histDy).st.pending = [] ∧
    (runCD exDy histDy).st.observed = [(0, [(1, 1/2), (2, 1/3)]), (1, [(1, 1/4), (2, 1/8)])] := by
  decide +kernel

end SyneTune.C14Dy
