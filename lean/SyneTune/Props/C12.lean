import SyneTune.Lemmas.TunerC12
import SyneTune.Lemmas.TunerWitnessData
/-
C12 — tuning terminates on the stopping criterion and leaves nothing running.
Property theorems only.  Model: `Model/Tuner.lean`, `Model/StoppingCriterion.lean`,
`Model/TuningStatus.lean`; helper lemmas: `Lemmas/TunerC12.lean`, `Lemmas/TunerStats.lean`, `Lemmas/TunerFlow.lean`.

`run (init c) as` is the state of `Tuner.run()` after the environment answers `as` (any poll
outcomes, decisions, suggestions, clock readings, and `raise` at ANY call, in the loop or in the
`finally` block).
-/
namespace SyneTune.C12
open SyneTune SyneTune.Tuner

/-- **The stopping condition** is `stop_criterion(status) or num_failed > max_failures`,
evaluated on the status as it is at the end of the iteration (criterion without a wall-clock
part; `exit_criterion_clock` is the variant that first reads the clock). -/
theorem exit_criterion (s : LState) (a : Ans) (hp : s.pc = .evalStop) (hw : s.cfg.crit.maxWallclock = none) :
    (step s a).pc = .loopHead ∧
    (step s a).stopReached =
      (s.cfg.crit.eval s.status 0 s.cfg.keyCost || decide (s.cfg.maxFailures < s.status.numFailed)) := by
  rw [step_eq_log, next_evalStop a hp hw]
  exact ⟨rfl, rfl⟩

/-- the same with a wall-clock part: the clock reading `t` enters the criterion -/
theorem exit_criterion_clock (s : LState) (t : Rat) (hp : s.pc = .clock) :
    (step s (.clock t)).pc = .loopHead ∧
    (step s (.clock t)).stopReached =
      (s.cfg.crit.eval s.status t s.cfg.keyCost || decide (s.cfg.maxFailures < s.status.numFailed)) := by
  rw [step_eq_log, next_clock t hp]
  exact ⟨rfl, rfl⟩

/-- **The `while` test**: after the stopping condition has been evaluated the loop goes on iff
the condition is false, or trials are still running and `wait_trial_completion_when_stopping`
is set; otherwise the `finally` block starts. -/
theorem exit_test (s : LState) (a : Ans) (hp : s.pc = .loopHead) :
    (step s a).pc = if (!s.stopReached || (s.cfg.wait && !s.running.isEmpty)) then .loopStart else .finTuningEnd := by
  rw [step_pc, next_loopHead a hp]

/-- **The `break`**: when the search space is exhausted, or the stopping condition holds and the
loop only waits for running trials, the loop is left as soon as no trial is running any more. -/
theorem exit_break (s : LState) (a : Ans) (hp : s.pc = .afterUpd) :
    (step s a).pc =
      if s.exhausted || (s.cfg.wait && s.stopReached) then
        (if !(s.running.filter (fun t => !hasKey t s.done)).isEmpty then .sleepWait else .finTuningEnd)
      else .schedNew := by
  rw [step_pc, next_afterUpd a hp]; rfl

/-- **The loop is left only there**: a step from inside the loop into the `finally` block is
the `while` test with the stopping condition true, the `break`, or an exception. -/
theorem exit_only (c : Cfg) (as : List Ans) (a : Ans) (hf : finPc (run (init c) as).pc = false)
    (hf' : finPc (step (run (init c) as) a).pc = true) :
    ((run (init c) as).pc = .loopHead ∧ (run (init c) as).stopReached = true) ∨
    ((run (init c) as).pc = .afterUpd ∧
      ((run (init c) as).exhausted = true ∨ ((run (init c) as).cfg.wait = true ∧ (run (init c) as).stopReached = true))) ∨
    (step (run (init c) as) a).err.isSome = true := by
  rw [step_eq_log] at hf' ⊢
  exact (next_trans _ a).into_fin hf hf'

/-- **No trial is started once the stopping condition holds.** Whenever the loop is inside
`_schedule_new_tasks` (about to ask the backend for busy workers, to ask the scheduler for a
suggestion, to start or to resume a trial), `stop_condition_reached` — the value of the
stopping condition at the end of the previous iteration — is false. -/
theorem no_start_after (c : Cfg) (as : List Ans) (h : startPc (run (init c) as).pc = true) :
    (run (init c) as).stopReached = false :=
  (JInv.reach (reach_any c as)).j2 h

/-- an iteration that begins with the stopping condition true only exists with
`wait_trial_completion_when_stopping` -/
theorem no_start_after_wait (c : Cfg) (as : List Ans) (h : iterPc (run (init c) as).pc = true)
    (hs : (run (init c) as).stopReached = true) : c.wait = true := by
  have := (JInv.reach (reach_any c as)).j1 h hs
  rwa [run_cfg] at this

/-- **Overshoot.** With `max_num_trials_started = m` the number of trials the loop has started
(recorded in the tuning status) never exceeds `m + n_workers` — at any point of any run
obeying contract B, in particular when `run()` returns. -/
theorem overshoot (c : Cfg) (m : Nat) (hm : c.crit.maxStarted = some m) (as : List Ans)
    (hB : Along BOk (init c) as) : (run (init c) as).status.numStarted ≤ m + c.nWorkers := by
  have := (OInv.reach hm (reach_run c hB)).o1
  rwa [run_cfg] at this

/-- while the stopping condition is false the budget itself is respected at the start of
an iteration -/
theorem overshoot_before (c : Cfg) (m : Nat) (hm : c.crit.maxStarted = some m) (as : List Ans)
    (hB : Along BOk (init c) as) (hs : (run (init c) as).stopReached = false)
    (hp : beforeSchedPc (run (init c) as).pc = true) : (run (init c) as).status.numStarted ≤ m :=
  (OInv.reach hm (reach_run c hB)).o2 hs hp

/-- **Nothing is left running.** When `run()` is over (`pc = done`) and no exception was raised
inside the `finally` block itself, every trial that `stop_all` saw (`_all_trial_results`) is
not in progress any more: its status was read as not-in-progress when its turn came, or
`stop_trial` was issued for it and returned.  This holds for EVERY way the loop was left — in
particular for an exception at any call of the loop (`Ans.raise` anywhere in `as`). -/
theorem nothing_running (c : Cfg) (as : List Ans) (hp : (run (init c) as).pc = .done)
    (he : (run (init c) as).err ≠ some .envFin) :
    ∀ t ∈ (run (init c) as).visible, alookup t (run (init c) as).bst ≠ some .inProgress :=
  (FInv.reach (reach_any c as)).at_done hp he

/-- an exception raised by any call inside the loop leads into the `finally` block (callbacks'
`on_tuning_end` first) -/
theorem exception_enters_finally (s : LState) (hc : (pending s) ≠ .tau) (hf : finPc s.pc = false) :
    (step s .raise).pc = .finTuningEnd := by
  rw [step_pc]
  rcases (next_trans s .raise).of_raise with h | h | h
  · exact absurd h hc
  · rw [h.2]; rfl
  · rw [h] at hf; cases hf

/-- **Results are stored before trials are stopped**: `stop_all` (its `_all_trial_results`) is
only ever called right after the callbacks' `on_tuning_end` has returned, and at that moment
the rows of the `StoreResultsCallback` are written. -/
theorem results_stored (s : LState) (a : Ans) (h : (step s a).pc = .finAll) :
    s.pc = .finTuningEnd ∧ (step s a).stored = if s.cfg.store then some s.rows else none := by
  have hp : s.pc = .finTuningEnd :=
    flow_rel (R := fun p q => q = .finAll → p = .finTuningEnd) (by decide +kernel) (step_flow s a) h
  refine ⟨hp, ?_⟩
  rw [step_eq_log, next_finTuningEnd a hp] at h ⊢
  cases a with
  | ret => rfl
  | _ => cases h

/-- **Counters.** After `mark_running_job_as_stopped` no trial counts as running, the number of
started trials is unchanged, and the counters partition the started trials:
started = completed + failed + stopped + stopping + paused. -/
theorem counters (ts : TStatus) :
    ts.markStopped.numRunning = 0 ∧
    ts.markStopped.numStarted = ts.numStarted ∧
    ts.markStopped.numStarted =
      ts.markStopped.numCompleted + ts.markStopped.numFailed + ts.markStopped.numIn (· == .stopped)
      + ts.markStopped.numIn (· == .stopping) + ts.markStopped.numIn (· == .paused) :=
  ⟨numRunning_markStopped ts, numStarted_markStopped ts, by rw [numStarted_partition, numRunning_markStopped]; rfl⟩

/-- overshoot: `max_num_trials_started = 1`, two workers, `start_jobs_without_delay=True`: the
first iteration starts two trials (1 + n_workers would allow three), then the criterion is true
and the loop is left through the `while` test -/
example :
    let c : Cfg := { nWorkers := 2, maxFailures := 1, crit := { maxStarted := some 1 } }
    (run (init c) (Witness.pbtPrefix.take 22)).status.numStarted = 2 ∧
    (run (init c) (Witness.pbtPrefix.take 22)).pc = .evalStop ∧
    (run (init c) (Witness.pbtPrefix.take 22 ++ [Witness.τ])).stopReached = true ∧
    (run (init c) (Witness.pbtPrefix.take 22 ++ [Witness.τ, Witness.τ])).pc = .finTuningEnd := by
  decide +kernel

/-- nothing running: in the F15 run trial 2 is still in progress when the loop ends; `stop_all`
sees it and stops it -/
example :
    (run (init Witness.f15Cfg) (Witness.f15Prefix ++ Witness.f15Rest)).visible = [0, 1, 2] ∧
    alookup 2 (run (init Witness.f15Cfg) (Witness.f15Prefix ++ Witness.f15Rest.take 34)).bst = some .inProgress ∧
    alookup 2 (run (init Witness.f15Cfg) (Witness.f15Prefix ++ Witness.f15Rest)).bst = some .stopped := by
  decide +kernel

/-- results stored: the two rows of the F15 run are written when `on_tuning_end` returns, before
`stop_all` asks for the trials -/
example :
    (run (init Witness.f15Cfg) (Witness.f15Prefix ++ Witness.f15Rest.take 28)).pc = .finAll ∧
    ((run (init Witness.f15Cfg) (Witness.f15Prefix ++ Witness.f15Rest.take 28)).stored.map List.length) = some 2 := by
  decide +kernel

/-- counters of the F15 run when `run()` returns: 3 started = 2 completed + 1 stopped, none running -/
example :
    (run (init Witness.f15Cfg) (Witness.f15Prefix ++ Witness.f15Rest)).status.last
      = [(0, .completed), (1, .completed), (2, .stopped)] ∧
    (run (init Witness.f15Cfg) (Witness.f15Prefix ++ Witness.f15Rest)).status.numStarted = 3 ∧
    (run (init Witness.f15Cfg) (Witness.f15Prefix ++ Witness.f15Rest)).status.numCompleted = 2 ∧
    (run (init Witness.f15Cfg) (Witness.f15Prefix ++ Witness.f15Rest)).status.numRunning = 0 := by
  decide +kernel

/-- an exception at a call inside the loop (here: `on_trial_result` of the scheduler raises) -/
example : (run (init Witness.f15Cfg) (Witness.f15Prefix.take 29 ++ [.raise])).pc = .finTuningEnd ∧
    (run (init Witness.f15Cfg) (Witness.f15Prefix.take 29 ++ [.raise])).err = some .env := by
  decide +kernel

end SyneTune.C12
