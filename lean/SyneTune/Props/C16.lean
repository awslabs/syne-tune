import Batteries.Lean.Except  -- `DecidableEq (Except ε α)`: the `decide`s below compare `Except` values
import SyneTune.Lemmas.RandomRestrictClone
import SyneTune.Lemmas.SearcherGrid
/-
C16 — a saved and restored searcher continues exactly like the original
(`get_state` / `clone_from_state` half; the `dill` half is decided by twin continuation
traces in `harness/props/c16.py`, translation-validation style).
Property theorems and examples of their hypotheses; helper lemmas are in
`Lemmas/{SearcherGrid,SearcherRuns}.lean` and, for the random searcher,
`Lemmas/RandomRestrict{Run,Clone}.lean`.
Models: `Model/{RandomSearcher,Grid,Searcher}.lean`.

The random generator is an input tape shared by the original and the clone: the state
holds the position `rng` on it, so "the generator state is restored" means the clone reads
the tape from the same position.  The iteration order of the set of match strings in the
snapshot (`list(self.excl_set)`) is an arbitrary permutation `order`.
-/
namespace SyneTune.C16
open SyneTune SyneTune.Srch

/-- **Random searcher.**  Take the snapshot at ANY point of ANY history (`pre`), listing
the exclusion set in ANY order, and re-create the searcher from it
(`RandomSearcher.clone_from_state`, after the fixes dc67087 / 4e9ab8a).  The clone exists
and, for EVERY continuation `ops` (suggest / pending / failed / result events, any draws),
returns exactly the outputs — or raises exactly the error — of the searcher that was never
interrupted. -/
theorem random (imm : RImm) (tape : Nat → Config) (init : List Config) (pre : List ROp)
    (s : RState) (outs0 : List (Option Config))
    (hpre : RState.run imm tape (RState.init init) pre = .ok (s, outs0))
    (keys order : List String) (hord : order.Perm s.excl) (ops : List ROp) :
    ∃ t, RState.clone imm (s.getState imm keys order) = .ok t ∧ RState.Equiv imm s t ∧
      (RState.run imm tape t ops).map Prod.snd = (RState.run imm tape s ops).map Prod.snd := by
  have hn : s.excl.Nodup := xrun_excl_nodup (xrun_of_run hpre id) rfl List.nodup_nil
  obtain ⟨t, hc, he⟩ := clone_equiv imm s keys hn hord
  exact ⟨t, hc, he, (RState.run_equiv he ops).map_snd⟩

/-- equivalent states (equal up to the representation of the exclusion set) are
indistinguishable by any continuation: a bisimulation -/
theorem random_bisimulation (imm : RImm) (tape : Nat → Config) (s t : RState)
    (he : RState.Equiv imm s t) (ops : List ROp) :
    RelE imm (RState.run imm tape s ops) (RState.run imm tape t ops) :=
  (RState.run_equiv he ops).elim (fun _ => rfl) fun _ _ h => ⟨h.2, h.1⟩

/-- **Grid searcher** (code after the fix 167bb09: the grid order is part of the state).
Snapshot at any point of any history, any listing order of the set of initial
configurations; the clone is built on ANY freshly constructed searcher `fresh` — whatever
grid order that object shuffled for itself.  For every continuation the clone's outputs
(and errors) are those of the original: no configuration is suggested twice or skipped
because of the restore (with `C06.grid_once`). -/
theorem grid (imm : GImm) (s0 : GState) (hs0 : s0.allInit.Nodup) (pre : List GOp) (s : GState)
    (outs0 : List (Option Config)) (hpre : GState.run imm s0 pre = .ok (s, outs0))
    (fresh : GState) (keys order : List String) (hord : order.Perm s.allInit) (ops : List GOp) :
    GState.Equiv s (GState.clone fresh (s.getState keys order)) ∧
    (GState.run imm (GState.clone fresh (s.getState keys order)) ops).map Prod.snd =
      (GState.run imm s ops).map Prod.snd := by
  have he := GState.clone_equiv s fresh keys (GState.run_nodup hs0 hpre) hord
  exact ⟨he, (GState.run_equiv imm he ops).map_snd⟩

def exMk : MK := fun c => match cget "x" c with
  | some (.int 0) => .ok "0"
  | some (.int 1) => .ok "1"
  | some (.int 2) => .ok "2"
  | _ => .error (.keyError "x")

def f3Imm : GImm := { mkf := exMk, hpKeys := ["x"], allowDup := false }
/-- the original has traversed one point of its grid 2,0,1 -/
def f3Orig : GState := { p2e := [], next := 1, allInit := [], combos := [[.int 2], [.int 0], [.int 1]], rng := 1 }
/-- the fresh object built the default-seed order 0,1,2 -/
def f3Fresh : GState := { p2e := [], next := 0, allInit := [], combos := [[.int 0], [.int 1], [.int 2]], rng := 1 }

/-- **The behaviour before the fix (F3)** on the model: a clone that keeps the grid its own
constructor shuffled continues differently — here it repeats `x = 2` and skips `x = 0` —
while the fixed clone continues like the original.  The twin monitor of `c16.py` reports
the former as `c16:grid-clone-reshuffled`. -/
theorem grid_reshuffled_counterexample :
    (GState.run f3Imm f3Orig [.get, .get]).map Prod.snd = .ok [some [("x", .int 0)], some [("x", .int 1)]] ∧
    (GState.run f3Imm (GState.cloneOld f3Fresh (f3Orig.getState ["x"] [])) [.get, .get]).map Prod.snd =
      .ok [some [("x", .int 1)], some [("x", .int 2)]] ∧
    (GState.run f3Imm (GState.clone f3Fresh (f3Orig.getState ["x"] [])) [.get, .get]).map Prod.snd =
      .ok [some [("x", .int 0)], some [("x", .int 1)]] := by
  refine ⟨by decide +kernel, by decide +kernel⟩

/-- **State codec of the GP searchers** (`encode_state` / `decode_state` of the
bookkeeping state: configurations per trial, observations incl. multi-fidelity metric
dictionaries, failed trials, pending evaluations with and without resource): decoding the
encoded state gives back the state, for every state satisfying the constructor's invariant
that all trial ids are registered. -/
theorem state_codec (st : TJState) (h : st.idsRegistered = true) :
    decodeState (encodeState st) = .ok st :=
  (decodeState_encodeState st).trans (if_pos h)

def exImm : RImm := { mkf := exMk, allowDup := true, maxRetries := 100, size := some 3, debugLog := false }

def exTape : Nat → Config := fun i => [("x", .int ((i % 3 : Nat) : Int))]

/-- a history after which the exclusion set, the trial→configuration map and the generator
position are all non-trivial (hypothesis `hpre` of `random`); the snapshot may list the set
as `["0", "2"]` -/
example :
    RState.run exImm exTape (RState.init [[("x", .int 2)]])
        [.get, .pending 0 (some [("x", .int 2)]), .get, .pending 1 (some [("x", .int 0)]), .failed 1, .failed 0] =
      .ok ({ p2e := [], excl := ["2", "0"], cfgFor := [(0, [("x", .int 2)]), (1, [("x", .int 0)])], rng := 1 },
           [some [("x", .int 2)], some [("x", .int 0)]]) := by
  decide +kernel

example : (["0", "2"] : List String).Perm ["2", "0"] := List.Perm.swap "2" "0" []

example :
    let st : TJState :=
      { configFor := [("0", [("x", .rat (1/2))]), ("1", [("x", .rat (1/4))]), ("2", [("x", .nzero)])],
        evals := [{ tid := "0", metrics := [("target", .byRes [("1", 3/4), ("3", 1/2)])] }],
        failed := ["2"], pending := [{ tid := "1", resource := some 3 }, { tid := "0", resource := none }] }
    st.idsRegistered = true ∧ decodeState (encodeState st) = .ok st := by
  refine ⟨by decide +kernel, state_codec _ (by decide +kernel)⟩

end SyneTune.C16
