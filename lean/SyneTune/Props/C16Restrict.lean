import SyneTune.Lemmas.RandomRestrictClone
/-
C16 for the random searcher WITH `restrict_configurations` — a saved and restored searcher
continues exactly like the original (`get_state` / `clone_from_state`), including the
states in which the remaining list is empty.
Property theorems and examples of their hypotheses; helper lemmas are in
`Lemmas/RandomRestrict{,Run,Clone}.lean`.
Model: `Model/RandomRestrict.lean`.

As in `C16`: the generator is an input tape shared by the original and the clone, the state
holds the position on it; the order in which the snapshot lists the set of match strings is
an arbitrary permutation `order`.  The snapshot is taken between two calls (any point of
any history); the clone is built by `clone_from_state` on ANY searcher object (the fresh
`RandomSearcher` it creates has no list and takes every mutable field from the snapshot).
-/
namespace SyneTune.C16R
open SyneTune SyneTune.Srch

/-- **Random searcher with `restrict_configurations`.**  Take the snapshot at ANY point of
ANY history (`pre`) from the constructor, listing the exclusion set in ANY order, and
re-create the searcher from it (code after the fixes dc67087 / 4e9ab8a).  The clone exists,
holds the same remaining list as the original — an emptied list stays the empty list — and,
for EVERY continuation `ops` and all draws, returns exactly the outputs — or raises exactly
the error — of the searcher that was never interrupted. -/
theorem random_restricted (imm : RImm) (dc : Nat → Config) (di : Nat → Nat) (init l : List Config)
    (w : World) (hc : construct imm init (some l) = .ok w) (pre : List ROp) (s : XState)
    (outs0 : List (Option Config)) (hpre : XState.run imm dc di w.s pre = .ok (s, outs0))
    (keys order : List String) (hord : order.Perm s.base.excl) (ops : List ROp) :
    ∃ t, XState.clone imm (s.getState imm keys order) = .ok t ∧ XState.Equiv imm s t ∧ t.rc = s.rc ∧
      (XState.run imm dc di t ops).map Prod.snd = (XState.run imm dc di s ops).map Prod.snd := by
  obtain ⟨mss, rc, -, rfl, -⟩ := construct_spec hc
  have hn : s.base.excl.Nodup := xrun_excl_nodup hpre rfl List.nodup_nil
  obtain ⟨t, hcl, he⟩ := xclone_equiv imm s keys hn hord (xrun_list hpre rfl rfl).1
  exact ⟨t, hcl, he, he.rc.symm, (xrun_equiv he ops).map_snd⟩

/-- equivalent states (equal up to the representation of the exclusion set; same list, same
marked positions) are indistinguishable by any continuation: a bisimulation — with or
without a list -/
theorem restricted_bisimulation (imm : RImm) (dc : Nat → Config) (di : Nat → Nat) (s t : XState)
    (he : XState.Equiv imm s t) (ops : List ROp) :
    RelX imm (XState.run imm dc di s ops) (XState.run imm dc di t ops) :=
  (xrun_equiv he ops).relX

/-- **`get_state` / `clone_from_state` keep `None`, `[]` and a longer list apart.**  The
snapshot carries the list exactly as it is (the key is present iff the list is not `None`),
and whatever snapshot is restored, the restored searcher holds the snapshot's list and an
empty `_rc_returned_pos`.  In particular an emptied list round-trips as the empty list. -/
theorem empty_list_roundtrip (imm : RImm) (s : XState) (keys order : List String) :
    (s.getState imm keys order).rc = s.rc ∧
    (∀ (snap : XSnap) (t : XState), XState.clone imm snap = .ok t → t.rc = snap.rc ∧ t.pos = []) ∧
    (s.rc = some [] → ∀ t, XState.clone imm (s.getState imm keys order) = .ok t → t.rc = some []) := by
  exact ⟨rfl, fun _ _ => XState.clone_rc, fun hs t ht => (XState.clone_rc ht).1.trans hs⟩

/-- **A used-up searcher stays used up.**  With the list emptied (`[]`, not `None`) and no
initial configuration left, every later `get_config` answers `None`, whatever else happens
— for the original and, by `random_restricted`, for every clone. -/
theorem used_up_answers_none (imm : RImm) (dc : Nat → Config) (di : Nat → Nat) (s s' : XState)
    (ops : List ROp) (outs : List (Option Config)) (h : XState.run imm dc di s ops = .ok (s', outs))
    (hrc : s.rc = some []) (hpos : s.pos = []) (hp : s.base.p2e = []) :
    (∀ o ∈ outs, o = none) ∧ s'.rc = some [] := by
  obtain ⟨-, l', hl', hsub, -⟩ := xrun_list h hpos hrc
  refine ⟨fun o ho => ?_, List.sublist_nil.1 hsub ▸ hl'⟩
  cases o with
  | none => rfl
  | some c =>
    -- an answer is an initial configuration or an entry of the list, and there is neither
    rcases (xrun_served h hpos).mem ho with hc | ⟨hc, -⟩
    · rw [hp] at hc; cases hc
    · rw [XState.Origin, hrc] at hc; cases hc

def exMk : MK := fun c => match cget "x" c with
  | some (.int 0) => .ok "0"
  | some (.int 1) => .ok "1"
  | some (.int 2) => .ok "2"
  | _ => .error (.keyError "x")

def cfg (i : Int) : Config := [("x", .int i)]

def exImm : RImm := { mkf := exMk, allowDup := false, maxRetries := 100, size := some 3, debugLog := false }

/-- the searcher restricted to `[x=1]` after its only configuration has been suggested -/
def usedUp : XState :=
  { base := { p2e := [], excl := ["1"], cfgFor := [], rng := 1 }, rc := some [], pos := [] }

/-- **A snapshot that maps `[]` to "no restriction" (seed C16-b1)** on the model: the state
`usedUp` is reached from the constructor by one `get_config`; the original answers `None`
from then on; a clone restored from a snapshot that drops the emptied list
(`getStateTruthy`: `if self._restrict_configurations:`) has no list and suggests `x=0`,
which the caller never allowed; the clone of the real snapshot answers `None`.  The twin
monitor of `c16.py` reports the former as `c16:random-clone-diverges`, the correspondence
stream as a disagreement on `rc_kind`. -/
theorem empty_list_dropped_counterexample :
    ((construct exImm [] (some [cfg 1])).toOption.bind fun w =>
        (XState.run exImm (fun _ => cfg 0) (fun _ => 0) w.s [.get]).toOption) = some (usedUp, [some (cfg 1)]) ∧
    (XState.run exImm (fun _ => cfg 0) (fun _ => 0) usedUp [.get, .get]).toOption.map Prod.snd = some [none, none] ∧
    ((XState.clone exImm (usedUp.getStateTruthy exImm ["x"] ["1"])).toOption.map fun t => t.rc) = some none ∧
    ((XState.clone exImm (usedUp.getStateTruthy exImm ["x"] ["1"])).toOption.bind fun t =>
        ((XState.run exImm (fun _ => cfg 0) (fun _ => 0) t [.get, .get]).toOption.map Prod.snd)) =
      some [some (cfg 0), none] ∧
    ((XState.clone exImm (usedUp.getState exImm ["x"] ["1"])).toOption.bind fun t =>
        ((XState.run exImm (fun _ => cfg 0) (fun _ => 0) t [.get, .get]).toOption.map Prod.snd)) =
      some [none, none] := by
  refine ⟨by decide +kernel, by decide +kernel, by decide +kernel⟩

/-- **Failed trials never shorten the list.**  `register_pending`, `evaluation_failed` and
result updates leave `_restrict_configurations` and `_rc_returned_pos` untouched — with
`allow_duplicates = True` the configuration of a failed trial enters the exclusion set but
stays in the list (it is skipped by the retry loop).  So the list in a snapshot is the
constructor's list minus what `get_config` popped, whatever failed in between; and
`random_restricted` holds for `allow_duplicates = True` with failed trials before and after
the snapshot (`imm` and the histories are arbitrary there). -/
theorem failures_keep_list (imm : RImm) (dc : Nat → Config) (di : Nat → Nat) (s s' : XState) (op : ROp)
    (o : Option (Option Config)) (hop : op ≠ .get) (h : XState.step imm dc di s op = .ok (s', o)) :
    s'.rc = s.rc ∧ s'.pos = s.pos ∧ o = none := by
  obtain ⟨rfl, ex, cf, rng, rfl, -⟩ := XState.step_other hop h
  exact ⟨rfl, rfl, rfl⟩

def exImmDup : RImm := { exImm with allowDup := true }

/-- `allow_duplicates = True`, list `[x=0, x=1, x=2]`, the trial that was given `x=0` has failed -/
def afterFailure : XState :=
  { base := { p2e := [], excl := ["0"], cfgFor := [(0, cfg 0)], rng := 1 }, rc := some [cfg 0, cfg 1, cfg 2], pos := [] }

/-- **A restore that filters the list by the exclusion set** ("cannot be suggested anymore";
seeded change) on the model: `afterFailure` is reached from the constructor by suggest /
pending / failed; the next draw is position 1: the original (whose list still holds the
failed `x=0`) suggests `x=1`, and so does the real clone; the filtering clone holds
`[x=1, x=2]` and suggests `x=2`.  The correspondence stream reports this as a disagreement
on the restored list, the twin monitor as `c16:random-clone-diverges`. -/
theorem filtered_restore_counterexample :
    ((construct exImmDup [] (some [cfg 0, cfg 1, cfg 2])).toOption.bind fun w =>
        (XState.run exImmDup (fun _ => []) (fun i => if i = 0 then 0 else 1) w.s
          [.get, .pending 0 (some (cfg 0)), .failed 0]).toOption.map Prod.fst) = some afterFailure ∧
    (XState.run exImmDup (fun _ => []) (fun i => if i = 0 then 0 else 1) afterFailure [.get]).toOption.map Prod.snd =
      some [some (cfg 1)] ∧
    ((XState.clone exImmDup (afterFailure.getState exImmDup ["x"] ["0"])).toOption.bind fun t =>
        ((XState.run exImmDup (fun _ => []) (fun i => if i = 0 then 0 else 1) t [.get]).toOption.map Prod.snd)) =
      some [some (cfg 1)] ∧
    ((XState.cloneFiltered exImmDup (afterFailure.getState exImmDup ["x"] ["0"])).toOption.map fun t => t.rc) =
      some (some [cfg 1, cfg 2]) ∧
    ((XState.cloneFiltered exImmDup (afterFailure.getState exImmDup ["x"] ["0"])).toOption.bind fun t =>
        ((XState.run exImmDup (fun _ => []) (fun i => if i = 0 then 0 else 1) t [.get]).toOption.map Prod.snd)) =
      some [some (cfg 2)] := by
  refine ⟨by decide +kernel, by decide +kernel, by decide +kernel⟩

/-- a history with initial configuration, pending and failed trials after which list,
exclusion set, trial map and generator position are all non-trivial (hypothesis `hpre` of
`random_restricted`, `allow_duplicates = True`); the snapshot may list the set as `["0"]` -/
def exPre : Option (XState × List (Option Config)) :=
  (construct exImmDup [cfg 1, cfg 2] (some [cfg 0, cfg 1])).toOption.bind fun w =>
    (XState.run exImmDup (fun _ => []) (fun _ => 0) w.s
      [.get, .pending 0 (some (cfg 1)), .get, .pending 1 (some (cfg 0)), .failed 1]).toOption

example :
    exPre.map (fun r => r.1.base) =
      some { p2e := [], excl := ["0"], cfgFor := [(0, cfg 1), (1, cfg 0)], rng := 1 } ∧
    exPre.map (fun r => (r.1.rc, r.1.pos)) = some (some [cfg 0, cfg 1], []) ∧
    exPre.map (fun r => r.2) = some [some (cfg 1), some (cfg 0)] := by
  refine ⟨by decide +kernel, by decide +kernel, by decide +kernel⟩

/-- `allow_duplicates = False`: a snapshot in the middle (list `[x=2]` left), and one with
the list used up; clone and original continue alike (instances of `random_restricted`) -/
def exMid : XState :=
  { base := { p2e := [], excl := ["1", "0"], cfgFor := [], rng := 1 }, rc := some [cfg 2], pos := [] }

example :
    ((construct exImm [cfg 0] (some [cfg 0, cfg 1, cfg 2])).toOption.bind fun w =>
        (XState.run exImm (fun _ => []) (fun _ => 0) w.s [.get, .get]).toOption.map Prod.fst) = some exMid ∧
    ((XState.clone exImm (exMid.getState exImm ["x"] ["0", "1"])).toOption.bind fun t =>
        ((XState.run exImm (fun _ => []) (fun _ => 0) t [.get, .get]).toOption.map Prod.snd)) =
      some [some (cfg 2), none] ∧
    (XState.run exImm (fun _ => []) (fun _ => 0) exMid [.get, .get]).toOption.map Prod.snd =
      some [some (cfg 2), none] := by
  decide +kernel

example : (["0", "1"] : List String).Perm ["1", "0"] := List.Perm.swap "1" "0" []

end SyneTune.C16R
