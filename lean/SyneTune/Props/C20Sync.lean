import SyneTune.Lemmas.SyncRun
import SyneTune.Lemmas.SyncLineage
/-
C20 (synchronous Hyperband part) — a trial reported by
`trials_checkpoints_can_be_removed` (a non-promoted trial of a completed rung) is never
resumed afterwards, so deleting its checkpoint is safe.  `Reachable` (`Lemmas/SyncRun.lean`) as in
`Props/C05.lean`.

`NotPromoted g t` (Lemmas/SyncRun.lean): some bracket has a completed rung `k` holding
`t` whose successor rung `k+1` exists and does not hold `t`.  Completed rungs are kept
for ever, so this is a property of the state, not of the history.
-/
namespace SyneTune.C20Sync
open SyneTune SyneTune.Sync

/-- **What is reported is not promoted.**  In every reachable state each trial id on the
list `_trials_checkpoints_can_be_removed` is a non-promoted trial of a completed rung. -/
theorem removable_not_promoted (mode : Mode) (systems : List (List (Nat × Nat))) (s : Sched)
    (h : Reachable mode systems s) (t : Nat) (ht : some t ∈ s.removable) : NotPromoted s.mgr t :=
  h.removable t ht

/-- **Non-promoted stays non-promoted** over every continuation of the history (also after
the list has been fetched and cleared). -/
theorem not_promoted_stable {s : Sched} (hI : Inv s) (t : Nat) (ht : NotPromoted s.mgr t) (ops : List Op)
    (hl : LegalRun s ops) : NotPromoted (s.run ops).mgr t :=
  (run_inv hI ops hl).2.np t ht

/-- **A non-promoted trial is not resumed.**  Trial ids are global: `t` occurs in one
bracket only, there only in rungs up to the completed rung `k` it was dropped from, and
`suggest` resumes only trials sitting in the current rung of a bracket. -/
theorem not_promoted_never_resumed {s : Sched} (hI : Inv s) (t : Nat) (ht : NotPromoted s.mgr t) (tid : Nat) (c : Bool)
    (hfresh : tid ∉ s.configs) (s' : Sched) (lvl : Nat) (cl : Option Nat) (calls : List SCall) :
    s.suggest tid c ≠ .ok (s', .resume t lvl cl, calls) := by
  intro hs
  obtain ⟨id, spec, br0, rg, p, x, hr⟩ := resume_spec hI hfresh hs
  -- the bracket in which `t` was not promoted is the same bracket
  obtain ⟨j, b, k, prev, next, hbj, hprev, hnext, htprev, htnext⟩ := ht
  obtain rfl : j = id := hI.disjoint j id b br0 t hbj hr.hbr ⟨prev, List.mem_of_getElem? hprev, htprev⟩
    ⟨rg, List.mem_of_getElem? hr.hrg, hr.mem_ids⟩
  obtain rfl := Option.mem_unique hr.hbr hbj
  obtain ⟨rgi, hrgi, hti⟩ := ids_down hr.wf t k prev hprev htprev _ rg hr.hrg hr.mem_ids (k + 1) (Nat.le_succ k)
    (hr.wf.le_cur hnext)
  exact htnext (Option.mem_unique hrgi hnext ▸ hti)

/-- **A checkpoint reported as removable is never needed again.**  Once a trial id has
appeared in the list handed out by `trials_checkpoints_can_be_removed` (state `s`), no
`suggest` after any continuation `ops` of the history resumes this trial. -/
theorem resume_has_ckpt_sync (mode : Mode) (systems : List (List (Nat × Nat))) (s : Sched)
    (h : Reachable mode systems s) (t : Nat) (ht : some t ∈ s.removable)
    (ops : List Op) (hl : LegalRun s ops) (tid : Nat) (c : Bool) (hfresh : tid ∉ (s.run ops).configs)
    (s' : Sched) (lvl : Nat) (cl : Option Nat) (calls : List SCall) :
    (s.run ops).suggest tid c ≠ .ok (s', .resume t lvl cl, calls) :=
  not_promoted_never_resumed (reachable_run h ops hl).inv t
    (not_promoted_stable h.inv t (removable_not_promoted mode systems s h t ht) ops hl)
    tid c hfresh s' lvl cl calls

/-- rung system `[(2,1),(1,2)]`: trial 0 (metric 1/2) loses against trial 1 (metric 1/4) and
is reported as removable -/
example :
    ∃ s0, Sched.init .min [[(2, 1), (1, 2)]] false false = .ok s0 ∧
      (s0.run [.suggest 0 true, .suggest 1 true, .result 0 1 (.val (1/2)), .result 1 1 (.val (1/4))]).removable
        = [some 0] :=
  ⟨_, rfl, by decide +kernel⟩

end SyneTune.C20Sync
