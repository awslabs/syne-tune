import SyneTune.Lemmas.HBContractK
/-
Scheduler contract K for promotion-type asynchronous Hyperband (ASHA, PASHA, cost-aware, RUSH), used by the
loop theorems of C01 (`resume_only_paused`) and by C20: over EVERY history of scheduler
operations, a `resume(t)` is only issued for a trial the scheduler itself has recorded as
not running (its last decision was PAUSE or STOP and it has not been resumed since), and
`_promote_trial`'s assertions are unreachable.
-/
namespace SyneTune.C04K
open SyneTune

/-- the public operations of `HyperbandScheduler` -/
inductive SOp
  | suggest (newTid bracket : Nat) (hint : Option Nat)
  | result (tid r : Nat) (v : Rat) (hint : Bool) (cost eps : Rat)
  | remove (tid : Nat)
  | error (tid : Nat)
  | complete (tid r : Nat) (v : Rat)

/-- state after an operation; an operation the model rejects leaves the state unchanged -/
def stepS (s : Sched) : SOp → Sched
  | .suggest n b h => match s.suggest n b h with | .ok res => res.1 | .error _ => s
  | .result t r v h c e => match s.onResult t r v h c e with | .ok res => res.1 | .error _ => s
  | .remove t => s.onRemove t
  | .error t => (s.onError t).1
  | .complete t r v => match s.onComplete t r v with | .ok res => res.1 | .error _ => s

def runS (s : Sched) (ops : List SOp) : Sched := ops.foldl stepS s

theorem stepS_cases {P : Sched → Prop} (s : Sched) (op : SOp) (same : P s)
    (suggest : ∀ {n b hint s' sg calls fr}, s.suggest n b hint = .ok (s', sg, calls, fr) → P s')
    (result : ∀ {t r v hint c e s' out}, s.onResult t r v hint c e = .ok (s', out) → P s')
    (cleanup : ∀ t d, d ≠ .continue → P (s.cleanup t d)) : P (stepS s op) := by
  cases op with
  | suggest n b hint =>
    simp only [stepS]
    cases hs : s.suggest n b hint with
    | error e => exact same
    | ok res => exact suggest hs
  | result t r v hint c e =>
    simp only [stepS]
    cases hs : s.onResult t r v hint c e with
    | error e => exact same
    | ok res => exact result hs
  | remove t => exact cleanup t .pause nofun
  | error t => exact cleanup t .stop nofun
  | complete t r v =>
    simp only [stepS]
    cases hs : s.onComplete t r v with
    | error e => exact same
    | ok res => show P res.1; rw [Sched.onComplete_ok hs]; exact cleanup t .stop nofun

theorem step_KInv (s : Sched) (op : SOp) (h : KInv s) : KInv (stepS s op) :=
  stepS_cases s op h (fun hs => (suggest_KInv h hs).1) (onResult_KInv h)
    fun t d hd => cleanup_KInv s t d hd h

theorem stepS_const (s : Sched) (op : SOp) : (stepS s op).mgr.const = s.mgr.const :=
  stepS_cases (P := fun s' => s'.mgr.const = s.mgr.const) s op rfl Sched.suggest_const Sched.onResult_const
    fun t _ _ => s.mgr.taskRemove_const t

theorem runS_inv {P : Sched → Prop} (hstep : ∀ s op, P s → P (stepS s op)) (s : Sched) (h : P s) (ops : List SOp) :
    P (runS s ops) := by
  induction ops generalizing s with
  | nil => exact h
  | cons op ops ih => exact ih (stepS s op) (hstep s op h)

/-- **`KInv` holds after every history.** -/
theorem kinv_all_histories (s : Sched) (h : KInv s) (ops : List SOp) : KInv (runS s ops) :=
  runS_inv step_KInv s h ops

/-- **Contract K.**  After any history of operations starting from a state satisfying the
invariant (e.g. the constructor's), if `_suggest` answers `resume(t, from, to)` then the
scheduler has `t` recorded with a decision other than CONTINUE — it was paused (or stopped)
by this scheduler and has not been resumed since; and it never answers `start` with an id
it already knows. -/
theorem resume_only_not_running (s : Sched) (h : KInv s) (ops : List SOp) (newTid bracket : Nat)
    (hint : Option Nat) (s' : Sched) (sg : Suggestion) (calls : List SCall) (fr : Bool)
    (hs : (runS s ops).suggest newTid bracket hint = .ok (s', sg, calls, fr)) :
    (∀ t f m, sg = .resume t f m → NotRunning (runS s ops) t) ∧
    (∀ t b m, sg = .start t b m → alookup t (runS s ops).active = none) := by
  have hk := kinv_all_histories s h ops
  obtain ⟨_, h2, h3⟩ := suggest_KInv hk hs
  exact ⟨h2, h3⟩

/-- the freshly constructed scheduler satisfies the invariant -/
theorem init_KInv (ty : HBType) (hty : ty.pauseResume = true) (mode : Mode) (maxT : Nat) (levels : List Nat)
    (brackets : Nat) (perBracket : Bool) (numThr : Nat) (sd : SearcherData) (my mra hc : Bool) :
    KInv { mgr := Manager.init ty mode maxT levels brackets perBracket numThr, searcherData := sd, hasCost := hc,
           pendingMyopic := my, maxResourceAttr := mra } := by
  have hsys : ∀ sys ∈ (Manager.init ty mode maxT levels brackets perBracket numThr).systems,
      unpromotedOf sys.rungs = [] ∧ sys.running = [] := by
    intro sys hsys
    obtain ⟨k, rfl⟩ := Manager.init_sys hsys
    obtain ⟨h1, _, h3⟩ := mkSys_fields ty numThr (levels.drop k) ((promoteQuantiles levels maxT).drop k) maxT
    refine ⟨List.flatMap_eq_nil_iff.mpr fun rg hrg => ?_, h3⟩
    rw [Rung.unpromoted, (mem_mkRungSys (h1 ▸ hrg)).1]; rfl
  have hnone : unpromotedSys (Manager.init ty mode maxT levels brackets perBracket numThr).systems = [] :=
    List.flatMap_eq_nil_iff.mpr fun sys h1 => (hsys sys h1).1
  refine ⟨hty, fun t ht => ?_, hnone ▸ List.nodup_nil, fun sys h1 x hx => ?_⟩
  · rw [hnone] at ht; cases ht
  · rw [(hsys sys h1).2] at hx; cases hx

/-- non-vacuity: a concrete ASHA scheduler -/
example : KInv { mgr := Manager.init .promotion .min 9 [1, 3] 1 false } :=
  init_KInv .promotion rfl .min 9 [1, 3] 1 false 0 .rungs false false false

end SyneTune.C04K
