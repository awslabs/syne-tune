import SyneTune.Lemmas.DomainsRange
/-
C07 — Domains: samples and decoded vectors are members; encoding round-trips.
Models: `Model/Domains.lean` (config_space.py), `Model/Encoding.lean` (hp_ranges*.py, scaling.py).

Reading guide.  `Env` holds the abstract `exp`/`log` (`Scaling` = pair of functions on ℚ); the
linear scaling is the identity and needs no hypothesis.  `Consts` holds the literals `EPS`,
`0.499`, `0.01` (inputs).  `mkSpace env c hps pk nl vl = .ok sp` says that
`make_hyperparameter_ranges` accepted the space `hps` (with its `active_config_space` entries,
`prefix_keys`, `name_last_pos`, `value_for_last_pos`); `sp.entries` are the per-hyperparameter
encoders in internal order.  `Domain.ok` is what the public constructors accept.
`Domain.member env d v`: right type, inside the bounds / among the listed values.
-/
namespace SyneTune.C07
open SyneTune SyneTune.Dom

/-- **decode_member.** For every accepted space and every vector of the advertised length whose
coordinates lie in `[-EPS, 1+EPS]` (in particular every point of the unit cube, corners
included), `from_ndarray` succeeds and every decoded value is a member of its domain — for every
scaling whatsoever (the code clips), every kind, degenerate ones included. -/
theorem decode_member {env : Env} {c : Consts} {hps : List HP} {pk : Option (List String)}
    {nl : Option String} {vl : Option Val} {sp : Space}
    (hok : ∀ h ∈ hps, h.dom.ok = true) (hsp : mkSpace env c hps pk nl vl = .ok sp)
    (xs : List ℚ) (hlen : xs.length = sp.ndarraySize) (hx : ∀ x ∈ xs, -c.eps ≤ x ∧ x ≤ 1 + c.eps) :
    ∃ cfg, sp.decode env c xs = .ok cfg ∧
      List.Forall₂ (fun e kv => kv.1 = e.1 ∧ ∃ h ∈ hps, h.name = e.1 ∧ h.dom.member env kv.2 = true)
        sp.entries cfg :=
  space_decode_slices hsp (P := fun h v => h.dom.member env v = true)
    (fun h hm e _ _ hr ys ⟨hys, hq⟩ => range_decode_member (hok h hm) hr ys hys hq) hlen
    (slices_of_length sp.entries hlen hx)

/-- a vector of the wrong length is rejected (`assert enc_config.size == self._ndarray_size`) -/
theorem decode_wrong_length {env : Env} {c : Consts} {sp : Space} (xs : List ℚ)
    (hlen : xs.length ≠ sp.ndarraySize) : sp.decode env c xs = .error .assertion :=
  if_neg hlen

/-- **outside `[-EPS, 1+EPS]` the code rejects** — every encoder except the one-hot one, which
only looks at the arg max of its slice.  (`hmk` is not used: `range_decode_reject` holds of every such encoder.) -/
theorem decode_rejects_outside {env : Env} {c : Consts} {h : HP} {r : Range}
    (hmk : mkRange env c h = .ok r) (hne : ∀ o, r ≠ .onehot o) {x : ℚ}
    (hx : ¬ (-c.eps ≤ x ∧ x ≤ 1 + c.eps)) : r.decode env c [x] = .error .assertion :=
  range_decode_reject hne hx

/-- **encode_cube.** Whenever `to_ndarray` returns, the vector has length `ndarray_size` and lies
in `[0,1]^d` — every scaling, every kind. (That it does return for member configurations is part
of `roundtrip_partial`.) -/
theorem encode_cube {env : Env} {c : Consts} {sp : Space} {cfg : Config} {xs : List ℚ}
    (h : sp.encode env c cfg = .ok xs) : xs.length = sp.ndarraySize ∧ ∀ x ∈ xs, 0 ≤ x ∧ x ≤ 1 :=
  encodeAll_spec sp.entries h

/- Full statement (property text): `from_ndarray (to_ndarray cfg) = cfg` for every member
configuration of every space, exactly for integer / finite / categorical / ordinal kinds and (over
the reals) for continuous ones.  What is proved: exactly that, with two explicit restrictions —
(1) for log / reverse-log scaled kinds the hypotheses `ScalingHyp` on the abstract `exp`/`log`
(inverse on the range, monotone; `scalingHyp_lin` discharges them for linear kinds), and
(2) `RTVal` excludes log-spaced finite ranges with `cast_int=True`, for which the statement is
false (`roundtrip_logfin_castint_counterexample`). -/
/-- **roundtrip (partial).** A configuration that assigns every hyperparameter a member value is
encodable, the encoding has the advertised length, and it decodes back to the same values. -/
theorem roundtrip_partial {env : Env} {c : Consts} {hps : List HP} {pk : Option (List String)}
    {nl : Option String} {vl : Option Val} {sp : Space}
    (hok : ∀ h ∈ hps, h.dom.ok = true) (hsp : mkSpace env c hps pk nl vl = .ok sp)
    (heps : 0 ≤ c.eps) (heps2 : c.eps ≤ 1 / 2) (hs : ∀ h ∈ hps, ScalingHyp env c h.dom)
    (cfg : Config) (hcfg : ∀ h ∈ hps, ∃ v, lookupS h.name cfg = some v ∧ RTVal env h.dom v) :
    ∃ xs, sp.encode env c cfg = .ok xs ∧ xs.length = sp.ndarraySize ∧
      ∃ out, sp.decode env c xs = .ok out ∧
        List.Forall₂ (fun e kv => kv.1 = e.1 ∧ lookupS e.1 cfg = some kv.2) sp.entries out :=
  space_roundtrip hsp (M := fun h v => RTVal env h.dom v)
    (fun h hm r hr v hv => range_roundtrip (hok h hm) hr heps heps2 (hs h hm) hv) cfg hcfg

/-- kinds whose encoder and sampler use the linear scaling only -/
def Linear : Domain → Prop
  | .flt d => d.scale = .lin ∨ d.q.isSome = true
  | .int d => d.scale = .lin ∨ d.q.isSome = true
  | .nn d => d.log = false
  | .fin d => d.log = false
  | .cat _ => True

/-- `get_scaling` of a linearly scaled or quantised domain finds neither `_LogUniform` nor
`_ReverseLogUniform` -/
theorem not_log_of_linear {α : Type} {q : Option α} {k : ScaleKind} (h : k = .lin ∨ q.isSome = true) :
    (q.isNone && k == .log) = false ∧ (q.isNone && k == .rlog) = false := by
  rcases h with rfl | h
  · exact ⟨Bool.and_false _, Bool.and_false _⟩
  · cases q
    · cases h
    · exact ⟨rfl, rfl⟩

/-- the scaling hypotheses hold outright for linear kinds: uniform, randint, quantised kinds
(encoded linearly), choice, ordinal equal / nn, finrange -/
theorem scalingHyp_lin (env : Env) (c : Consts) {d : Domain} (h : Linear d) : ScalingHyp env c d := by
  cases d with
  | flt f | int f =>
    obtain ⟨h1, h2⟩ := not_log_of_linear h
    simp only [ScalingHyp, Domain.encScale, Domain.isLog, Domain.isRLog, h1, h2]
    exact scaleOK_lin _ _ _
  | nn f => intro hl; rw [h] at hl; cases hl
  | fin f => intro hl; rw [h] at hl; cases hl
  | cat f => trivial

/-- **roundtrip, linear kinds: unconditional and exact** (no hypothesis on `exp`/`log`; includes
`cast_int` finite ranges, integer ranges of any size, all categorical encodings) -/
theorem roundtrip_linear {env : Env} {c : Consts} {hps : List HP} {pk : Option (List String)}
    {nl : Option String} {vl : Option Val} {sp : Space}
    (hok : ∀ h ∈ hps, h.dom.ok = true) (hlin : ∀ h ∈ hps, Linear h.dom)
    (hsp : mkSpace env c hps pk nl vl = .ok sp) (heps : 0 ≤ c.eps) (heps2 : c.eps ≤ 1 / 2)
    (cfg : Config) (hcfg : ∀ h ∈ hps, ∃ v, lookupS h.name cfg = some v ∧ h.dom.member env v = true) :
    ∃ xs, sp.encode env c cfg = .ok xs ∧ xs.length = sp.ndarraySize ∧
      ∃ out, sp.decode env c xs = .ok out ∧
        List.Forall₂ (fun e kv => kv.1 = e.1 ∧ lookupS e.1 cfg = some kv.2) sp.entries out := by
  refine roundtrip_partial hok hsp heps heps2 (fun h hm => scalingHyp_lin env c (hlin h hm)) cfg ?_
  intro h hm
  obtain ⟨v, hv, hmem⟩ := hcfg h hm
  refine ⟨v, hv, hmem, ?_⟩
  have := hlin h hm
  cases hd : h.dom with
  | fin f => rw [hd] at this; intro _; exact this
  | flt _ | int _ | cat _ | nn _ => trivial

/-- the domain a value decoded inside the bounds box has to belong to: the entry of
`active_config_space` when there is one, else the domain itself -/
def targetDomain (h : HP) : Domain := h.active.getD h.dom

/-- every one-hot slice of the vector has a positive coordinate -/
def PosOneHot : List (String × Range) → List ℚ → Prop :=
  Slices (fun e ys => (∃ o, e.2 = .onehot o) → ∃ x ∈ ys, 0 < x)

/-- **active_onehot (partial).** One-hot categorical with active categories: inside the bounds
box, if some coordinate is positive, the decoded category is an active one. -/
theorem active_onehot_partial {choices act : List Val} {r : OneHot}
    (h : mkOneHot choices (some act) = .ok r) {xs : List ℚ} (hbox : InBox xs r.bounds)
    (hpos : ∃ x ∈ xs, 0 < x) : ∃ v, r.decode xs = .ok v ∧ v ∈ choices ∧ pyIn v act = true := by
  obtain ⟨_, rfl⟩ := mkOneHot_ok h
  exact onehot_active_partial hbox hpos

/-- **active_onehot, full statement refuted (F7):** `choice(["a","b","c","d"])` with active
`choice(["b","c"])`: the bounds are `[(0,0),(0,1),(0,1),(0,0)]`, the all-zero corner lies in the
box and decodes to the inactive category `"a"`. -/
theorem active_onehot_counterexample :
    ¬ (∀ (choices act : List Val) (r : OneHot) (xs : List ℚ), mkOneHot choices (some act) = .ok r →
        InBox xs r.bounds → ∃ v, r.decode xs = .ok v ∧ pyIn v act = true) := by
  intro hall
  have hmk : mkOneHot [.str "a", .str "b", .str "c", .str "d"] (some [.str "b", .str "c"]) =
      .ok ⟨[.str "a", .str "b", .str "c", .str "d"], [(0, 0), (0, 1), (0, 1), (0, 0)]⟩ := by rfl
  have hbox : InBox [0, 0, 0, 0] [((0 : ℚ), (0 : ℚ)), (0, 1), (0, 1), (0, 0)] := by
    simp only [inBox_cons, inBox_nil]; norm_num
  obtain ⟨v, hv, hin⟩ := hall _ _ _ _ hmk hbox
  have hdec : (OneHot.mk [.str "a", .str "b", .str "c", .str "d"] [(0, 0), (0, 1), (0, 1), (0, 0)]).decode
      [0, 0, 0, 0] = .ok (.str "a") := by decide +kernel
  rw [hdec] at hv
  injection hv with hv
  have hno : pyIn (.str "a") [.str "b", .str "c"] = false := by decide +kernel
  rw [← hv, hno] at hin
  cases hin

/- Full statement: every point of the `get_ndarray_bounds` box decodes to values inside the active
sub-ranges.  Proved with the restrictions: `PosOneHot` (see the counterexample above), the
scaling hypotheses, and no fixed last position (`value_for_last_pos`; that clause is covered by the
correspondence only). -/
/-- **active (partial).** For every accepted space without fixed last position, every vector in
the box `get_ndarray_bounds` decodes, and each value is a member of the active domain of its
hyperparameter (of the domain itself where no active entry is given) — integers, continuous,
binary, ordinal equal / nn exactly; one-hot under `PosOneHot`. -/
theorem active_partial {env : Env} {c : Consts} {hps : List HP} {pk : Option (List String)}
    {nl : Option String} {sp : Space}
    (hok : ∀ h ∈ hps, h.dom.ok = true) (hsp : mkSpace env c hps pk nl none = .ok sp)
    (heps : 0 < c.eps) (h499 : c.c499 < 1 / 2) (hs : ∀ h ∈ hps, ScalingHyp env c h.dom)
    (xs : List ℚ) (hbox : ∃ bs, sp.bounds env c = .ok bs ∧ InBox xs bs) (hpos : PosOneHot sp.entries xs) :
    ∃ cfg, sp.decode env c xs = .ok cfg ∧
      List.Forall₂ (fun e kv => kv.1 = e.1 ∧
        ∃ h ∈ hps, h.name = e.1 ∧ (targetDomain h).member env kv.2 = true) sp.entries cfg := by
  obtain ⟨bs, hbs, hin⟩ := hbox
  obtain ⟨hlen, hsl⟩ := space_box_slices hsp hbs hin
  exact space_decode_slices hsp (P := fun h v => (targetDomain h).member env v = true)
    (fun h hm e _ _ hr ys ⟨hys, hposy⟩ => range_box_member (hok h hm) hr heps h499 (hs h hm) hys hposy) hlen
    (hsl.and hpos)

/- Full statement: every sampled value is a member.  False for quantised integers with a step
that does not divide the bounds (`qrandint_counterexample`) and for one-category nearest-neighbour
ordinals (`nn_single_sample_counterexample`); `SampleHyp` excludes exactly these. -/
/-- **sample_member (partial).** For every draw the tape contract allows, `sample` returns a
member of the domain: inside the bounds / a listed value, of the right type. -/
theorem sample_member_partial {env : Env} {c : Consts} {d : Domain} (hok : d.ok = true)
    {dr : Draw} (hdr : DrawOK d dr) (hs : SampleHyp env d) :
    ∃ v, d.sample env c dr = .ok v ∧ d.member env v = true :=
  Domain.sample_member hok hdr hs

/-- **qrandint (partial).** A quantised integer domain whose step divides both bounds samples
inside the bounds. -/
theorem qrandint_partial {env : Env} {c : Consts} (lower upper q k : ℤ) (_hle : lower ≤ upper)
    (hq : 0 < q) (hl : q ∣ lower) (hu : q ∣ upper) (h1 : lower ≤ k) (h2 : k ≤ upper) :
    ∃ v, (Domain.int ⟨lower, upper, .lin, some q⟩).sample env c (.idx k) = .ok (.int v) ∧
      lower ≤ v ∧ v ≤ upper := by
  refine ⟨quantizeI q k, rfl, quantizeI_mem hq hl hu h1 h2⟩

/-- **qrandint, full statement refuted (F6):** `qrandint(1, 10, 4)`: the draw `1` (a legal
result of `randint(1, 11)`) is quantised to `round(1/4)*4 = 0`, outside `[1, 10]`. -/
theorem qrandint_counterexample :
    ¬ (∀ (env : Env) (c : Consts) (lower upper q k : ℤ), lower ≤ upper → 0 < q → lower ≤ k → k ≤ upper →
        ∃ v, (Domain.int ⟨lower, upper, .lin, some q⟩).sample env c (.idx k) = .ok (.int v) ∧
          lower ≤ v ∧ v ≤ upper) := by
  intro hall
  obtain ⟨v, hv, h1, _⟩ := hall ⟨⟨id, id⟩, ⟨id, id⟩, ⟨id, id⟩⟩ ⟨0, 0, 0⟩ 1 10 4 1 (by decide) (by decide)
    (by decide) (by decide)
  have : (Domain.int ⟨1, 10, .lin, some 4⟩).sample ⟨⟨id, id⟩, ⟨id, id⟩, ⟨id, id⟩⟩ ⟨0, 0, 0⟩ (.idx 1) =
      .ok (.int 0) := by decide +kernel
  rw [this] at hv
  injection hv with hv
  injection hv with hv
  omega

/-- **sample_list_member (partial).** `sample(size = n)`: as many values as draws, each a member
of the domain (right type included — also for quantised domains, see F6 in DESIGN §6).  Same restrictions as `sample_member_partial`. -/
theorem sample_list_member_partial {env : Env} {c : Consts} {d : Domain} (hok : d.ok = true)
    {drs : List Draw} (hdr : ∀ dr ∈ drs, DrawOK d dr) (hs : SampleHyp env d) :
    ∃ vs, d.sampleN env c drs = .ok vs ∧ vs.length = drs.length ∧ ∀ v ∈ vs, d.member env v = true :=
  sampleN_members fun dr h => sample_member_partial hok (hdr dr h) hs

/-- `qrandint(0, 8, 4).sample(size=3)` on the draws `1, 5, 7`: integers `0, 4, 8` (finding F6: these were
`np.float64`) -/
theorem sample_list_quantised_int_example :
    (Domain.int ⟨0, 8, .lin, some 4⟩).sampleN ⟨⟨id, id⟩, ⟨id, id⟩, ⟨id, id⟩⟩ ⟨0, 0, 0⟩
      [.idx 1, .idx 5, .idx 7] = .ok [.int 0, .int 4, .int 8] := by decide +kernel

/-- a one-category nearest-neighbour ordinal (`ordinal([5], kind="nn")`) cannot be sampled:
`uniform(None, None)` raises `TypeError` -/
theorem nn_single_sample_counterexample (env : Env) (c : Consts) (u : ℚ) :
    (Domain.nn ⟨[.int 5], false⟩).ok = true ∧
    (Domain.nn ⟨[.int 5], false⟩).sample env c (.unit u) = .error .typeError :=
  ⟨by decide, nn_sample_single env ⟨[.int 5], false⟩ rfl u⟩

/-- … and cannot be encoded: `HyperparameterRangesImpl` picks the nearest-neighbour encoder, whose
constructor asserts `len(choices) > 1` -/
theorem nn_single_encoder_counterexample (env : Env) (c : Consts) :
    mkRange env c ⟨"x", .nn ⟨[.int 5], false⟩, none⟩ = .error .assertion := by
  simp [mkRange, mkRangeCore, mkOrdNN]

/-- **cast of a member is the member itself** for float, integer, categorical, ordinal and (with
a strictly increasing `log`) nearest-neighbour ordinal domains -/
theorem cast_member_id {env : Env} {c : Consts} {d : Domain} (hok : d.ok = true) {v : Val}
    (hv : d.member env v = true) (hnf : ∀ f, d ≠ .fin f)
    (hmono : ∀ f, d = .nn f → LogMono env f.log) : d.cast env c v = .ok v :=
  Domain.cast_member_id hok hv hnf hmono

/-- **cast_member.** Casting a member gives a member, for every kind. -/
theorem cast_member {env : Env} {c : Consts} {d : Domain} (hok : d.ok = true) {v : Val}
    (hv : d.member env v = true) : ∃ v', d.cast env c v = .ok v' ∧ d.member env v' = true :=
  Domain.cast_member hok hv

/- Full statement: a space written to JSON and read back is equal and encodes identically.  False
for quantised domains (counterexample below). -/
/-- **json (partial).** Every domain that is not quantised is restored identically by
`config_space_from_json_dict (config_space_to_json_dict ·)` — identical domain, hence identical
encoder (`mkRange` is a function of the domain). Reverse-log domains are included since
`_ReverseLogUniform.__str__` names its own class. -/
theorem json_roundtrip_partial {d : Domain} (hok : d.ok = true) (hq : isQuantised d = false) :
    jsonRoundTrip d = .ok d :=
  Domain.json_roundtrip hok hq

/-- `reverseloguniform(0.1, 0.9)` is read back as itself -/
theorem json_rlog_restored :
    jsonRoundTrip (.flt ⟨1 / 10, 9 / 10, .rlog, none⟩) = .ok (.flt ⟨1 / 10, 9 / 10, .rlog, none⟩) :=
  json_roundtrip_partial (by decide +kernel) rfl

/-- a quantised domain cannot be written to JSON at all (`sampler_kwargs` holds a sampler object) -/
theorem json_quantized_counterexample :
    jsonRoundTrip (.int ⟨1, 10, .lin, some 4⟩) = .error .typeError := rfl

/-- **bounds_in_cube.** The bounds every encoder advertises: as many pairs as coordinates, each
inside `[0,1]` (so the box of `active_partial` is a subset of the cube of `decode_member`). -/
theorem bounds_in_cube {env : Env} {c : Consts} {h : HP} {r : Range} (hmk : mkRange env c h = .ok r) :
    r.bounds.length = r.size ∧ ∀ b ∈ r.bounds, 0 ≤ b.1 ∧ b.2 ≤ 1 :=
  range_bounds_cube hmk

/-! ### log-spaced finite range with `cast_int`: the round trip fails -/

/-- a piecewise-linear stand-in for `log`/`exp` on `[3/5, 8/5]` (concave, strictly increasing,
with its exact inverse): it satisfies every hypothesis the theorems put on the abstract scaling -/
def pwLog : Scaling where
  toInt := fun x => if x ≤ 1 then (x - 3 / 5) * (13 / 10) else 13 / 25 + (x - 1) * (4 / 5)
  fromInt := fun t => if t ≤ 13 / 25 then 3 / 5 + t * (10 / 13) else 1 + (t - 13 / 25) * (5 / 4)

def pwEnv : Env := ⟨pwLog, ⟨id, id⟩, ⟨id, id⟩⟩

/-- two increasing pieces that do not step down where they meet -/
theorem ite_mono {a : ℚ} {f g : ℚ → ℚ} [∀ x, Decidable (x ≤ a)] (hf : Monotone f) (hg : Monotone g) (hfg : f a ≤ g a) :
    Monotone (fun x => if x ≤ a then f x else g x) := by
  intro x y hxy
  dsimp only
  by_cases hy : y ≤ a
  · rw [if_pos (hxy.trans hy), if_pos hy]; exact hf hxy
  · rw [if_neg hy]
    by_cases hx : x ≤ a
    · rw [if_pos hx]; exact (hf hx).trans (hfg.trans (hg (le_of_not_ge hy)))
    · rw [if_neg hx]; exact hg hxy

theorem pwLog_toInt_mono : Monotone pwLog.toInt :=
  ite_mono (a := 1) (f := fun x => (x - 3 / 5) * (13 / 10)) (g := fun x => 13 / 25 + (x - 1) * (4 / 5))
    (fun _ _ h => mul_le_mul_of_nonneg_right (sub_le_sub_right h _) (by norm_num))
    (fun _ _ h => add_le_add le_rfl (mul_le_mul_of_nonneg_right (sub_le_sub_right h _) (by norm_num)))
    (by norm_num)

theorem pwLog_fromInt_mono : Monotone pwLog.fromInt :=
  ite_mono (a := 13 / 25) (f := fun t => 3 / 5 + t * (10 / 13)) (g := fun t => 1 + (t - 13 / 25) * (5 / 4))
    (fun _ _ h => add_le_add le_rfl (mul_le_mul_of_nonneg_right h (by norm_num)))
    (fun _ _ h => add_le_add le_rfl (mul_le_mul_of_nonneg_right (sub_le_sub_right h _) (by norm_num)))
    (by norm_num)

theorem pwLog_ok : ScalingOK pwLog (3 / 5) (8 / 5) := by
  refine ⟨fun y _ _ => ?_, fun _ _ _ h _ => pwLog_toInt_mono h, fun _ _ _ h _ => pwLog_fromInt_mono h⟩
  simp only [pwLog]
  by_cases hy : y ≤ 1
  · rw [if_pos hy, if_pos (by linarith only [hy])]; ring
  · rw [if_neg hy, if_neg (by linarith only [hy])]; ring

def cxConsts : Consts := ⟨1 / 100000000, 499 / 1000, 1 / 100⟩
def cxFin : FinDom := ⟨3 / 5, 8 / 5, 2, true, true⟩

theorem cx_low : cxFin.lowInt pwEnv = 0 := by decide +kernel
theorem cx_up : cxFin.upInt pwEnv = 1 := by decide +kernel

theorem ok_of_toOption {ε α : Type} {e : Except ε α} {a : α} (h : e.toOption = some a) : e = .ok a := by
  cases e with
  | ok b => exact congrArg _ (Option.some.inj h)
  | error _ => cases h

/-- build the encoder, encode the member `1`, decode (`∃ r x` is not decidable: the computation is evaluated as one
term and taken apart again) -/
def cxRun : Option Val :=
  (mkFin pwEnv cxConsts cxFin.lower cxFin.upper cxFin.size .log cxFin.castInt).toOption.bind fun r =>
    (r.encode pwEnv cxConsts 1).toOption.bind fun x => (r.decode pwEnv cxConsts x).toOption

theorem roundtrip_logfin_castint_counterexample :
    (Domain.fin cxFin).ok = true ∧ ScalingHyp pwEnv cxConsts (.fin cxFin) ∧
    cxFin.values pwEnv = [.int 1, .int 2] ∧
    ∃ r x, mkFin pwEnv cxConsts cxFin.lower cxFin.upper cxFin.size .log cxFin.castInt = .ok r ∧
      r.encode pwEnv cxConsts 1 = .ok x ∧ r.decode pwEnv cxConsts x = .ok (.int 2) := by
  refine ⟨by decide +kernel, ?_, by decide +kernel, ?_⟩
  · intro _
    rw [cx_low, cx_up]
    refine ⟨fun t _ _ => ?_, zero_le_one, fun t h0 h1 => ?_⟩
    · simp only [pwEnv, pwLog]
      by_cases ht : t ≤ 13 / 25
      · rw [if_pos ht, if_pos (by linarith only [ht])]; ring
      · rw [if_neg ht, if_neg (by linarith only [ht])]; ring
    · -- `exp` is increasing and maps the ends `0`, `1` to `3/5`, `8/5`
      have e0 : pwLog.fromInt 0 = 3 / 5 := by norm_num [pwLog]
      have e1 : pwLog.fromInt 1 = 8 / 5 := by norm_num [pwLog]
      exact ⟨e0.symm.trans_le (pwLog_fromInt_mono h0), (pwLog_fromInt_mono h1).trans_eq e1⟩
  · have hc : cxRun = some (.int 2) := by decide +kernel
    obtain ⟨r, hr, hc⟩ := Option.bind_eq_some_iff.mp hc
    obtain ⟨x, hx, hv⟩ := Option.bind_eq_some_iff.mp hc
    exact ⟨r, x, ok_of_toOption hr, ok_of_toOption hx, ok_of_toOption hv⟩

/-! ### non-vacuity: concrete objects meeting the hypotheses -/

section Examples

/-- identity scalings (exact for linear kinds) and the literals `EPS = 1e-8`, `0.499`, `0.01` -/
def exEnv : Env := ⟨⟨id, id⟩, ⟨id, id⟩, ⟨id, id⟩⟩
def exConsts : Consts := ⟨1 / 100000000, 499 / 1000, 1 / 100⟩

/-- `{"lr": uniform(0.1, 1) [active uniform(0.2, 0.5)], "n": randint(1, 81), "opt": choice([..3..])
[active 2 of them], "k": finrange(0.1, 1, 10, cast_int=True)}` with `name_last_pos = "n"` -/
def exHPs : List HP :=
  [⟨"lr", .flt ⟨1 / 10, 1, .lin, none⟩, some (.flt ⟨1 / 5, 1 / 2, .lin, none⟩)⟩,
   ⟨"n", .int ⟨1, 81, .lin, none⟩, none⟩,
   ⟨"opt", .cat ⟨[.str "sgd", .str "adam", .str "rms"], false⟩, some (.cat ⟨[.str "adam", .str "rms"], false⟩)⟩,
   ⟨"k", .fin ⟨1 / 10, 1, 10, false, true⟩, none⟩]

/-- the space is accepted, has 6 encoded coordinates, internal order k, lr, opt, n -/
example : ((mkSpace exEnv exConsts exHPs none (some "n") none).map
    (fun sp => (sp.ndarraySize, sp.entries.map (·.1)))) = .ok (6, ["k", "lr", "opt", "n"]) := by
  decide +kernel

example : ∀ h ∈ exHPs, h.dom.ok = true := by decide +kernel
example : ∀ h ∈ exHPs, Linear h.dom := by
  intro h hh
  simp only [exHPs, List.mem_cons, List.mem_nil_iff, or_false] at hh
  rcases hh with rfl | rfl | rfl | rfl <;> simp [Linear]

/-- hypotheses on the constants used by the theorems -/
example : 0 < exConsts.eps ∧ exConsts.eps ≤ 1 / 2 ∧ exConsts.c499 < 1 / 2 := by decide +kernel

/-- the abstract-scaling hypotheses are satisfiable by a genuinely non-linear scaling -/
example : ScalingOK pwLog (3 / 5) (8 / 5) := pwLog_ok

/-- `qrandint(4, 16, 4)` meets the hypotheses of `sample_member_partial` -/
example : DrawOK (.int ⟨4, 16, .lin, some 4⟩) (.idx 9) ∧ SampleHyp exEnv (.int ⟨4, 16, .lin, some 4⟩) := by
  refine ⟨by simp [DrawOK], ?_⟩
  show (ScaleKind.lin = ScaleKind.log → _) ∧ ∀ q : ℤ, some (4 : ℤ) = some q → _
  refine ⟨fun h => (by cases h), ?_⟩
  intro q hq
  injection hq with hq
  subst hq
  exact ⟨by decide, ⟨1, by decide⟩, ⟨4, by decide⟩⟩

/-- the hypotheses of `active_onehot_partial` are satisfiable: a point of the bounds box of
`choice([a,b,c,d])` / active `[b,c]` with a positive coordinate -/
example : ∃ r, mkOneHot [.str "a", .str "b", .str "c", .str "d"] (some [.str "b", .str "c"]) = .ok r ∧
    InBox [0, 1 / 2, 0, 0] r.bounds ∧ ∃ x ∈ ([0, 1 / 2, 0, 0] : List ℚ), 0 < x := by
  refine ⟨⟨[.str "a", .str "b", .str "c", .str "d"], [(0, 0), (0, 1), (0, 1), (0, 0)]⟩, rfl, ?_,
    ⟨1 / 2, by simp, by norm_num⟩⟩
  simp only [inBox_cons, inBox_nil]; norm_num

/-- the hypotheses of `roundtrip_partial` / `active_partial` for a log-scaled float domain
(`loguniform(0.6, 1.6)`) are met by the non-linear stand-in scaling -/
example : ScalingHyp pwEnv exConsts (.flt ⟨3 / 5, 8 / 5, .log, none⟩) :=
  (scaleOK_log_iff _ _ _).mpr pwLog_ok

/-! degenerate but legal domains: accepted, and the theorems apply to them -/

/-- `uniform(2.5, 2.5)`: encodes to 0, every admissible `x` decodes to 2.5, bounds `(0, 0)` -/
example : (mkRange exEnv exConsts ⟨"x", .flt ⟨5 / 2, 5 / 2, .lin, none⟩, none⟩).map
    (fun r => (r.bounds, r.encode exEnv exConsts (.flt (5 / 2)), r.decode exEnv exConsts [1], r.decode exEnv exConsts [0]))
    = .ok ([(0, 0)], .ok [0], .ok (.flt (5 / 2)), .ok (.flt (5 / 2))) := by decide +kernel

/-- `randint(7, 7)` -/
example : (mkRange exEnv exConsts ⟨"x", .int ⟨7, 7, .lin, none⟩, none⟩).map
    (fun r => (r.decode exEnv exConsts [0], r.decode exEnv exConsts [1], r.decode exEnv exConsts [1 / 2]))
    = .ok (.ok (.int 7), .ok (.int 7), .ok (.int 7)) := by decide +kernel

/-- `choice(["only"])`: one-hot of size one with bounds `(1, 1)` -/
example : (mkRange exEnv exConsts ⟨"x", .cat ⟨[.str "only"], false⟩, none⟩).map
    (fun r => (r.size, r.bounds, r.encode exEnv exConsts (.str "only"), r.decode exEnv exConsts [0]))
    = .ok (1, [(1, 1)], .ok [1], .ok (.str "only")) := by decide +kernel

/-- `ordinal([3], kind="equal")` and `finrange(0.5, 0.5, 1)` -/
example : (mkRange exEnv exConsts ⟨"x", .cat ⟨[.int 3], true⟩, none⟩).map
    (fun r => (r.decode exEnv exConsts [0], r.decode exEnv exConsts [1])) = .ok (.ok (.int 3), .ok (.int 3)) := by
  decide +kernel
example : (mkRange exEnv exConsts ⟨"x", .fin ⟨1 / 2, 1 / 2, 1, false, false⟩, none⟩).map
    (fun r => (r.decode exEnv exConsts [0], r.decode exEnv exConsts [1], r.encode exEnv exConsts (.flt (1 / 2))))
    = .ok (.ok (.flt (1 / 2)), .ok (.flt (1 / 2)), .ok [1 / 2]) := by decide +kernel

end Examples

end SyneTune.C07
