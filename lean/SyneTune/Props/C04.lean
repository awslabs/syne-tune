import SyneTune.Lemmas.HBEffect
/- C04 — promotion-type Hyperband (ASHA, PASHA, cost-aware, RUSH) promotes only eligible trials. -/
namespace SyneTune.C04
open SyneTune

/-- **Every trial pauses exactly at its next rung level.**  For a running trial with
milestone `ms`: below the milestone it continues and nothing changes; at the milestone it
does not continue (`milestone_reached`); beyond the milestone the code rejects the report
(assertion) — unreachable when the worker obeys `max_resource_attr` or the loop obeys PAUSE. -/
theorem pause_exactly_at_milestone (s : RungSys) (m : Mode) (tid r : Nat) (v cost : Rat)
    (ms : Nat) (rf : Option Nat) (hrun : alookup tid s.running = some (ms, rf)) :
    (r < ms → ∃ o, s.promoReport m tid r v cost = .ok (s, o) ∧ o.continues = true ∧ o.reached = false) ∧
    (ms < r → ∃ e, s.promoReport m tid r v cost = .error e) ∧
    (r = ms → ∀ s' o, s.promoReport m tid r v cost = .ok (s', o) →
        o.continues = false ∧ o.reached = true) := by
  refine ⟨?_, ?_, ?_⟩
  · intro h
    have : ¬ ms ≤ r := by omega
    unfold RungSys.promoReport
    simp only [hrun, this, if_false]
    exact ⟨_, rfl, rfl, rfl⟩
  · intro h
    have h1 : ms ≤ r := by omega
    have h2 : r ≠ ms := by omega
    unfold RungSys.promoReport
    simp only [hrun, h1, h2, if_true, ne_eq, not_false_eq_true]
    exact ⟨_, rfl⟩
  · intro h s' o hok
    obtain ⟨mr, hr, _, _, _, heq⟩ := RungSys.promoReport_ans hok
    rw [hrun] at hr; cases hr
    exact heq h

/-- **Never more than the cap.**  A promotion resumes a trial from a rung strictly below the
cap (`max_t`, for PASHA the current cap) and tells it to run exactly to the next rung level
above that rung (or `max_t` above the top rung); that milestone never exceeds `max_t`. -/
theorem milestone_is_next_level (ty : HBType) (m : Mode) (numThr cap : Nat) (hint : Option Nat)
    (maxT : Nat) (thr : List (Nat × Rat)) (rs : List Rung) (o : SchedOut)
    (hd : RungsDecr rs) (hlt : ∀ rg ∈ rs, rg.level < maxT)
    (h : (promoScan ty m numThr cap hint maxT thr rs).out = some o) :
    o.resumeFrom < cap ∧ o.resumeFrom < o.milestone ∧ o.milestone ≤ maxT ∧
    -- no rung level lies strictly between `resumeFrom` and `milestone`
    (∀ rg ∈ rs, ¬ (o.resumeFrom < rg.level ∧ rg.level < o.milestone)) ∧
    (o.milestone = maxT ∨ ∃ rg ∈ rs, rg.level = o.milestone) := by
  obtain ⟨pre, rg, post, _, _, rfl, _, h3, _, _, h2, h6⟩ := promoScan_some ty m numThr cap hint maxT thr rs o h
  obtain ⟨hdpre, hdrg, hcross⟩ := List.pairwise_append.mp hd
  have hpost : ∀ p ∈ post, p.level < rg.level := (List.pairwise_cons.mp hdrg).1
  -- the milestone is `max_t` or the level of a rung of `pre`, the smallest one there
  have hlast := lastLevel_mem maxT pre
  have hle := lastLevel_le (next := maxT) hdpre
  rw [← h6] at hlast hle
  rw [← h2]
  refine ⟨h3, ?_, ?_, fun x hx hb => ?_, ?_⟩
  · rcases hlast with h | ⟨p, hp, h⟩
    · exact h ▸ hlt rg (by simp)
    · exact h ▸ hcross p hp rg (List.mem_cons_self ..)
  · rcases hlast with h | ⟨p, hp, h⟩
    · exact Nat.le_of_eq h
    · exact h ▸ Nat.le_of_lt (hlt p (List.mem_append_left _ hp))
  · rcases List.mem_append.mp hx with hx | hx
    · exact absurd (hle x hx) (Nat.not_le.mpr hb.2)
    · rcases List.mem_cons.mp hx with rfl | hx
      · exact Nat.lt_irrefl _ hb.1
      · exact Nat.lt_asymm hb.1 (hpost x hx)
  · exact hlast.imp id fun ⟨p, hp, h⟩ => ⟨p, List.mem_append_left _ hp, h⟩

/-- **Only eligible trials are promoted** (ASHA and PASHA).  If the scan promotes trial `t`
from rung `r`: `r` is below the cap; every rung above `r` that is below the cap had nothing
promotable; `t`'s entry in rung `r` is unpromoted; every entry ranked better in that rung is
already promoted (no other unpromoted trial is better); its metric is no worse than the
rung's quantile whenever the comparison is outside round-off; and the only change to the
rungs is that this entry is marked promoted. -/
theorem eligible (ty : HBType) (hty : ty.plain) (m : Mode) (numThr cap : Nat) (hint : Option Nat)
    (next : Nat) (thr : List (Nat × Rat)) (rs : List Rung) (o : SchedOut)
    (h : (promoScan ty m numThr cap hint next thr rs).out = some o) :
    ∃ pre rg post pos c e,
      rs = pre ++ rg :: post ∧ rg.level = o.resumeFrom ∧ rg.level < cap ∧
      (∀ p ∈ pre, p.level < cap → plainPick m p hint = none) ∧
      rg.cutoff m = some c ∧ rg.data[pos]? = some e ∧ e.tid = o.trial ∧ e.promoted = false ∧
      (∀ i, i < pos → ∀ x, rg.data[i]? = some x → x.promoted = true) ∧
      (∀ b, cmpNoWorse m e.val c rg.scale = .forced b → m.noWorse e.val c) ∧
      (promoScan ty m numThr cap hint next thr rs).rungs = pre ++ markPromoted m rg pos :: post := by
  obtain ⟨pre, rg, post, thr', pos, h1, h4, h3, h5, h6, h2, _⟩ := promoScan_some ty m numThr cap hint next thr rs o h
  rw [(findPromotable_plain ty hty m numThr thr' rg hint).1] at h5
  obtain ⟨c, e, g1, g2, g3, g4, g5, g6⟩ := plainPick_some h5
  exact ⟨pre, rg, post, pos, c, e, h1, h2, h3, h4.plain hty, g1, g2, g3, g4, g5, g6, h6⟩

/-- **If no trial is eligible a new trial is started** and no rung changes. -/
theorem else_new (ty : HBType) (hty : ty.plain) (m : Mode) (numThr cap : Nat) (hint : Option Nat)
    (next : Nat) (thr : List (Nat × Rat)) (rs : List Rung)
    (h : (promoScan ty m numThr cap hint next thr rs).out = none) :
    (∀ p ∈ rs, p.level < cap → plainPick m p hint = none) ∧
    (promoScan ty m numThr cap hint next thr rs).rungs = rs :=
  (promoScan_none h).imp_left (·.plain hty)

/-- what "nothing promotable in a rung" means -/
theorem not_promotable_means (m : Mode) (rg : Rung) (hint : Option Nat) (h : plainPick m rg hint = none) :
    rg.cutoff m = none ∨ (∀ x ∈ rg.data, x.promoted = true) ∨
    ∃ c e pos, rg.cutoff m = some c ∧ firstUnpromoted rg.data 0 = some (e, pos) ∧
      (∀ b, cmpNoWorse m e.val c rg.scale = .forced b → ¬ m.noWorse e.val c) :=
  plainPick_none h

/-- operations on one promotion rung system -/
inductive POp
  | schedule (hint : Option Nat)
  | report (tid r : Nat) (v cost : Rat)
  | add (tid ms : Nat) (resumeFrom : Option Nat)
  | remove (tid : Nat)

/-- state after an operation on the rung system alone (`add` / `remove` as the manager would call them); a rejected
report leaves the state unchanged -/
def stepP (ty : HBType) (m : Mode) (s : RungSys) : POp → RungSys
  | .schedule hint => (s.promoSchedule ty m hint).1
  | .report tid r v cost => match s.promoReport m tid r v cost with | .ok res => res.1 | .error _ => s
  | .add tid ms rf => { s with running := aset tid (ms, rf) s.running }
  | .remove tid => { s with running := adel tid s.running }

def runP (ty : HBType) (m : Mode) (s : RungSys) (ops : List POp) : RungSys := ops.foldl (stepP ty m) s

theorem stepP_steps (ty : HBType) (m : Mode) (s : RungSys) (op : POp) :
    RungSteps m s.rungs (stepP ty m s op).rungs := by
  cases op with
  | schedule hint => exact (promoSchedule_eff s ty m hint).steps
  | report tid r v cost =>
    simp only [stepP]
    cases h : s.promoReport m tid r v cost with
    | error e => exact RungSteps.refl m _
    | ok res => exact (RungSys.promoReport_eff h).steps
  | add tid ms rf => exact RungSteps.refl m _
  | remove tid => exact RungSteps.refl m _

/-- **Invariant over all histories**: every trial occurs at most once per rung, rung levels
never change, and a promotion record is never lost. -/
theorem history_invariant (ty : HBType) (m : Mode) (s : RungSys) (ops : List POp) :
    (AllNodup s.rungs → AllNodup (runP ty m s ops).rungs) ∧
    (∀ level t, PromotedAt s.rungs level t → PromotedAt (runP ty m s ops).rungs level t) ∧
    (runP ty m s ops).rungs.map (·.level) = s.rungs.map (·.level) :=
  RungSteps.foldl_preserve (·.rungs) (stepP ty m) (stepP_steps ty m) s ops

/-- **A trial is promoted from a rung at most once** (ASHA / PASHA).  Once trial `t` has been
promoted from the rung of level `r` — at any point of any history of schedule / report /
add / remove operations since — no later promotion scan promotes `t` from `r` again. -/
theorem promoted_once (ty : HBType) (hty : ty.plain) (m : Mode) (s : RungSys) (ops : List POp)
    (hnd : AllNodup s.rungs) (hdec : RungsDecr s.rungs) (level t : Nat)
    (hp : PromotedAt s.rungs level t) (hint : Option Nat) (o : SchedOut)
    (h : ((runP ty m s ops).promoSchedule ty m hint).2.1 = some o) (ht : o.trial = t) :
    o.resumeFrom ≠ level := by
  -- holds of every promotion type: `hty` is not needed
  have _ := hty
  obtain ⟨i1, i2, i3⟩ := history_invariant ty m s ops
  have eff := promoSchedule_eff (runP ty m s ops) ty m hint
  rw [h] at eff
  exact eff.not_again (i1 hnd) (.of_levels_eq i3 hdec) (ht ▸ i2 level t hp)

/-- the promotion itself creates the record used by `promoted_once` -/
theorem promotion_recorded (ty : HBType) (hty : ty.plain) (m : Mode) (s : RungSys) (hint : Option Nat)
    (o : SchedOut) (h : (s.promoSchedule ty m hint).2.1 = some o) :
    PromotedAt (s.promoSchedule ty m hint).1.rungs o.resumeFrom o.trial :=
  -- holds of every promotion type: `hty` is not needed
  have _ := hty
  ((promoSchedule_eff s ty m hint).mark o h).1.eligible.2

/-- **PASHA's cap grows monotonically and is always a rung level or `max_t`**, at every
report of every history (one step; `PashaInv` is preserved, so it lifts by induction). -/
theorem pasha_cap_monotone (s s' : RungSys) (m : Mode) (tid r : Nat) (v eps : Rat) (o : RepOut)
    (hinv : PashaInv s) (h : s.pashaReport m tid r v eps = .ok (s', o)) :
    PashaInv s' ∧ s.curMaxT ≤ s'.curMaxT ∧ (s'.curMaxT = s'.maxT ∨ s'.curMaxT ∈ s'.levelsAsc) := by
  obtain ⟨s1, hp, hcase⟩ := RungSys.pashaReport_cases h
  -- the promotion report changes none of the fields the invariant speaks of
  obtain ⟨f1, f2, f3, f4, f5⟩ := promoReport_pasha_fields s s1 m tid r v 0 o hp
  have hinv1 : PashaInv s1 := by unfold PashaInv; rw [f1, f2, f3, f4, f5]; exact hinv
  rw [← f4]
  obtain ⟨i1, i2, i3, i4⟩ := hinv1
  have capOK : s1.curMaxT = s1.maxT ∨ s1.curMaxT ∈ s1.levelsAsc :=
    i4.elim (fun h => .inl h.1) fun h => .inr <| h.elim (fun h => List.mem_of_getElem? h.2)
      fun h => h.2 ▸ List.mem_singleton_self _
  rcases hcase with rfl | ⟨hge, rfl⟩ | ⟨l, hlt, hl, rfl⟩
  · exact ⟨⟨i1, i2, i3, i4⟩, Nat.le_refl _, capOK⟩
  · exact ⟨⟨i1, i2, i3, .inl ⟨rfl, hge⟩⟩, capOK.elim Nat.le_of_eq fun h => Nat.le_of_lt (i2 _ h), .inl rfl⟩
  · refine ⟨⟨i1, i2, i3, .inr (.inl ⟨Nat.le_add_left 1 _, hl⟩)⟩, ?_, .inr (List.mem_of_getElem? hl)⟩
    show s1.curMaxT ≤ l
    obtain ⟨hlen, e2⟩ := List.getElem?_eq_some_iff.mp hl
    rcases i4 with ⟨_, h1⟩ | ⟨hge, h1⟩ | ⟨h0, h1⟩
    · omega
    · -- the level at `idx - 1` is below the one at `idx`
      obtain ⟨_, e1⟩ := List.getElem?_eq_some_iff.mp h1
      exact e1 ▸ e2 ▸ Nat.le_of_lt (List.pairwise_iff_getElem.mp i1 (s1.curIdx - 1) s1.curIdx (by omega) hlen (by omega))
    · simp only [h0, h1, List.getElem_cons_zero] at e2
      exact Nat.le_of_eq e2

/-- the freshly constructed PASHA system satisfies `PashaInv` whenever there are at least
two rung levels (strictly increasing, below `max_t`) — non-vacuity. -/
example : PashaInv (mkSys .pasha 0 [1, 3, 9] (promoteQuantiles [1, 3, 9] 27) 27) :=
  ⟨by decide, by decide, rfl, .inr (.inl ⟨by decide, rfl⟩)⟩

/-- **Cost-aware promotion.**  The entry picked by the cost scan is unpromoted, everything
ranked better is already promoted, and the cumulative cost up to and including the picked
entry does not exceed the threshold `q · C(r, N)` (whenever that comparison is outside
round-off). -/
theorem cost_rule (threshold total : Rat) (level : Nat) (hint : Option Nat) (data : List Entry)
    (pos : Nat) (acc : Rat) (e : Entry) (p : Nat) (fr : Bool)
    (h : costFirstPromotable threshold total level hint data pos acc = (some (e, p), fr)) :
    ∃ pre post, data = pre ++ e :: post ∧ p = pos + pre.length ∧ e.promoted = false ∧
      (∀ x ∈ pre, x.promoted = true) ∧
      (∀ b, cmpLe (acc + (pre.map (·.cost)).foldl (· + ·) 0 + e.cost) threshold (absRat total) = .forced b →
        acc + (pre.map (·.cost)).foldl (· + ·) 0 + e.cost ≤ threshold) :=
  costFirstPromotable_spec h

/-- **RUSH threshold rule** (`RUSHDecider.task_continues`): a trial that would continue
under the base rule continues iff it is a threshold candidate (`trial_id <
num_threshold_candidates`, which also tightens the threshold of that level) or its metric
is no worse than the level's threshold (no threshold yet: continues). -/
theorem rush_rule (m : Mode) (numThr : Nat) (thr : List (Nat × Rat)) (tc : Bool) (tid : Nat)
    (v : Rat) (resource : Nat) :
    ((rushDecide m numThr thr tc tid v resource).1 = true ↔
      tc = true ∧ (tid < numThr ∨
        match alookup resource thr with
        | none => True
        | some t => m.noWorse v t)) ∧
    (tc = false ∨ ¬ tid < numThr → (rushDecide m numThr thr tc tid v resource).2 = thr) := by
  unfold rushDecide
  cases tc with
  | false => simp
  | true =>
    by_cases hc : tid < numThr
    · simp [hc]
    · simp only [Bool.not_true, Bool.false_eq_true, if_false, hc, decide_eq_true_eq, true_and, false_or,
        not_false_eq_true, or_true, implies_true, and_true]
      show rushBetter m (alookup resource thr) v = v ↔
        match alookup resource thr with | none => True | some t => m.noWorse v t
      cases hl : alookup resource thr with
      | none => simp [rushBetter]
      | some t =>
        -- either mode: `rushBetter` is the strictly better of `v`, `t`, hence `v` iff `v` is no worse
        cases m <;> simp only [rushBetter, Mode.noWorse] <;> split_ifs with hlt
        · exact ⟨fun _ => le_of_lt hlt, fun _ => rfl⟩
        · exact ⟨fun h => h ▸ le_rfl, fun h => le_antisymm (not_lt.mp hlt) h⟩
        · exact ⟨fun _ => le_of_lt hlt, fun _ => rfl⟩
        · exact ⟨fun h => h ▸ le_rfl, fun h => le_antisymm h (not_lt.mp hlt)⟩

/-- RUSH stopping is the base quantile rule *and* the threshold rule: it never continues a
trial the base rule stops. -/
theorem rush_stopping_stricter (s : RungSys) (m : Mode) (tid r : Nat) (v : Rat) (skip : Nat) (hint : Bool)
    (h : (s.rushStopReport m tid r v skip hint).2.continues = true) :
    (s.stopReport m tid r v skip hint).2.continues = true := by
  unfold RungSys.rushStopReport at h
  simp only at h
  split at h
  · exact rushDecide_base h
  · exact h

end SyneTune.C04
