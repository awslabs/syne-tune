import SyneTune.Lemmas.EarlyRemovalInv
/-
C20, speculative early checkpoint removal (explicitly requested through
`early_checkpoint_removal_kwargs`): property theorems about the bookkeeping of
`HyperbandRemoveCheckpointsCommon` (`Model/EarlyRemoval.lean`) for ALL histories of callback calls.

Reading guide.  `run p h` is the callback's state after the calls `h` (oldest first) since
`on_tuning_start`; `trace p h` pairs every call with what it output (for `on_loop_end`: the ids handed
to `delete_checkpoint`, or that it raised).  `OpOK` is the contract (three clauses; `Legal p h`: every
call of `h` met it); theorems without `Legal` hold for every history whatsoever.  Beside every
implication an `example` exhibits a concrete history that meets the hypotheses non-trivially.
-/
namespace SyneTune.C20Early
open SyneTune SyneTune.Early

/-- `max_num_checkpoints = 2`, baseline "by_level" -/
def pB : Params := ⟨2, .byLevel⟩
/-- `max_num_checkpoints = 2`, estimator-based callback -/
def pE : Params := ⟨2, .estimator⟩

/-- trials 0 and 1 paused at level 1, trials 2 and 3 running: four checkpoints -/
def hFour : List Op :=
  [.start 0, .start 1, .result 0 .continue, .result 0 .pause, .result 1 .pause, .start 2, .start 3]

/-- the loop end that follows: the scheduler lists both paused trials, the oracle names both -/
def leBoth : Op := .loopEnd [(0, 1), (1, 1)] (some [(1, 1), (0, 1)])

/-- … then trial 0 is promoted although its checkpoint is gone, pauses again at level 3, trial 2
stops, another loop end removes nothing -/
def hLong : List Op :=
  hFour ++ [leBoth, .resume 0, .result 0 .continue, .result 0 .pause, .result 2 .stop, .complete 2,
            .loopEnd [(0, 3), (1, 1)] (some [])]

theorem recorded (p : Params) (h : List Op) : Recorded (run p h) := by
  induction h using snoc_induction with
  | h0 => intro t ht; cases ht
  | hs h op ih => rw [run_snoc]; exact step_recorded p _ op ih

/-- Every id `on_loop_end` hands to `delete_checkpoint` is, at that moment, PAUSED_WITH_CHECKPOINT in
the callback's books: never RUNNING (no checkpoint of a trial that occupies a worker is deleted),
never stopped / completed, never a trial whose checkpoint was already removed.  Needs of the
history NOTHING; needs of this call only that the scheduler's list names paused trials (`OpOK`). -/
theorem removed_only_paused_with_checkpoint (p : Params) (h : List Op) (paused : List (Nat × Nat))
    (picks : Option (List (Nat × Nat))) (ids : List Nat)
    (hok : OpOK (run p h) (.loopEnd paused picks))
    (hout : (step p (run p h) (.loopEnd paused picks)).2 = .deleted ids) :
    ∀ t ∈ ids, (run p h).statusOf t = some .pausedCp :=
  loopEnd_deleted_pausedCp (recorded p h) hok hout

example : OpOK (run pB hFour) leBoth ∧ (step pB (run pB hFour) leBoth).2 = .deleted [1, 0] := by decide

/-- … and no id is handed over twice in one `on_loop_end`. -/
theorem removed_ids_distinct (p : Params) (h : List Op) (paused : List (Nat × Nat))
    (picks : Option (List (Nat × Nat))) (ids : List Nat)
    (hok : OpOK (run p h) (.loopEnd paused picks))
    (hout : (step p (run p h) (.loopEnd paused picks)).2 = .deleted ids) : ids.Nodup :=
  loopEnd_deleted_nodup hout

/-- The status map is exact bookkeeping of the history, for EVERY history: the status of a trial is
what the last trace entry that concerns it leaves (its own `start` / `resume` / `result` /
`complete`, or a loop end that deleted its checkpoint); a trial no entry concerns is absent. -/
theorem status_exact (p : Params) (h : List Op) (t : Nat) :
    (run p h).statusOf t = specStatus t (trace p h) := by
  induction h using snoc_induction with
  | h0 => rfl
  | hs h op ih => rw [run_snoc, trace_snoc, specStatus_snoc, step_status, ih]

example : (run pB hLong).status = [(0, .pausedCp), (1, .pausedNoCp), (2, .done), (3, .running)] := by decide

theorem status_some_iff (p : Params) (h : List Op) (t : Nat) (st : Status) :
    (run p h).statusOf t = some st ↔ ∃ x, lastTouch t (trace p h) = some x ∧ statusAfter x = st := by
  rw [status_exact, specStatus, Option.map_eq_some_iff]

theorem last_touch_of_status {p : Params} {h : List Op} {t : Nat} {st : Status} (hs : (run p h).statusOf t = some st) :
    ∃ x, lastTouch t (trace p h) = some x ∧ LeavesIn t x st := by
  obtain ⟨x, hl, rfl⟩ := (status_some_iff p h t st).1 hs
  exact ⟨x, hl, touch_shape (lastTouch_touches hl)⟩

theorem status_leaves_iff (p : Params) (h : List Op) (t : Nat) (st : Status) :
    (run p h).statusOf t = some st ↔ ∃ x, lastTouch t (trace p h) = some x ∧ LeavesIn t x st :=
  ⟨last_touch_of_status, fun ⟨x, hl, hx⟩ => (status_some_iff p h t st).2 ⟨x, hl, hx.statusAfter_eq⟩⟩

/-- RUNNING iff the last event about the trial is `start`, `resume` or a result answered CONTINUE. -/
theorem running_iff (p : Params) (h : List Op) (t : Nat) :
    (run p h).statusOf t = some .running ↔
      ∃ o, lastTouch t (trace p h) = some (.start t, o) ∨ lastTouch t (trace p h) = some (.resume t, o) ∨
           lastTouch t (trace p h) = some (.result t .continue, o) := by
  rw [status_leaves_iff]; simp only [LeavesIn]; grind

/-- PAUSED_WITH_CHECKPOINT iff the last event about the trial is a result answered PAUSE. -/
theorem paused_with_checkpoint_iff (p : Params) (h : List Op) (t : Nat) :
    (run p h).statusOf t = some .pausedCp ↔ ∃ o, lastTouch t (trace p h) = some (.result t .pause, o) := by
  simp [status_leaves_iff, LeavesIn]

/-- PAUSED_NO_CHECKPOINT iff the last event about the trial is a loop end that handed it to
`delete_checkpoint`. -/
theorem paused_no_checkpoint_iff (p : Params) (h : List Op) (t : Nat) :
    (run p h).statusOf t = some .pausedNoCp ↔
      ∃ paused picks ids, lastTouch t (trace p h) = some (.loopEnd paused picks, .deleted ids) ∧ t ∈ ids := by
  rw [status_leaves_iff]; simp only [LeavesIn]; grind

/-- STOPPED_OR_COMPLETED iff the last event about the trial is a result answered STOP or its
completion. -/
theorem done_iff (p : Params) (h : List Op) (t : Nat) :
    (run p h).statusOf t = some .done ↔
      ∃ o, lastTouch t (trace p h) = some (.result t .stop, o) ∨ lastTouch t (trace p h) = some (.complete t, o) := by
  rw [status_leaves_iff]; simp only [LeavesIn]; grind

/-- A trial is absent from `_trial_status` iff no entry of the trace concerns it. -/
theorem absent_iff_never_mentioned (p : Params) (h : List Op) (t : Nat) :
    (run p h).statusOf t = none ↔ ∀ x ∈ trace p h, touches t x = false := by
  rw [status_exact]; unfold specStatus lastTouch
  simp only [Option.map_eq_none_iff, List.find?_eq_none, List.mem_reverse, Bool.not_eq_true]

/-- `_trial_status` never holds a trial twice (what makes `_count_trials_with_checkpoints` a count of
trials). -/
theorem status_keys_distinct (p : Params) (h : List Op) : ((run p h).status.map (·.1)).Nodup := by
  induction h using snoc_induction with
  | h0 => exact List.nodup_nil
  | hs h op ih => rw [run_snoc]; exact step_keys_nodup p _ op ih

/-- The last event about a trial whose checkpoint `on_loop_end` removes is the PAUSE decision for
it: since it was paused it has neither been resumed nor had its checkpoint removed already.  So no
checkpoint is deleted twice without a resume in between. -/
theorem removed_last_event_is_pause (p : Params) (h : List Op) (paused : List (Nat × Nat))
    (picks : Option (List (Nat × Nat))) (ids : List Nat)
    (hok : OpOK (run p h) (.loopEnd paused picks))
    (hout : (step p (run p h) (.loopEnd paused picks)).2 = .deleted ids) :
    ∀ t ∈ ids, ∃ o, lastTouch t (trace p h) = some (.result t .pause, o) :=
  fun t ht => (paused_with_checkpoint_iff p h t).1 (removed_only_paused_with_checkpoint p h paused picks ids hok hout t ht)

example : lastTouch 1 (trace pB hFour) = some (.result 1 .pause, .done) := by decide

/-- In particular never RUNNING, never stopped / completed, never already removed. -/
theorem never_removes_running (p : Params) (h : List Op) (paused : List (Nat × Nat))
    (picks : Option (List (Nat × Nat))) (ids : List Nat)
    (hok : OpOK (run p h) (.loopEnd paused picks))
    (hout : (step p (run p h) (.loopEnd paused picks)).2 = .deleted ids) (t : Nat) (ht : t ∈ ids) :
    (run p h).statusOf t ≠ some .running ∧ (run p h).statusOf t ≠ some .done ∧
    (run p h).statusOf t ≠ some .pausedNoCp ∧ (run p h).statusOf t ≠ none := by
  rw [removed_only_paused_with_checkpoint p h paused picks ids hok hout t ht]
  simp

example : OpOK (run pB hFour) leBoth ∧ (step pB (run pB hFour) leBoth).2 = .deleted [1, 0] ∧ 0 ∈ [1, 0] := by decide

/-- The `loopEnd` clause of the contract is necessary, and this is what the code really does:
`_filter_paused_trials` tests only `trial_id not in _trials_with_checkpoints_removed`, never
`_trial_status`.  If `terminator.paused_trials()` lists a trial the callback holds for RUNNING, its
checkpoint is deleted while it occupies a worker (history otherwise legal). -/
theorem removes_running_if_scheduler_lists_it_counterexample :
    ∃ (p : Params) (h : List Op) (paused : List (Nat × Nat)) (picks : Option (List (Nat × Nat))) (ids : List Nat) (t : Nat),
      Legal p h ∧ (step p (run p h) (.loopEnd paused picks)).2 = .deleted ids ∧ t ∈ ids ∧
      (run p h).statusOf t = some .running ∧ ¬ OpOK (run p h) (.loopEnd paused picks) :=
  ⟨pB, [.start 0, .start 1, .start 2], [(0, 1)], some [(0, 1)], [0], 0, by decide⟩

/-- For EVERY history: a trial marked PAUSED_NO_CHECKPOINT has an entry in
`_trials_with_checkpoints_removed` (so it is filtered out of the candidates). -/
theorem no_checkpoint_status_has_entry (p : Params) (h : List Op) (t : Nat)
    (hs : (run p h).statusOf t = some .pausedNoCp) : ∃ l, alookup t (run p h).removed = some l :=
  recorded p h t hs

example : (run pB hLong).statusOf 1 = some .pausedNoCp := by decide

/-- For every legal history `_trials_with_checkpoints_removed` is read off the trace: `t ↦ l` iff the
last event about `t` is a loop end that deleted its checkpoint, `l` being the level that loop end's
oracle answer carried for `t`. -/
theorem removed_map_exact (p : Params) (h : List Op) (hl : Legal p h) (t : Nat) :
    alookup t (run p h).removed = specRemoved t (trace p h) := by
  induction h using snoc_induction generalizing t with
  | h0 => rfl
  | hs h op ih =>
    obtain ⟨hl1, hok⟩ := (legal_snoc p h op).1 hl
    -- by the exactness so far there is no stale entry, which turns `OpOK` into what `step_removed` needs
    have hokr := OpOKr.of_opOK (noStale_of_exact (status_exact p h) (ih hl1)) hok
    rw [run_snoc, trace_snoc, specRemoved_snoc, step_removed p _ op t fun _ => hokr, ih hl1]

example : Legal pB hLong ∧ (run pB hLong).removed = [(1, 1)] ∧
    (run pB (hFour ++ [leBoth])).removed = [(1, 1), (0, 1)] := by decide

theorem noStale (p : Params) (h : List Op) (hl : Legal p h) : NoStale (run p h) :=
  noStale_of_exact (status_exact p h) (removed_map_exact p h hl)

/-- For every legal history the keys of `_trials_with_checkpoints_removed` are exactly the trials
marked PAUSED_NO_CHECKPOINT. -/
theorem removed_keys_iff_paused_no_checkpoint (p : Params) (h : List Op) (hl : Legal p h) (t : Nat) :
    (∃ l, alookup t (run p h).removed = some l) ↔ (run p h).statusOf t = some .pausedNoCp := by
  constructor
  · rintro ⟨l, hlk⟩
    exact Decidable.by_contra fun hne => nomatch (noStale p h hl t hne).symm.trans hlk
  · exact no_checkpoint_status_has_entry p h t

/-- The level recorded for a trial is the level of an entry of that trial in the list
`terminator.paused_trials()` returned inside the `on_loop_end` that removed its checkpoint. -/
theorem removed_level_from_scheduler_list (p : Params) (h : List Op) (hl : Legal p h) (t l : Nat)
    (hlk : alookup t (run p h).removed = some l) :
    ∃ paused picks ids, lastTouch t (trace p h) = some (.loopEnd paused picks, .deleted ids) ∧ (t, l) ∈ paused := by
  rw [removed_map_exact p h hl, specRemoved, Option.bind_eq_some_iff] at hlk
  obtain ⟨x, hlt, hlev⟩ := hlk
  obtain ⟨paused, pk, ids, rfl, hlev⟩ := levelIn_some hlev
  -- the entry is the output of `on_loop_end` in some reachable state: the answer was admissible
  obtain ⟨h1, h2, _, e2⟩ := mem_trace p h _ (lastTouch_mem hlt)
  exact ⟨paused, some pk, ids, hlt,
    loopEnd_deleted_level e2.symm (by simpa [touches] using lastTouch_touches hlt) hlev⟩

example : Legal pB hLong ∧ alookup 1 (run pB hLong).removed = some 1 := by decide

/-- The `start` clause of the contract is necessary: starting (instead of resuming) a trial whose
checkpoint has been removed leaves it RUNNING with a stale entry in
`_trials_with_checkpoints_removed` (`on_start_trial` does not touch that dict). -/
theorem start_clause_counterexample :
    ∃ (p : Params) (h : List Op) (op : Op) (t : Nat), Legal p h ∧ ¬ OpOK (run p h) op ∧
      (run p (h ++ [op])).statusOf t = some .running ∧ alookup t (run p (h ++ [op])).removed = some 1 :=
  ⟨pB, hFour ++ [leBoth], .start 0, 0, by decide⟩

/-- The `result … CONTINUE` clause of the contract is necessary, for the same reason (the CONTINUE
branch of `on_trial_result` does not touch that dict either; PAUSE and STOP pop the entry, which is
why they need no clause). -/
theorem continue_clause_counterexample :
    ∃ (p : Params) (h : List Op) (op : Op) (t : Nat), Legal p h ∧ ¬ OpOK (run p h) op ∧
      (run p (h ++ [op])).statusOf t = some .running ∧ alookup t (run p (h ++ [op])).removed = some 1 :=
  ⟨pB, hFour ++ [leBoth], .result 0 .continue, 0, by decide⟩

/-- The Tuner's life cycle of a trial (fresh ids are started, paused trials are resumed, only
running trials report or complete — a completion may follow a STOP of the same poll) implies the
contract. -/
theorem natural_implies_ok (s : State) (op : Op) (h : NaturalOK s op) : OpOK s op := by
  cases op with
  | start t => exact fun h' => nomatch h.symm.trans h'
  | result t d =>
    cases d with
    | «continue» => exact fun h' => nomatch h.symm.trans h'
    | _ => trivial
  | loopEnd paused picks => exact h
  | _ => trivial

example : NaturalOK (run pB hFour) leBoth ∧ NaturalOK (run pB hFour) (.result 2 .continue) := by decide

/-- … hence every history that follows the life cycle is legal. -/
theorem natural_legal_implies_legal (p : Params) (h : List Op) (hn : NaturalLegal p h) : Legal p h := by
  unfold NaturalLegal at hn
  unfold Legal
  generalize State.init = s at hn ⊢
  induction h generalizing s with
  | nil => trivial
  | cons op h ih => exact ⟨natural_implies_ok s op hn.1, ih _ hn.2⟩

example : NaturalLegal pB hLong := by decide

/-- No checkpoint is deleted twice without a resume in between: in a history that follows the life
cycle, the next event about a trial whose checkpoint has been removed (it stays
PAUSED_NO_CHECKPOINT until then, `status_exact`) can only be its resume — in particular not another
removal.  (With the weaker `OpOK` alone a late `result … PAUSE` for the paused trial would make the
callback believe the checkpoint is back.) -/
theorem after_removal_only_resume (p : Params) (h : List Op) (op : Op) (t : Nat)
    (hn : NaturalOK (run p h) op) (hs : (run p h).statusOf t = some .pausedNoCp)
    (ht : touches t (op, (step p (run p h) op).2) = true) : op = .resume t := by
  cases op with
  | start u => simp [touches] at ht; subst ht; simp [NaturalOK, hs] at hn
  | resume u => simp [touches] at ht; rw [ht]
  | result u d => simp [touches] at ht; subst ht; simp [NaturalOK, hs] at hn
  | complete u => simp [touches] at ht; subst ht; simp [NaturalOK, hs] at hn
  | loopEnd paused picks =>
    exfalso
    cases ho : (step p (run p h) (.loopEnd paused picks)).2 with
    | deleted ids =>
      rw [ho] at ht
      simp only [touches, List.contains_iff_mem] at ht
      have := removed_only_paused_with_checkpoint p h paused picks ids (natural_implies_ok _ _ hn) ho t ht
      rw [hs] at this; cases this
    | _ => rw [ho] at ht; simp [touches] at ht

example : NaturalOK (run pB (hFour ++ [leBoth])) (.resume 0) ∧ (run pB (hFour ++ [leBoth])).statusOf 0 = some .pausedNoCp ∧
    touches 0 (Op.resume 0, (step pB (run pB (hFour ++ [leBoth])) (.resume 0)).2) = true := by decide

/-- Under the life cycle the three `pop(trial_id, None)` of `on_trial_result` (PAUSE / STOP) and
`on_trial_complete` never find anything to pop: a trial that reports or completes is RUNNING, hence
has no entry.  (Changes to those three lines are invisible in any Tuner run; the correspondence stream
reaches them only through its direct cases.) -/
theorem pops_are_noops_in_life_cycle (p : Params) (h : List Op) (hn : NaturalLegal p h) (op : Op)
    (hop : NaturalOK (run p h) op) (hk : (∃ t d, op = .result t d) ∨ (∃ t, op = .complete t)) :
    (run p (h ++ [op])).removed = (run p h).removed := by
  have key := noStale p h (natural_legal_implies_legal p h hn)
  rw [run_snoc]
  rcases hk with ⟨t, d, rfl⟩ | ⟨t, rfl⟩
  · have := key t (by rw [show _ = some Status.running from hop]; nofun)
    cases d <;> simp [step, result, aerase_eq_self _ _ this]
  · have := key t (by rcases hop with ho | ho <;> rw [ho] <;> nofun)
    simp [step, aerase_eq_self _ _ this]

example : NaturalLegal pB (hFour ++ [leBoth, .resume 0]) ∧
    NaturalOK (run pB (hFour ++ [leBoth, .resume 0])) (.result 0 .pause) := by decide

/-- The life-cycle clause "only running trials report" is necessary for that: under `OpOK` alone, a
(late) report answered PAUSE for a trial whose checkpoint has been removed pops its entry and marks
it PAUSED_WITH_CHECKPOINT; the next loop end hands it to `delete_checkpoint` a second time, with no
resume in between. -/
theorem double_removal_without_life_cycle_counterexample :
    ∃ (p : Params) (h : List Op) (le1 le2 : Op) (mid : List Op) (t : Nat),
      Legal p (h ++ [le1] ++ mid ++ [le2]) ∧ ¬ NaturalLegal p (h ++ [le1] ++ mid ++ [le2]) ∧
      t ∈ deletedIds [(le1, (step p (run p h) le1).2)] ∧
      t ∈ deletedIds [(le2, (step p (run p (h ++ [le1] ++ mid)) le2).2)] ∧
      (∀ op ∈ mid, isResume op = false) :=
  ⟨pB, hFour, leBoth, .loopEnd [(0, 1), (1, 1)] (some [(0, 1)]), [.result 0 .pause], 0, by decide⟩

/-- What `on_loop_end` guarantees when it returns, exactly.  Within the limit
(`count ≤ max_num_checkpoints`) it does nothing.  Beyond it, it removes
`min(count − max_num_checkpoints, len(filtered))` checkpoints of paused trials and no running
trial is touched. -/
theorem count_after_loop_end (p : Params) (h : List Op) (paused : List (Nat × Nat))
    (picks : Option (List (Nat × Nat))) (ids : List Nat)
    (hok : OpOK (run p h) (.loopEnd paused picks))
    (hout : (step p (run p h) (.loopEnd paused picks)).2 = .deleted ids) :
    (excess p (run p h) ≤ 0 → run p (h ++ [.loopEnd paused picks]) = run p h ∧ ids = []) ∧
    (0 < excess p (run p h) →
      countCp (run p (h ++ [.loopEnd paused picks])) +
        min (excess p (run p h)).toNat (filterPaused (run p h) paused).length = countCp (run p h) ∧
      numRunning (run p (h ++ [.loopEnd paused picks])) = numRunning (run p h) ∧
      ids.length = min (excess p (run p h)).toNat (filterPaused (run p h) paused).length) := by
  rw [run_snoc]
  exact loopEnd_count (recorded p h) hok hout

example : 0 < excess pB (run pB hFour) ∧ countCp (run pB hFour) = 4 ∧
    countCp (run pB (hFour ++ [leBoth])) = 2 := by decide

theorem round_eq {c c' F : Nat} {m : Int} (d : c' + min ((c : Int) - m).toNat F = c) (hex : 0 < (c : Int) - m)
    (hF : (c : Int) - m ≤ F) : (c' : Int) = m := by omega

theorem countCp_le_filtered_run (p : Params) (h : List Op) (hl : Legal p h) (paused : List (Nat × Nat))
    (hcomp : Complete (run p h) paused) :
    countCp (run p h) ≤ numRunning (run p h) + (filterPaused (run p h) paused).length :=
  countCp_le_filtered (run p h) paused (status_keys_distinct p h) (noStale p h hl) hcomp

/-- THE PROMISE.  After `on_loop_end` returned, the number of trials that hold a checkpoint (RUNNING or
PAUSED_WITH_CHECKPOINT in the callback's books) is at most
`max(max_num_checkpoints, number of RUNNING trials)` — provided the history is legal and the
scheduler's list is complete (names every trial the callback holds for PAUSED_WITH_CHECKPOINT). -/
theorem promise (p : Params) (h : List Op) (hl : Legal p h) (paused : List (Nat × Nat))
    (picks : Option (List (Nat × Nat))) (ids : List Nat)
    (hok : OpOK (run p h) (.loopEnd paused picks)) (hcomp : Complete (run p h) paused)
    (hout : (step p (run p h) (.loopEnd paused picks)).2 = .deleted ids) :
    (countCp (run p (h ++ [.loopEnd paused picks])) : Int) ≤
      max p.maxCp (numRunning (run p (h ++ [.loopEnd paused picks]))) := by
  rw [run_snoc]
  exact loopEnd_promise (status_keys_distinct p h) (recorded p h) (noStale p h hl) hok hcomp hout

example : Legal pB hFour ∧ OpOK (run pB hFour) leBoth ∧ Complete (run pB hFour) [(0, 1), (1, 1)] := by decide

/-- When enough paused candidates are on offer, exactly `max_num_checkpoints` checkpoints remain: the
callback removes no more than it has to. -/
theorem promise_exact_when_enough (p : Params) (h : List Op) (paused : List (Nat × Nat))
    (picks : Option (List (Nat × Nat))) (ids : List Nat)
    (hok : OpOK (run p h) (.loopEnd paused picks))
    (hout : (step p (run p h) (.loopEnd paused picks)).2 = .deleted ids)
    (hex : 0 < excess p (run p h))
    (henough : excess p (run p h) ≤ (filterPaused (run p h) paused).length) :
    (countCp (run p (h ++ [.loopEnd paused picks])) : Int) = p.maxCp :=
  round_eq ((count_after_loop_end p h paused picks ids hok hout).2 hex).1 hex henough

example : 0 < excess pB (run pB hFour) ∧
    excess pB (run pB hFour) ≤ (filterPaused (run pB hFour) [(0, 1), (1, 1)]).length := by decide

/-- "At most `max_num_checkpoints` checkpoints after every loop end" is FALSE: running trials keep
theirs.  Three running trials, `max_num_checkpoints = 2`, nothing paused: the (baseline) callback
returns and three checkpoints remain.  Legal history, complete list. -/
theorem promise_max_alone_counterexample :
    ∃ (p : Params) (h : List Op) (paused : List (Nat × Nat)) (picks : Option (List (Nat × Nat))) (ids : List Nat),
      Legal p (h ++ [.loopEnd paused picks]) ∧ Complete (run p h) paused ∧
      (step p (run p h) (.loopEnd paused picks)).2 = .deleted ids ∧
      p.maxCp < countCp (run p (h ++ [.loopEnd paused picks])) :=
  ⟨pB, [.start 0, .start 1, .start 2], [], some [], [], by decide⟩

/-- Completeness of the scheduler's list is necessary for the promise: a paused trial with a
checkpoint that `paused_trials()` does not name keeps its checkpoint beyond the limit. -/
theorem promise_incomplete_list_counterexample :
    ∃ (p : Params) (h : List Op) (paused : List (Nat × Nat)) (picks : Option (List (Nat × Nat))) (ids : List Nat),
      Legal p (h ++ [.loopEnd paused picks]) ∧ (step p (run p h) (.loopEnd paused picks)).2 = .deleted ids ∧
      max p.maxCp (numRunning (run p (h ++ [.loopEnd paused picks]))) < countCp (run p (h ++ [.loopEnd paused picks])) :=
  ⟨pB, hFour, [(0, 1)], some [(0, 1)], [0], by decide⟩

/-- `_num_trials_resumed` is the number of `on_resume_trial` calls (every history). -/
theorem num_resumed_counts_resumes (p : Params) (h : List Op) :
    (run p h).numResumed = (h.filter isResume).length := by
  induction h using snoc_induction with
  | h0 => rfl
  | hs h op ih =>
    rw [run_snoc, (step_counters p _ op).1, ih, List.filter_append, List.length_append]
    cases hr : isResume op <;> simp [List.filter, hr]

/-- `_num_checkpoints_removed` is the number of ids handed to `delete_checkpoint` (every history). -/
theorem num_removed_counts_deletions (p : Params) (h : List Op) :
    (run p h).numRemoved = (deletedIds (trace p h)).length := by
  induction h using snoc_induction with
  | h0 => rfl
  | hs h op ih => rw [run_snoc, trace_snoc, deletedIds_append, List.length_append, (step_counters p _ op).2.1, ih]

/-- `_trials_resumed_without_checkpoint` lists, in order, exactly the resumes of trials whose last
event before the resume was the removal of their checkpoint, with the level recorded then (legal
histories). -/
theorem resumed_without_checkpoint_exact (p : Params) (h : List Op) (hl : Legal p h) :
    (run p h).resumedNoCp = specRes (trace p h) := by
  induction h using snoc_induction with
  | h0 => rfl
  | hs h op ih =>
    obtain ⟨hl1, _⟩ := (legal_snoc p h op).1 hl
    rw [run_snoc, trace_snoc, specRes_snoc, (step_counters p _ op).2.2, ih hl1]
    cases op with
    | resume u => simp only [removed_map_exact p h hl1 u]
    | _ => rfl

example : (run pB hLong).numResumed = 1 ∧ (run pB hLong).numRemoved = 2 ∧
    (run pB hLong).resumedNoCp = [(0, 1)] ∧ specRes (trace pB hLong) = [(0, 1)] ∧
    deletedIds (trace pB hLong) = [1, 0] := by decide

/-- `on_loop_end` raises the `ValueError` of `zip(*[])` exactly when the instance is the
estimator-based callback, more trials hold a checkpoint than `max_num_checkpoints`, and the filtered
list is empty. -/
theorem loop_end_raises_iff (p : Params) (s : State) (paused : List (Nat × Nat)) (picks : Option (List (Nat × Nat))) :
    (step p s (.loopEnd paused picks)).2 = .raised ↔
      p.variant = .estimator ∧ 0 < excess p s ∧ filterPaused s paused = [] := by
  constructor
  · intro h
    have hc := loopEnd_cases p s paused picks
    simp only [step] at h
    generalize loopEnd p s paused picks = r at hc h
    cases hc with
    | raised hex he hv => exact ⟨hv, hex, he⟩
    | _ => cases h
  · rintro ⟨hv, hex, he⟩
    exact congrArg Prod.snd (loopEnd_raised picks hex he hv)

/-- A concrete legal history in which `on_loop_end` raises (and with it `Tuner.run()`): three workers,
`max_num_checkpoints = 2`, estimator-based callback — the FIRST loop end raises, with the
scheduler's (empty) list complete. -/
theorem loop_end_raises_counterexample :
    ∃ (p : Params) (h : List Op) (paused : List (Nat × Nat)) (picks : Option (List (Nat × Nat))),
      Legal p (h ++ [.loopEnd paused picks]) ∧ Complete (run p h) paused ∧
      (step p (run p h) (.loopEnd paused picks)).2 = .raised :=
  ⟨pE, [.start 0, .start 1, .start 2], [], none, by decide⟩

/-- The two baselines never raise that error. -/
theorem baselines_never_raise (p : Params) (s : State) (paused : List (Nat × Nat)) (picks : Option (List (Nat × Nat)))
    (hv : p.variant ≠ .estimator) : (step p s (.loopEnd paused picks)).2 ≠ .raised := by
  rw [Ne, loop_end_raises_iff]
  exact fun h => hv h.1

example : pB.variant ≠ .estimator := by decide

/-- `on_loop_end` does not raise that error as long as no more trials are RUNNING (in the callback's
books: a failed trial stays RUNNING there for ever) than `max_num_checkpoints`, the history is legal
and the scheduler's list is complete. -/
theorem no_raise_partial (p : Params) (h : List Op) (hl : Legal p h) (paused : List (Nat × Nat))
    (picks : Option (List (Nat × Nat))) (hcomp : Complete (run p h) paused)
    (hrun : (numRunning (run p h) : Int) ≤ p.maxCp) :
    (step p (run p h) (.loopEnd paused picks)).2 ≠ .raised := by
  rw [Ne, loop_end_raises_iff]
  rintro ⟨_, hex, hemp⟩
  have hle := countCp_le_filtered_run p h hl paused hcomp
  rw [hemp, List.length_nil] at hle
  unfold excess at hex
  omega

example : Legal pE hFour ∧ Complete (run pE hFour) [(0, 1), (1, 1)] ∧
    (numRunning (run pE hFour) : Int) ≤ pE.maxCp := by decide

/-- The oracle's own failure leaves `on_loop_end` exactly when it was consulted (beyond the limit,
not the forced `ValueError`) and failed. -/
theorem loop_end_oracle_raised_iff (p : Params) (s : State) (paused : List (Nat × Nat))
    (picks : Option (List (Nat × Nat))) :
    (step p s (.loopEnd paused picks)).2 = .oracleRaised ↔
      0 < excess p s ∧ ¬ (filterPaused s paused = [] ∧ p.variant = .estimator) ∧ picks = none := by
  constructor
  · intro h
    have hc := loopEnd_cases p s paused picks
    simp only [step] at h
    generalize loopEnd p s paused picks = r at hc h
    cases hc with
    | oracleRaised hex hne hp => exact ⟨hex, hne, hp⟩
    | _ => cases h
  · rintro ⟨hex, hne, rfl⟩
    exact congrArg Prod.snd (loopEnd_oracleRaised hex hne)

/-- Whenever `on_loop_end` raises, or the oracle answer is inadmissible, the books are untouched:
nothing is deleted, nothing is half done. -/
theorem failed_outcome_keeps_state (p : Params) (s : State) (paused : List (Nat × Nat))
    (picks : Option (List (Nat × Nat))) (h : ∀ ids, (step p s (.loopEnd paused picks)).2 ≠ .deleted ids) :
    (step p s (.loopEnd paused picks)).1 = s := by
  simp only [step] at h ⊢
  have hc := loopEnd_cases p s paused picks
  generalize loopEnd p s paused picks = r at hc h
  cases hc with
  | removed hh hne pk hp hlen hmem hnd => exact absurd rfl (h _)
  | _ => rfl

example : (step pE (run pE [.start 0, .start 1, .start 2]) (.loopEnd [] none)).2 = .raised ∧
    (step pE (run pE hFour) (.loopEnd [(0, 1)] none)).2 = .oracleRaised := by decide

/-- Within the limit `on_loop_end` does nothing at all (it does not even ask the scheduler). -/
theorem loop_end_noop_within_limit (p : Params) (s : State) (paused : List (Nat × Nat))
    (picks : Option (List (Nat × Nat))) (h : (countCp s : Int) ≤ p.maxCp) :
    step p s (.loopEnd paused picks) = (s, .deleted []) :=
  loopEnd_within picks (by unfold excess; omega)

example : (countCp (run pB [.start 0, .start 1]) : Int) ≤ pB.maxCp := by decide

end SyneTune.C20Early
