import SyneTune.Lemmas.SymmetrySched
import SyneTune.Props.C03
/-
C15 — minimising f and maximising -f are the same experiment, for the WHOLE asynchronous
Hyperband scheduler (`HyperbandScheduler` with any of the six rung-system types: stopping,
promotion, pasha, cost_promotion, rush_stopping, rush_promotion) and EVERY history of scheduler
operations.

`negSched` mirrors a scheduler state (mode flipped; every rung entry's metric, every RUSH
threshold and the stored last reported metric of every trial negated; everything else identical);
`negOp` mirrors an operation (metric of `result` / `complete` negated; hints, cost and PASHA's
`eps` input unchanged).  Each step theorem says: the mirrored scheduler on the mirrored operation
answers the same and ends in the mirror of the original's new state.

All six types are symmetric in the model.  For PASHA note
`softGroups_symm`: the model keeps both ranking lists best-first in either mode (as the code's
`sorted(..., reverse=(mode == "max"))` does), and the ε-tests of the two modes are mirror images.
PASHA's `epsilon` after `_update_epsilon()` is an INPUT of the model (`eps`), assumed equal in the
two experiments; that the real code computes the same ε is checked by the paired runs.
-/
namespace SyneTune.C15Sched
open SyneTune SyneTune.C15 SyneTune.C04K

/-- every promotion quantile of every rung system lies in (0,1) (`QOK` of `Props/C15.lean`).
No assumption on the mode: the step theorems hold for `min` and for `max`. -/
def WF (s : Sched) : Prop := ∀ sys ∈ s.mgr.systems, QOK sys.rungs

/-- **`WF` is preserved by every operation** (no operation changes a promotion quantile). -/
theorem step_WF (s : Sched) (op : SOp) (hw : WF s) : WF (stepS s op) := by
  have h1 : MgrQOK (stepS s op).mgr ↔ MgrQOK s.mgr := by
    rw [MgrQOK_iff, MgrQOK_iff, stepS_const]
  exact h1.mpr hw

theorem run_WF (s : Sched) (ops : List SOp) (hw : WF s) : WF (runS s ops) := runS_inv step_WF s hw ops

theorem neg_WF (s : Sched) (hw : WF s) : WF (negSched s) := MgrQOK_neg s.mgr hw

/-- **Every scheduler built by `Manager.init` is well-formed**: any type, mode, number of
brackets, `rung_system_per_bracket`, for positive strictly increasing rung levels below `max_t`
(what `C03.rung_levels_rf`, `C03.rung_levels_inc` and the explicit-list assertions give). -/
theorem init_WF (ty : HBType) (mode : Mode) (maxT : Nat) (levels : List Nat) (brackets : Nat)
    (perBracket : Bool) (numThr : Nat) (sd : SearcherData) (my mra hc : Bool)
    (hpos : ∀ l ∈ levels, 0 < l) (hinc : (levels ++ [maxT]).Pairwise (· < ·)) :
    WF { mgr := Manager.init ty mode maxT levels brackets perBracket numThr, searcherData := sd,
         pendingMyopic := my, maxResourceAttr := mra, hasCost := hc } := by
  intro sys hsys rg hrg
  obtain ⟨k, rfl⟩ := Manager.init_sys hsys
  rw [(mkSys_fields ..).1] at hrg
  exact C03.promote_quantiles_in_unit_interval levels maxT hpos hinc rg.q (List.mem_of_mem_drop (mem_mkRungSys hrg).2.1)

/-- **`_suggest` is symmetric**: same suggestion (start / resume of the same trial from the same
rung to the same milestone), same searcher calls, same round-off flag, same error. -/
theorem suggest_symm (s : Sched) (hw : WF s) (newTid bracket : Nat) (hint : Option Nat) :
    (negSched s).suggest newTid bracket hint =
      (s.suggest newTid bracket hint).map (fun res => (negSched res.1, res.2)) :=
  symm_of_min (fun s _ => s.suggest newTid bracket hint) (fun res => (negSched res.1, res.2))
    (fun _ => by simp only [negSched_negSched])
    (fun s _ hm hq => suggest_symm_min s hm hq newTid bracket hint) s 0 hw

/-- **`on_trial_result` is symmetric**: same decision (CONTINUE / PAUSE / STOP), same round-off
flag, same searcher calls up to the negated metric (`negRes`), same error. -/
theorem result_symm (s : Sched) (hw : WF s) (tid r : Nat) (v : Rat) (hint : Bool) (cost eps : Rat) :
    (negSched s).onResult tid r (-v) hint cost eps =
      (s.onResult tid r v hint cost eps).map (fun res => (negSched res.1, negRes res.2)) :=
  symm_of_min (fun s v => s.onResult tid r v hint cost eps) (fun res => (negSched res.1, negRes res.2))
    (fun _ => by simp only [negSched_negSched, negRes_negRes])
    (fun s v hm hq => onResult_symm_min s hm hq tid r v hint cost eps) s v hw

/-- **`on_trial_remove` is symmetric.** -/
theorem remove_symm (s : Sched) (tid : Nat) : (negSched s).onRemove tid = negSched (s.onRemove tid) :=
  cleanup_symm s tid .pause

/-- **`on_trial_error` is symmetric**: same searcher calls. -/
theorem error_symm (s : Sched) (tid : Nat) :
    (negSched s).onError tid = (negSched (s.onError tid).1, (s.onError tid).2) := by
  simp only [Sched.onError, cleanup_symm]

/-- **`on_trial_complete` is symmetric**: same searcher calls up to the negated metric, same error. -/
theorem complete_symm (s : Sched) (tid r : Nat) (v : Rat) :
    (negSched s).onComplete tid r (-v) =
      (s.onComplete tid r v).map (fun res => (negSched res.1, res.2.map negCall)) :=
  onComplete_symm s tid r v

/-- what the outside sees of one operation: the suggestion or the decision with its round-off
flag, or the error -/
inductive Out
  | suggestion (sg : Suggestion) (free : Bool)
  | decision (d : Decision) (free : Bool)
  | done
  | err (e : Err)
deriving DecidableEq, Repr

def outS (s : Sched) : SOp → Out
  | .suggest n b h =>
    match s.suggest n b h with | .ok res => .suggestion res.2.1 res.2.2.2 | .error e => .err e
  | .result t r v h c e =>
    match s.onResult t r v h c e with | .ok res => .decision res.2.decision res.2.free | .error e => .err e
  | .remove _ => .done
  | .error _ => .done
  | .complete t r v => match s.onComplete t r v with | .ok _ => .done | .error e => .err e

/-- the searcher calls issued by one operation (none when it is rejected) -/
def callsS (s : Sched) : SOp → List SCall
  | .suggest n b h => match s.suggest n b h with | .ok res => res.2.2.1 | .error _ => []
  | .result t r v h c e => match s.onResult t r v h c e with | .ok res => res.2.calls | .error _ => []
  | .remove _ => []
  | .error t => (s.onError t).2
  | .complete t r v => match s.onComplete t r v with | .ok res => res.2 | .error _ => []

def outsS (s : Sched) : List SOp → List Out
  | [] => []
  | op :: ops => outS s op :: outsS (stepS s op) ops

def callsOfRun (s : Sched) : List SOp → List (List SCall)
  | [] => []
  | op :: ops => callsS s op :: callsOfRun (stepS s op) ops

theorem op_symm (s : Sched) (op : SOp) (hw : WF s) :
    stepS (negSched s) (negOp op) = negSched (stepS s op) ∧ outS (negSched s) (negOp op) = outS s op ∧
    callsS (negSched s) (negOp op) = (callsS s op).map negCall := by
  cases op with
  | suggest n b h =>
    simp only [negOp, stepS, outS, callsS, suggest_symm s hw]
    cases hs : s.suggest n b h with
    | error e => exact ⟨rfl, rfl, rfl⟩
    | ok res =>
      obtain ⟨_, _, _, _, _, ha⟩ := Sched.suggest_ok hs
      obtain ⟨_, _, hc⟩ := Sched.afterSchedule_calls ha
      exact ⟨rfl, rfl, (hc ▸ map_pending_negCall _ _).symm⟩
  | result t r v h c e =>
    simp only [negOp, stepS, outS, callsS, result_symm s hw]
    cases s.onResult t r v h c e <;> exact ⟨rfl, rfl, rfl⟩
  | remove t => exact ⟨remove_symm s t, rfl, rfl⟩
  | error t => simp only [negOp, stepS, outS, callsS, error_symm]; exact ⟨trivial, trivial, rfl⟩
  | complete t r v =>
    simp only [negOp, stepS, outS, callsS, complete_symm]
    cases s.onComplete t r v <;> exact ⟨rfl, rfl, rfl⟩

/-- **One step of the mirrored experiment is the mirror of one step of the original**, for
every operation (accepted or rejected), every type, both modes. -/
theorem step_symm (s : Sched) (op : SOp) (hw : WF s) :
    stepS (negSched s) (negOp op) = negSched (stepS s op) := (op_symm s op hw).1

theorem out_symm (s : Sched) (op : SOp) (hw : WF s) : outS (negSched s) (negOp op) = outS s op :=
  (op_symm s op hw).2.1

theorem call_symm (s : Sched) (op : SOp) (hw : WF s) :
    callsS (negSched s) (negOp op) = (callsS s op).map negCall := (op_symm s op hw).2.2

/-- **C15 for the whole scheduler, every history**: the mirrored history on the mirrored scheduler ends in the
mirror of the original's final state; in the same induction, `outs_symm` and `calls_symm`. -/
theorem run_outs_symm (s : Sched) (ops : List SOp) (hw : WF s) :
    runS (negSched s) (ops.map negOp) = negSched (runS s ops) ∧
    outsS (negSched s) (ops.map negOp) = outsS s ops ∧
    callsOfRun (negSched s) (ops.map negOp) = (callsOfRun s ops).map (fun cs => cs.map negCall) := by
  induction ops generalizing s with
  | nil => exact ⟨rfl, rfl, rfl⟩
  | cons op ops ih =>
    obtain ⟨h1, h2, h3⟩ := op_symm s op hw
    obtain ⟨i1, i2, i3⟩ := ih (stepS s op) (step_WF s op hw)
    simp only [List.map_cons, runS, List.foldl_cons, outsS, callsOfRun, h1, h2, h3]
    exact ⟨i1, by rw [i2], by rw [i3]⟩

theorem run_symm (s : Sched) (ops : List SOp) (hw : WF s) :
    runS (negSched s) (ops.map negOp) = negSched (runS s ops) := (run_outs_symm s ops hw).1

/-- **The two experiments produce the same output stream**: identical suggestions, decisions,
round-off flags and errors, operation by operation, over every history. -/
theorem outs_symm (s : Sched) (ops : List SOp) (hw : WF s) :
    outsS (negSched s) (ops.map negOp) = outsS s ops := (run_outs_symm s ops hw).2.1

/-- **The searcher sees the same calls**, with the metric values negated, over every history. -/
theorem calls_symm (s : Sched) (ops : List SOp) (hw : WF s) :
    callsOfRun (negSched s) (ops.map negOp) = (callsOfRun s ops).map (fun cs => cs.map negCall) :=
  (run_outs_symm s ops hw).2.2

/-- the mirror maps are involutions: "maximising f = minimising -f" is the same statement -/
theorem neg_involutive (s : Sched) (op : SOp) : negSched (negSched s) = s ∧ negOp (negOp op) = op :=
  ⟨negSched_negSched s, negOp_negOp op⟩

theorem neg_mode (s : Sched) : (negSched s).mgr.mode = s.mgr.mode.flip := rfl

/-- a stopping-type (ASHA stopping) scheduler: `max_t = 9`, rung levels 1, 3 -/
def exStop : Sched := { mgr := Manager.init .stopping .min 9 [1, 3] 1 false }
def exPromo : Sched := { mgr := Manager.init .promotion .min 9 [1, 3] 1 false }
/-- RUSH stopping with one threshold candidate -/
def exRush : Sched := { mgr := Manager.init .rushStopping .min 9 [1, 3] 1 false 1 }
def exPasha : Sched := { mgr := Manager.init .pasha .min 27 [1, 3, 9] 1 false }

example : WF exStop :=
  init_WF .stopping .min 9 [1, 3] 1 false 0 .rungs false false false (by decide) (by decide)
example : WF exPromo :=
  init_WF .promotion .min 9 [1, 3] 1 false 0 .rungs false false false (by decide) (by decide)
example : WF exRush :=
  init_WF .rushStopping .min 9 [1, 3] 1 false 1 .rungs false false false (by decide) (by decide)
example : WF exPasha :=
  init_WF .pasha .min 27 [1, 3, 9] 1 false 0 .rungs false false false (by decide) (by decide)

/-- two trials report 1 and 2 at the first rung: the second is STOPPED (cutoff 4/3) -/
def histStop : List SOp :=
  [.suggest 0 0 none, .result 0 1 1 false 0 0, .suggest 1 0 none, .result 1 1 2 false 0 0,
   .result 0 3 1 false 0 0]

/-- two trials pause at the first rung with 1 and 2; the next `_suggest` PROMOTES trial 0 -/
def histPromo : List SOp :=
  [.suggest 0 0 none, .result 0 1 1 false 0 0, .suggest 1 0 none, .result 1 1 2 false 0 0,
   .suggest 2 0 none, .result 0 3 1 false 0 0]

/-- a STOP occurs in the original … -/
example : outsS exStop histStop =
    [.suggestion (.start 0 0 1) false, .decision .continue false, .suggestion (.start 1 0 1) false,
     .decision .stop false, .decision .continue false] := by decide +kernel

/-- … and, evaluated independently of the theorem, in the mirrored experiment (mode max, metrics -1, -2). -/
example : outsS (negSched exStop) (histStop.map negOp) = outsS exStop histStop := by decide +kernel

example : (negSched exStop).mgr.mode = .max := rfl

/-- a promotion (resume of trial 0 from rung 1 to milestone 3) occurs in the original … -/
example : outsS exPromo histPromo =
    [.suggestion (.start 0 0 1) false, .decision .pause false, .suggestion (.start 1 0 1) false,
     .decision .pause false, .suggestion (.resume 0 1 3) false, .decision .pause false] := by decide +kernel

/-- … and in the mirrored experiment. -/
example : outsS (negSched exPromo) (histPromo.map negOp) = outsS exPromo histPromo := by decide +kernel

/-- RUSH stopping and PASHA on the same histories: STOP resp. promotion occur in both experiments -/
example : outsS (negSched exRush) (histStop.map negOp) = outsS exRush histStop ∧
    (Out.decision .stop false) ∈ outsS exRush histStop := by decide +kernel

example : outsS (negSched exPasha) (histPromo.map negOp) = outsS exPasha histPromo ∧
    (Out.suggestion (.resume 0 1 3) false) ∈ outsS exPasha histPromo := by decide +kernel

end SyneTune.C15Sched
