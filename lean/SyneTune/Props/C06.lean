import SyneTune.Lemmas.SearcherDomains
import SyneTune.Lemmas.RandomRestrictRun
import SyneTune.Lemmas.SearcherGrid
/-
C06 — suggestions are valid, typed configurations; initial points first; no repeats.
Property theorems and examples of their hypotheses; helper lemmas are in
`Lemmas/{SearcherDomains,SearcherGrid,SearcherRuns}.lean`; those about the random searcher are proved for the
model with `restrict_configurations` (`Lemmas/RandomRestrict{,Run}.lean`), which without a list
is `Model/RandomSearcher.lean`.
Models: `Model/{Searcher,InitialPoints,Exclusion,RandomSearcher,Grid}.lean`.

Conventions: `Space.wfb sp` is the executable well-formedness check of a configuration
space (distinct keys; non-empty homogeneous value lists; ordered bounds; casting/clipping
leaves listed values unchanged) — the correspondence driver evaluates it on every space
the stream generates.  Draws of the samplers, the shuffle permutation and the optimiser's
proposals are inputs, quantified universally.
-/
namespace SyneTune.C06
open SyneTune SyneTune.Srch

/-- **Every suggestion has all keys, typed member values, constants unchanged.**  If the
configuration `c` returned by a searcher gives every hyperparameter a member of its domain,
then `FIFOScheduler._suggest` / `TrialScheduler.suggest` (cast, register, post-process)
succeed and the suggested configuration `full` has exactly the keys of the space in its
order, every hyperparameter value is a member of its domain and has the domain's value
type, and every constant has the space's value (unless `c` itself carries that key). -/
theorem keys_types_members (sp : Space) (hwf : Space.wfb sp = true) (c : Config)
    (hv : ValidOn (hpEntries sp) c) :
    ∃ full, schedulerConfig sp c = .ok full ∧ FullValid sp c full :=
  schedulerConfig_valid sp hwf c hv

/-- `cast_config_values` is the identity on valid values (so casting never moves a
configuration a searcher found admissible). -/
theorem cast_member (d : Dom) (hwf : d.wfb = true) (v : Val) (hm : d.member v = true) :
    d.cast v none = .ok v :=
  Srch.cast_member d hwf v hm

/-- **Random searcher (any history).**  From the freshly constructed searcher, if the
sampler's draws are valid configurations (C07 contract), every configuration returned by
`get_config` — initial or drawn, after any history of suggest / pending / failed / result
events — is turned by the scheduler into a configuration with all keys, typed member values
and the space's constants. -/
theorem keys_types_members_random (sp : Space) (hwf : Space.wfb sp = true) (imm : RImm)
    (hints : List (String × Nat)) (p2e : Option (List Config)) (init : List Config)
    (hinit : imputePoints sp hints p2e = .ok init)
    (tape : Nat → Config) (htape : ∀ i, HpValid (hpEntries sp) (tape i))
    (ops : List ROp) (s' : RState) (outs : List (Option Config))
    (h : RState.run imm tape (RState.init init) ops = .ok (s', outs)) :
    ∀ c, some c ∈ outs → ∃ full, schedulerConfig sp c = .ok full ∧ FullValid sp c full := by
  intro c hc
  refine keys_types_members sp hwf c (HpValid.validOn hwf ?_)
  rcases (xrun_served (xrun_of_run h id) rfl).mem hc with hin | ⟨⟨j, rfl⟩, -⟩
  · exact imputePoints_valid sp hwf hints p2e init hinit c hin
  · exact htape j

/-- **Grid searcher.**  A configuration returned by `GridSearcher.get_config` is an initial
configuration or a grid point; if every grid point gives each hyperparameter a member of
its domain (proved for the categorical / finite-range / constant factors by construction,
C07 for the sub-sampled numeric factors), the scheduler's suggestion has all keys, typed
member values and the space's constants (the grid carries the constants itself). -/
theorem keys_types_members_grid (sp : Space) (hwf : Space.wfb sp = true) (imm : GImm)
    (s s' : GState) (c : Config) (h : s.getConfig imm = .ok (s', some c))
    (hinit : ∀ c ∈ s.p2e, HpValid (hpEntries sp) c)
    (hgrid : ∀ combo ∈ s.combos, ValidOn (hpEntries sp) (zipConfig imm.hpKeys combo)) :
    ∃ full, schedulerConfig sp c = .ok full ∧ FullValid sp c full := by
  apply keys_types_members sp hwf c
  rcases GState.getConfig_some h with hc | ⟨combo, hm, rfl⟩
  · exact HpValid.validOn hwf (hinit c hc)
  · exact hgrid combo hm

/-- **PBT `_explore`.**  For every old configuration, every multiplier and every tape:
each new hyperparameter value is a member of its domain (the perturbation branch: clip,
then cast) or is literally a value the domain's own sampler returned (resampling branch,
C07 contract). -/
theorem explore_members (kc : PbtConst) (sp : Space) (hwf : Space.wfb sp = true) (old : Config)
    (hints : List (String × Nat)) (tape : List Draw) (upd : Config) (rest : List Draw)
    (h : exploreLoop kc old hints (hpEntries sp) tape = .ok (upd, rest)) :
    ExploreOK (hpEntries sp) upd tape ∧
    (∀ (d : Dom) (ov : Val) (mult : Rat) (hint : Option Nat) (w : Val), d.wfb = true →
      d.isNumerical = true → perturb d ov mult hint = .ok w → d.member w = true) := by
  have hw := (Space.wfb_iff.1 hwf).1
  exact ⟨exploreLoop_ok kc old hints tape (hpEntries sp) tape upd rest hw (fun _ => id) h,
         fun d ov mult hint w hd hn hp => perturb_member d hd hn ov mult hint w hp⟩

/-- **`impute_points_to_evaluate`.**  The list of initial configurations is: one imputed
configuration per given point (`None ↦ [{}]`) — for each hyperparameter the user's value
(cast; rejected with an assertion if outside the domain) or, if missing, the mid-point
default — with later duplicates removed: first occurrence kept, order preserved, no two
entries equal.  -/
theorem impute (sp : Space) (hwf : Space.wfb sp = true) (hints : List (String × Nat))
    (p2e : Option (List Config)) (cs : List Config) (h : imputePoints sp hints p2e = .ok cs) :
    ∃ all, all.length = (p2e.getD [[]]).length ∧
      (∀ (i : Nat) (p : Config), (p2e.getD [[]])[i]? = some p →
        ∃ c, all[i]? = some c ∧ HpValid (hpEntries sp) c ∧
          ∀ k d, (k, d) ∈ hpEntries sp → ∃ v, (k, v) ∈ c ∧
            (match cget k p with
             | some given => d.defaultValue given = .ok v
             | none => d.midpoint (hints.lookup k) = .ok v)) ∧
      cs = firstOcc all ∧ cs.Nodup ∧ cs.Sublist all ∧ (∀ c, c ∈ cs ↔ c ∈ all) := by
  obtain ⟨all, ha, rfl⟩ := imputePoints_eq h
  obtain ⟨hl, hi⟩ := imputeAll_spec hints (hpEntries sp) _ all ha
  refine ⟨all, hl, fun i p hp => ?_, rfl, firstOcc_nodup all, firstOcc_sublist all, mem_firstOcc all⟩
  obtain ⟨c, hc1, hc2⟩ := hi i p hp
  obtain ⟨a, b⟩ := imputeDefault_spec p hints (hpEntries sp) c (Space.wfb_iff.1 hwf).1 hc2
  exact ⟨c, hc1, a, b⟩

/-- every initial configuration lists exactly the hyperparameters, in the order of the
space, with values that are members of their domains -/
theorem impute_members (sp : Space) (hwf : Space.wfb sp = true) (hints : List (String × Nat))
    (p2e : Option (List Config)) (cs : List Config) (h : imputePoints sp hints p2e = .ok cs) :
    ∀ c ∈ cs, HpValid (hpEntries sp) c :=
  imputePoints_valid sp hwf hints p2e cs h

/-- **The mid-point rule, kind by kind** (`_non_default_config`): first category; middle
category of an ordinal; arithmetic mean of a linear range — rounded half-to-even for an
integer range — or the geometric mean `geo` of a log-scaled range, clipped to the bounds;
for finite numeric kinds a listed value.  Always a member of the domain. -/
theorem midpoint_rule :
    (∀ cats hint v, (Dom.cat cats false).midpoint hint = .ok v ↔ cats[0]? = some v) ∧
    (∀ cats hint v, (Dom.cat cats true).midpoint hint = .ok v ↔ cats[cats.length / 2]? = some v) ∧
    (∀ lo hi g hint, (Dom.float lo hi false g).midpoint hint = .ok (.rat (clipRat ((1/2) * (hi + lo)) lo hi))) ∧
    (∀ lo hi g hint, (Dom.float lo hi true g).midpoint hint = .ok (.rat (clipRat g lo hi))) ∧
    (∀ lo hi : Rat, lo ≤ hi → clipRat ((1/2) * (hi + lo)) lo hi = (lo + hi) / 2) ∧
    (∀ (lo hi : Int) g hint, (Dom.int lo hi false g).midpoint hint =
        .ok (.int (clipInt (roundHalfEven ((1/2) * ((hi : Rat) + (lo : Rat)))) lo hi))) ∧
    (∀ (lo hi : Int) g hint, (Dom.int lo hi true g).midpoint hint =
        .ok (.int (clipInt (roundHalfEven g) lo hi))) ∧
    (∀ (lo hi : Int), lo ≤ hi →
        clipInt (roundHalfEven ((1/2) * ((hi : Rat) + (lo : Rat)))) lo hi =
          roundHalfEven ((1/2) * ((hi : Rat) + (lo : Rat)))) ∧
    (∀ (d : Dom) hint v, d.wfb = true → d.midpoint hint = .ok v → d.member v = true) := by
  refine ⟨?_, ?_, ?_, ?_, ?_, ?_, ?_, ?_, ?_⟩
  · exact fun cats => midpoint_cat cats false
  · exact fun cats => midpoint_cat cats true
  · intro lo hi g hint; rfl
  · intro lo hi g hint; rfl
  · intro lo hi h
    rw [clipRat_of_between (mid_between h).1 (mid_between h).2]; ring
  · intro lo hi g hint; rfl
  · intro lo hi g hint; rfl
  · intro lo hi h
    have hm := mid_between (Int.cast_le.2 h)
    exact clipInt_of_between (rhe_ge_of_le hm.1) (rhe_le_of_le hm.2)
  · intro d hint v hwf h; exact midpoint_member d hwf hint v h

/-- **Initial configurations first, in order (random searcher).**  For every history of
suggest / pending / failed / result events from the freshly constructed searcher, the first
`|init|` answers of `get_config` are exactly the initial configurations, in order. -/
theorem initial_first_in_order (imm : RImm) (tape : Nat → Config) (init : List Config)
    (ops : List ROp) (s' : RState) (outs : List (Option Config))
    (h : RState.run imm tape (RState.init init) ops = .ok (s', outs)) :
    outs.take init.length = (init.map some).take outs.length :=
  (xrun_served (xrun_of_run h id) rfl).take_eq

/-- **Initial configurations first, in order (grid searcher)** — also when a grid point
equals an initial configuration, and for `allow_duplicates` either way. -/
theorem initial_first_in_order_grid (imm : GImm) (init : List Config) (combos : List (List Val))
    (rng : Nat) (ops : List GOp) (s' : GState) (outs : List (Option Config))
    (h : GState.run imm { p2e := init, next := 0, allInit := [], combos := combos, rng := rng } ops = .ok (s', outs)) :
    outs.take init.length = (init.map some).take outs.length :=
  (GState.run_served h).take_eq

/-- **No repeats (random searcher, `allow_duplicates = False`)** — invariant over arbitrary
histories of suggest / pending / failed / result events, for every tape of draws.  With
duplicate-free initial configurations (`impute`): (1) no two returned configurations are
equal; (2) every returned configuration's match string is in the exclusion set afterwards;
(3) a configuration returned after the initial ones has a match string different from that
of EVERY configuration returned before it (initial, pending, failed or finished alike) —
i.e. its match string was not in the exclusion set before. -/
theorem no_repeat (imm : RImm) (hnd : imm.allowDup = false) (tape : Nat → Config) (init : List Config)
    (hinit : init.Nodup) (ops : List ROp) (s' : RState) (outs : List (Option Config))
    (h : RState.run imm tape (RState.init init) ops = .ok (s', outs)) :
    (outs.filterMap id).Nodup ∧
    (∀ c ∈ outs.filterMap id, ∃ m, imm.mkf c = .ok m ∧ m ∈ s'.excl) ∧
    (∀ (j : Nat) (c : Config), init.length ≤ j → (outs.filterMap id)[j]? = some c →
      ∀ (i : Nat) (c' : Config), i < j → (outs.filterMap id)[i]? = some c' → imm.mkf c' ≠ imm.mkf c) :=
  xrun_norepeat_start hnd (xrun_of_run h id) rfl hinit

/-- **Excluded means never drawn** (either setting of `allow_duplicates`): a match string
that is in the exclusion set — with `allow_duplicates = True` these are exactly the
configurations of failed trials, see `evaluationFailed_spec` — stays there and is never the
match string of a later randomly drawn suggestion, whatever happens in between. -/
theorem no_repeat_failed (imm : RImm) (tape : Nat → Config) (s s' : RState) (ops : List ROp)
    (outs : List (Option Config)) (m : String)
    (h : RState.run imm tape s ops = .ok (s', outs)) (hp : s.p2e = []) (hm : m ∈ s.excl) :
    m ∈ s'.excl ∧ ∀ c ∈ outs.filterMap id, imm.mkf c ≠ .ok m :=
  xrun_excluded_never_drawn (xrun_of_run h id) rfl hp hm

/-- **BO loop: whatever the optimiser proposes.**  For arbitrary proposal pairs (original,
locally optimised): every configuration the final filter returns has a match string outside
the exclusion set, no two returned ones share a match string, each is one of the proposals,
at most `num` are returned.  Consequently (second part) if the exclusion set holds the
match strings of all observed, pending and failed configurations of the searcher's state,
the returned configuration equals none of them. -/
theorem no_repeat_bo (mk : MK) (excl : List String) (num : Nat) (pairs : List (Config × Config))
    (res : List Config) (h : pickFromLocallyOptimized mk excl num pairs = .ok res) :
    ((∀ c ∈ res, ∃ m, mk c = .ok m ∧ m ∉ excl) ∧
     res.Pairwise (fun a b => mk a ≠ mk b) ∧
     (∀ c ∈ res, ∃ p ∈ pairs, c = p.1 ∨ c = p.2) ∧
     (1 ≤ num → res.length ≤ num)) ∧
    (∀ st : TJState, (∀ c ∈ st.allConfigs, ∃ m, mk c = .ok m ∧ m ∈ excl) →
      ∀ c ∈ res, c ∉ st.allConfigs) := by
  have hs := pick_spec mk excl num pairs res h
  refine ⟨hs, ?_⟩
  intro st hst c hc hin
  obtain ⟨m, hm, hnin⟩ := hs.1 c hc
  exact Tracked.fresh hst hm hnin c hin rfl

/-- **Python-equal values have equal match strings** (code after the fix "-0.0 and 0.0 were
treated as different configurations by the exclusion list"): for a `Float` domain, two
member values that are equal for Python (`-0.0 == 0.0`, produced by quantised samplers)
have the same match string.  Hence `no_repeat` (3) also excludes a repeat up to Python's
`==`: a drawn configuration differs from every earlier one in some match string. -/
theorem pyeq_same_match_string (lo hi g : Rat) (l : Bool) (v w : Val)
    (hv : (Dom.float lo hi l g).member v = true) (hw : (Dom.float lo hi l g).member w = true)
    (h : Val.pyEq v w = true) :
    (Dom.float lo hi l g).matchPart v = (Dom.float lo hi l g).matchPart w := by
  have _ := And.intro hv hw
  exact matchPart_float_pyEq lo hi g l h

/-- **Grid search enumerates its grid exactly once.**  With `allow_duplicates = False`, for
every grid (any list of combinations — hence for every shuffle permutation), every list of
initial configurations and every history: the answers of `get_config` are the initial
configurations in order, then every grid point whose match string is not that of an initial
configuration, in traversal order, then `None` forever.  If the grid points have pairwise
different match strings, no grid point is returned twice and none is skipped. -/
theorem grid_once (imm : GImm) (hnd : imm.allowDup = false) (mk : Config → String)
    (init : List Config) (combos : List (List Val)) (rng : Nat)
    (hmk : ∀ c ∈ init ++ imm.configs combos, imm.mkf c = .ok (mk c))
    (ops : List GOp) (s' : GState) (outs : List (Option Config))
    (h : GState.run imm { p2e := init, next := 0, allInit := [], combos := combos, rng := rng } ops = .ok (s', outs)) :
    outs = (((init ++ gridRest mk init (imm.configs combos)).map some) ++
              List.replicate (ops.countP GOp.isGet) none).take (ops.countP GOp.isGet) ∧
    (((imm.configs combos).map mk).Nodup →
      (gridRest mk init (imm.configs combos)).Nodup ∧
      ∀ g ∈ imm.configs combos, mk g ∉ init.map mk → g ∈ gridRest mk init (imm.configs combos)) := by
  have hout := grid_outputs hnd (mk := mk) (init := init) ⟨⟨[], rfl, by simp⟩, hmk⟩ h
  refine ⟨by simpa [GState.owed] using hout, fun hn =>
    ⟨((List.pairwise_map.1 hn).imp fun hne e => hne (congrArg mk e)).filter _, fun g hg hni => ?_⟩⟩
  simp only [gridRest, List.mem_filter, decide_eq_true_eq]
  exact ⟨hg, hni⟩

/-- the Cartesian product of duplicate-free value lists is duplicate-free, consists exactly
of the tuples picking one value per hyperparameter, and `dict(zip(keys, tuple))` maps
different tuples to different configurations -/
theorem grid_points_nodup (ls : List (List Val)) (h : ∀ l ∈ ls, l.Nodup) (keys : List String)
    (hk : keys.length = ls.length) :
    (product ls).Nodup ∧ (∀ t, t ∈ product ls ↔ pointwiseMem t ls) ∧
    ((product ls).map (zipConfig keys)).Nodup := by
  have hp := product_nodup ls h
  have hlen := fun t ht => (pointwiseMem_length ((mem_product ls t).1 ht)).trans hk.symm
  exact ⟨hp, mem_product ls, List.pairwise_map.2 (hp.imp_of_mem fun ha hb hne hab =>
    hne (zipConfig_injective keys _ _ (hlen _ ha) (hlen _ hb) hab))⟩

/-- the value lists of the categorical, finite-range and constant factors of the grid are
duplicate-free (`OrderedDict.fromkeys`; finite ranges since the fix "GridSearcher
enumerated a grid point several times for finite ranges with duplicate values") -/
theorem grid_values_nodup (sp : Space) : ∀ kv ∈ gridDiscrete sp, kv.2.Nodup :=
  gridDiscrete_nodup sp

/-- the shuffle (whatever permutation `random_state` draws) keeps every grid point with its
multiplicity: the shuffled grid is a permutation of the product -/
theorem shuffle_is_permutation {α} (perm : List Nat) (xs ys : List α) (h : applyPerm perm xs = .ok ys) :
    ys.Perm xs :=
  applyPerm_perm h

/-- **Random searcher: what `None` means.**  `get_config` answers `None` only when no
initial configuration is left and either the exclusion set has reached
`config_space_size` or each of the `MAX_RETRIES` draws hit an excluded configuration.
(The full statement "`None` ⇒ space exhausted" is false of the code:
`none_only_if_exhausted_counterexample`.) -/
theorem none_random_partial (imm : RImm) (s s' : RState) (draw : Nat → Config)
    (h : s.getConfig imm draw = .ok (s', none)) :
    s.p2e = [] ∧ s' = { s with rng := s'.rng } ∧
    (exhausted imm.size s.excl = true ∨
      ∀ i, i < imm.maxRetries → ∃ m, imm.mkf (draw i) = .ok m ∧ m ∈ s.excl) := by
  obtain ⟨hp, ⟨n, rfl⟩, hw⟩ := RState.getConfig_none h
  exact ⟨hp, rfl, hw⟩

/-- the match string of a configuration of the space `x ∈ {0, 1, 2}` -/
def exMk : MK := fun c => match cget "x" c with
  | some (.int 0) => .ok "0"
  | some (.int 1) => .ok "1"
  | some (.int 2) => .ok "2"
  | _ => .error (.keyError "x")

def exImm : RImm := { mkf := exMk, allowDup := false, maxRetries := 100, size := some 3, debugLog := false }

/-- **`None` before exhaustion (F8).**  A space of 3 configurations, 2 of them excluded,
`MAX_RETRIES = 100` draws that all hit excluded configurations: `get_config` answers `None`
although the space is not used up.  (Replayed on the real `RandomSearcher` with
`randint(0, 49)` by the correspondence corpus; signature
`c06:random-none-before-exhaustion`.) -/
theorem none_only_if_exhausted_counterexample :
    ¬ (∀ (imm : RImm) (s s' : RState) (draw : Nat → Config),
        s.getConfig imm draw = .ok (s', none) → exhausted imm.size s.excl = true) := by
  intro hall
  let s : RState := { p2e := [], excl := ["0", "1"], cfgFor := [], rng := 0 }
  have h := hall exImm s { s with rng := 100 } (fun _ => [("x", .int 0)]) (by decide)
  revert h
  decide

/-- `{"lr": uniform(1/8, 1), "bs": randint(1, 4), "act": choice(["a","b"]), "epochs": 9}` -/
def exSpace : Space :=
  [("lr", .dom (.float (1/8) 1 false 0)), ("bs", .dom (.int 1 4 false 0)),
   ("act", .dom (.cat [.str "a", .str "b"] false)), ("epochs", .const (.int 9))]

example : Space.wfb exSpace = true := by decide +kernel

/-- partial, empty and duplicate points: mid-point imputation (`bs`: round-half-even of 5/2)
and removal of the duplicate (hypotheses of `impute`, `impute_members`, `no_repeat`) -/
example :
    imputePoints exSpace [] (some [[("bs", .int 3)], [], [("bs", .int 3)]]) =
      .ok [[("lr", .rat (9/16)), ("bs", .int 3), ("act", .str "a")],
           [("lr", .rat (9/16)), ("bs", .int 2), ("act", .str "a")]] := by decide +kernel

/-- a configuration that is valid on the space, and what the scheduler suggests for it
(hypothesis and conclusion of `keys_types_members`) -/
example : ValidOn (hpEntries exSpace) [("lr", .rat (1/2)), ("bs", .int 3), ("act", .str "b")] := by
  intro k d h
  simp only [exSpace, hpEntries, List.mem_cons, Prod.mk.injEq, List.not_mem_nil, or_false] at h
  rcases h with ⟨rfl, rfl⟩ | ⟨rfl, rfl⟩ | ⟨rfl, rfl⟩
  · exact ⟨.rat (1/2), by decide +kernel, by decide +kernel⟩
  · exact ⟨.int 3, by decide +kernel, by decide +kernel⟩
  · exact ⟨.str "b", by decide +kernel, by decide +kernel⟩

example : schedulerConfig exSpace [("lr", .rat (1/2)), ("bs", .int 3), ("act", .str "b")] =
    .ok [("lr", .rat (1/2)), ("bs", .int 3), ("act", .str "b"), ("epochs", .int 9)] := by decide +kernel

/-- a value outside the domain given in `points_to_evaluate` is the constructor's assertion -/
example : imputePoints exSpace [] (some [[("bs", .int 7)]]) = .error (.assertion "not in [lower, upper]") := by
  decide +kernel

/- A history of the random searcher on a 3-point space with one initial configuration, a
retry (second draw repeats the first) and exhaustion (hypotheses of `no_repeat`,
`initial_first_in_order`, `none_random_partial`) -/
example :
    (RState.run exImm (fun i => [("x", .int (if i = 0 then 1 else if i = 1 then 1 else 2))])
        (RState.init [[("x", .int 0)]]) [.get, .pending 0 none, .get, .failed 0, .get, .get]).map Prod.snd =
      .ok [some [("x", .int 0)], some [("x", .int 1)], some [("x", .int 2)], none] := by decide +kernel

/- A grid `x ∈ {0,1,2}` traversed in the shuffled order 2,0,1 with the initial configuration
`x = 0` (hypotheses of `grid_once`): initial point, then 2, then 1 (0 skipped), then `None` -/
def exGImm : GImm := { mkf := exMk, hpKeys := ["x"], allowDup := false }

example : applyPerm [2, 0, 1] [[Val.int 0], [Val.int 1], [Val.int 2]] = .ok [[.int 2], [.int 0], [.int 1]] := by
  decide

example :
    (GState.run exGImm { p2e := [[("x", .int 0)]], next := 0, allInit := [],
                         combos := [[.int 2], [.int 0], [.int 1]], rng := 1 }
        [.get, .get, .other, .get, .get]).map Prod.snd =
      .ok [some [("x", .int 0)], some [("x", .int 2)], some [("x", .int 1)], none] := by decide +kernel

/-- the BO filter on a proposal whose optimised candidate is excluded: falls back to the
original candidate; a fully excluded pair is skipped (hypothesis of `no_repeat_bo`) -/
example :
    pickFromLocallyOptimized exMk ["0"] 1
      [([("x", .int 0)], [("x", .int 0)]), ([("x", .int 2)], [("x", .int 0)])] = .ok [[("x", .int 2)]] := by
  decide

end SyneTune.C06
