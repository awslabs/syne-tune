import SyneTune.Lemmas.TunerBudgetIds
import SyneTune.Lemmas.TunerWitness
import SyneTune.Lemmas.TunerWitnessData
/-
C01 — worker budget and legal trial life cycle in every tuning run.
Property theorems only.  Model: `Model/Tuner.lean` (the tuning loop as a machine that calls
its environment and is answered by it), helper lemmas: `Lemmas/Tuner*.lean`.

All theorems quantify over ALL sequences `as : List Ans` of environment answers (poll
outcomes, scheduler decisions and suggestions, busy lists, clock readings, exceptions at any
call); `run (init c) as` is the state of `Tuner.run()` after these answers.
The contracts on the environment are explicit hypotheses:
* `BOk` (backend, contract B): a poll answers with one status per trial, only for trials that
  were asked for, and never reports `paused` for a running trial;
* `KOk` (scheduler, contract K): `resume(id)` is only suggested for a trial whose run this
  scheduler ended with PAUSE and which was not resumed / reported failed since;
* `NCOk`: no STOP / PAUSE decision on a result of a trial that the same poll reports as failed
  (no PAUSE for one reported as stopped from outside) — see `notify_end_clash_counterexample`;
* `RebindOk`: the answer of `busy_trial_ids` is never shorter than the loop's running set (always
  true with `start_jobs_without_delay=True`, where the question is not asked) — see
  `notify_polled_counterexample` (F15).
The witnesses of the counterexamples are in `Lemmas/TunerWitnessData.lean`; the check replays them
on the real `Tuner`.
-/
namespace SyneTune.C01
open SyneTune SyneTune.Tuner

/-- **Worker budget.** In every reachable state — for every scheduler, backend, answer
sequence and exception placement, with no contract at all — the running set is duplicate
free and holds at most `n_workers` trials; the `assert len(running_trials_ids) <= n_workers`
of `_process_new_results` never fires. -/
theorem budget (c : Cfg) (as : List Ans) :
    (run (init c) as).running.Nodup ∧ (run (init c) as).running.length ≤ c.nWorkers ∧
    (run (init c) as).err ≠ some .assertion := by
  have h := (BudgetInv.reach (reach_any c as)).1
  exact ⟨h.nodup, by have := h.le; rwa [run_cfg] at this, h.noAssert⟩

/-- **Trial ids.** The k-th `start_trial` command of a run carries id `k`: ids are issued in
sequence, never reused (a `resume_trial` does not take one). -/
theorem ids (c : Cfg) (as : List Ans) :
    startIds (run (init c) as).log = List.range (startIds (run (init c) as).log).length :=
  (IdsInv.reach (reach_any c as)).ids

/-- the id handed to `scheduler.suggest` and used by the next `start_trial` is the number of
trials started so far -/
theorem ids_next (c : Cfg) (as : List Ans) (h : finPc (run (init c) as).pc = false) :
    (startIds (run (init c) as).log).length = (run (init c) as).nStarted + startPend (run (init c) as).pc :=
  (IdsInv.reach (reach_any c as)).cnt h

/-- **Life cycle.** Under the contracts B and K every step of the loop moves the status it
records for a trial (`tuning_status.last_trial_status_seen`) along a legal edge only:
new → in progress; in progress / stopping → anything; paused → in progress (resume) or paused;
stopped, completed, failed never change again. -/
theorem lifecycle (c : Cfg) (as : List Ans) (a : Ans)
    (hB : Along BOk (init c) as) (hK : Along KOk (init c) as) (t : Nat) :
    Edge (alookup t (run (init c) as).status.last) (alookup t (run (init c) (as ++ [a])).status.last) := by
  rw [run_append]
  exact step_of_trans (P := fun s' => Edge (alookup t (run (init c) as).status.last) (alookup t s'.status.last))
    (fun _ _ h => h) fun tr => tr.edge (SInv.reach (reach_run c hB)) (KInv.reach (reach_run c (hB.and hK))) t

/-- **Only a paused trial is resumed.** Under B and K, whenever `backend.resume_trial(id)` is
the pending call, the backend status of `id` (as far as the loop's commands and the polls
tell) is `paused`: the `assert trial.status == Status.paused` of `resume_trial` cannot fire.
Also: the loop's record of the trial says `paused` and the trial is not in the running set. -/
theorem resume_only_paused (c : Cfg) (as : List Ans)
    (hB : Along BOk (init c) as) (hK : Along KOk (init c) as) (h : (run (init c) as).pc = .resumeCmd) :
    pending (run (init c) as) = .resume (run (init c) as).sId (run (init c) as).sRCfg ∧
    alookup (run (init c) as).sId (run (init c) as).bst = some .paused ∧
    alookup (run (init c) as).sId (run (init c) as).status.last = some .paused ∧
    (run (init c) as).sId ∉ (run (init c) as).running := by
  have hb := KInv.reach (reach_run c (hB.and hK)) (by rw [h]; rfl)
  obtain ⟨h1, h2, h3, _⟩ := hb.at_resumeCmd h
  exact ⟨by unfold pending; rw [h], h1, h2, h3⟩

/-- **Notifications (safety part), partial.** Under B, K and the no-end-clash hypothesis, whenever
a scheduler callback is the pending call the trial's run is open for the scheduler:
`on_trial_result`, `on_trial_remove`, `on_trial_complete`, `on_trial_error` are only called for
a trial whose run was opened (`on_trial_add` returned / it was resumed) and not yet closed by
one of remove / complete / error; `on_trial_add` is only called for a trial the scheduler has
never heard of.  So each run gets add-or-resume, then results, then exactly one end.
Full statement (without `hN`) is false: `notify_end_clash_counterexample`. -/
theorem notify_partial (c : Cfg) (as : List Ans)
    (hB : Along BOk (init c) as) (hK : Along KOk (init c) as) (hN : Along NCOk (init c) as) :
    NotifyOK (run (init c) as) :=
  .reach (reach_run c (hB.and (hK.and hN)))

/-- **Notifications (completeness part), partial.** If the local `running_trials_ids` of
`_schedule_new_tasks` is never rebound (`RebindOk`), then at every poll every trial whose run
is open for the scheduler (started or resumed, end not yet notified) is among the trials
polled: `fetch_status_results` is called with the running set and that set holds all of them.
So its results, and its end, reach the scheduler as soon as the backend reports them.
Full statement (without `hR`) is false: `notify_polled_counterexample`. -/
theorem notify_polled_partial (c : Cfg) (as : List Ans) (hR : Along RebindOk (init c) as)
    (hp : (run (init c) as).pc = .fetch) :
    pending (run (init c) as) = .fetch (run (init c) as).running ∧
    ∀ t, alookup t (run (init c) as).kst = some .live → t ∈ (run (init c) as).running := by
  refine ⟨by unfold pending; rw [hp], fun t ht => ?_⟩
  have hb := (PInv.reach (reach_run c hR)).body (by rw [hp]; rfl)
  rcases hb.tracked t ht with h1 | h1
  · exact h1
  · rcases h1.1 with h2 | h2 <;> (rw [hp] at h2; cases h2)

/-- the hypothesis of `notify_polled_partial` holds for free with `start_jobs_without_delay=True` -/
theorem notify_polled_swd (c : Cfg) (hs : c.swd = true) (as : List Ans) (hp : (run (init c) as).pc = .fetch) :
    ∀ t, alookup t (run (init c) as).kst = some .live → t ∈ (run (init c) as).running :=
  (notify_polled_partial c as (rebindOk_of_swd c hs as) hp).2

/-- **F15 — a started trial is never polled.** With `start_jobs_without_delay=False`, two
workers: the backend's busy list `[1]` is shorter than the running set `{0, 1}`, so
`_schedule_new_tasks` rebinds its local `running_trials_ids`; trial 2 is started and added to the
rebound set only.  All contracts hold (B, K, no end clash), yet at the next poll trial 2 — started,
known to the scheduler as live, in progress in the backend and in the tuning status — is not in the
running set; and in the rest of the run (`f15Rest`: the other trials complete, `run()` returns
normally) no poll ever names trial 2 and the scheduler never hears of its end. -/
theorem notify_polled_counterexample :
    Witness.f15Cfg.swd = false ∧
    Along BOk (init Witness.f15Cfg) (Witness.f15Prefix ++ Witness.f15Rest) ∧
    Along KOk (init Witness.f15Cfg) (Witness.f15Prefix ++ Witness.f15Rest) ∧
    Along NCOk (init Witness.f15Cfg) (Witness.f15Prefix ++ Witness.f15Rest) ∧
    (run (init Witness.f15Cfg) Witness.f15Prefix).pc = .fetch ∧
    pending (run (init Witness.f15Cfg) Witness.f15Prefix) = .fetch [0, 1] ∧
    alookup 2 (run (init Witness.f15Cfg) Witness.f15Prefix).kst = some .live ∧
    alookup 2 (run (init Witness.f15Cfg) Witness.f15Prefix).bst = some .inProgress ∧
    alookup 2 (run (init Witness.f15Cfg) Witness.f15Prefix).status.last = some .inProgress ∧
    -- the whole run
    (run (init Witness.f15Cfg) (Witness.f15Prefix ++ Witness.f15Rest)).pc = .done ∧
    (run (init Witness.f15Cfg) (Witness.f15Prefix ++ Witness.f15Rest)).err = none ∧
    alookup 2 (run (init Witness.f15Cfg) (Witness.f15Prefix ++ Witness.f15Rest)).kst = some .live ∧
    noCall (fun c => match c with
        | .fetch ids => ids.contains 2 | .schedComplete t _ => t == 2 | .schedError t => t == 2
        | .schedRemove t => t == 2 | .schedResult t _ => t == 2 | _ => false)
      (run (init Witness.f15Cfg) (Witness.f15Prefix ++ Witness.f15Rest)).log = true := by
  -- the Boolean contracts and the facts about the run in one evaluation, which shares the states of the run
  exact ⟨rfl, And.imp (along_of bOk_of) (And.imp (along_of kOk_of) (And.imp_left (along_of ncOk_of))) (by decide +kernel)⟩

/-- the Boolean test of the hypothesis that `notify_polled_partial` adds fails on the witness -/
example : alongB rebindOkB (init Witness.f15Cfg) Witness.f15Prefix = false := by decide +kernel

/-- **The end of a run is notified twice.** One worker; the poll reports trial 0 as failed
together with a result on which the scheduler decides STOP.  B and K hold, yet
`on_trial_error(0)` is the pending call for a trial whose run the loop has already closed with
`on_trial_remove(0)` (`kst 0 = dead`): `NotifyOK` fails. -/
theorem notify_end_clash_counterexample :
    Along BOk (init Witness.clashCfg) Witness.clashPrefix ∧
    Along KOk (init Witness.clashCfg) Witness.clashPrefix ∧
    Along RebindOk (init Witness.clashCfg) Witness.clashPrefix ∧
    pending (run (init Witness.clashCfg) Witness.clashPrefix) = .schedError 0 ∧
    alookup 0 (run (init Witness.clashCfg) Witness.clashPrefix).kst = some .dead ∧
    (run (init Witness.clashCfg) Witness.clashPrefix).log.contains (.schedRemove 0) = true ∧
    ¬ NotifyOK (run (init Witness.clashCfg) Witness.clashPrefix) := by
  have h : (alongB bOkB (init Witness.clashCfg) Witness.clashPrefix = true ∧
      alongB kOkB (init Witness.clashCfg) Witness.clashPrefix = true ∧
      alongB rebindOkB (init Witness.clashCfg) Witness.clashPrefix = true) ∧
      (run (init Witness.clashCfg) Witness.clashPrefix).pc = .errorS ∧
      (run (init Witness.clashCfg) Witness.clashPrefix).t = 0 ∧
      alookup 0 (run (init Witness.clashCfg) Witness.clashPrefix).kst = some .dead ∧
      pending (run (init Witness.clashCfg) Witness.clashPrefix) = .schedError 0 ∧
      (run (init Witness.clashCfg) Witness.clashPrefix).log.contains (.schedRemove 0) = true := by decide +kernel
  obtain ⟨⟨hB, hK, hR⟩, hpc, ht, hk, hpend, hlog⟩ := h
  refine ⟨along_of bOk_of hB, along_of kOk_of hK, along_of rebindOk_of hR, hpend, hk, hlog, fun hN => ?_⟩
  have := hN.error hpc
  rw [ht, hk] at this
  cases this

/-- the Boolean test of the hypothesis that `notify_partial` adds fails on the witness -/
example : alongB ncOkB (init Witness.clashCfg) Witness.clashPrefix = false := by decide +kernel

/-- the state the F15 witness reaches: two trials in the running set, three started -/
example : (run (init Witness.f15Cfg) Witness.f15Prefix).running = [0, 1] ∧
    startIds (run (init Witness.f15Cfg) Witness.f15Prefix).log = [0, 1, 2] ∧
    (run (init Witness.f15Cfg) Witness.f15Prefix).status.last = [(0, .inProgress), (1, .inProgress), (2, .inProgress)] := by
  decide +kernel

example : (run (init Witness.f15Cfg) Witness.f15Prefix).running.length ≤ 2 :=
  (budget Witness.f15Cfg Witness.f15Prefix).2.1

example : startIds (run (init Witness.f15Cfg) Witness.f15Prefix).log = List.range 3 := by
  have := ids Witness.f15Cfg Witness.f15Prefix
  rwa [show (startIds (run (init Witness.f15Cfg) Witness.f15Prefix).log).length = 3 by decide +kernel] at this

/-- a life-cycle step of the end-clash witness: trial 0 moves in progress → failed when the
iteration's `tuning_status.update` runs -/
example : alookup 0 (run (init Witness.clashCfg) (Witness.clashPrefix ++ [.ret, Witness.τ])).status.last = some .inProgress ∧
    alookup 0 (run (init Witness.clashCfg) (Witness.clashPrefix ++ [.ret, Witness.τ, Witness.τ])).status.last = some .failed := by
  decide +kernel

end SyneTune.C01
