import SyneTune.Lemmas.HBOps
/-
C13 (asynchronous Hyperband part) — trial failures are contained.
`on_trial_error` is a total function of the model (`Sched.onError : Sched → Nat → Sched × List SCall`,
no error result exists), so "the scheduler does not raise" holds by construction of the
model and is tied to the code by the correspondence (error events at arbitrary points).
-/
namespace SyneTune.C13Hb
open SyneTune

theorem delRunningAt_other (systems : List RungSys) (i tid t' k : Nat) (hne : t' ≠ tid) :
    ((delRunningAt systems i tid)[k]?).map (fun (y : RungSys) => alookup t' y.running)
      = (systems[k]?).map (fun (y : RungSys) => alookup t' y.running) := by
  rcases delRunningAt_eq systems i tid with h | ⟨sys, hs, h⟩ <;> rw [h]
  rw [List.getElem?_set]
  split
  · rename_i hk; subst hk
    rw [if_pos (List.getElem?_eq_some_iff.mp hs).1, hs]
    exact congrArg some (alookup_adel_ne hne _)
  · rfl

/-- **A failure touches only the failed trial.**  After `on_trial_error(t)`: every rung of
every rung system holds exactly the entries it held before (rung entries of all trials,
including their promoted flags, are intact); the `_running` record, the bracket assignment
and the recorded decision of every other trial are unchanged; the failed trial is recorded
as STOP; the searcher is told exactly once (`evaluation_failed(t)`). -/
theorem error_contained (s : Sched) (t : Nat) :
    ((s.onError t).1.mgr.systems.map (·.rungs) = s.mgr.systems.map (·.rungs)) ∧
    (∀ t', t' ≠ t → alookup t' (s.onError t).1.mgr.taskInfo = alookup t' s.mgr.taskInfo) ∧
    (∀ t', t' ≠ t → ∀ k : Nat, ((s.onError t).1.mgr.systems[k]?).map (fun (y : RungSys) => alookup t' y.running)
        = (s.mgr.systems[k]?).map (fun (y : RungSys) => alookup t' y.running)) ∧
    (∀ t', t' ≠ t → alookup t' (s.onError t).1.active = alookup t' s.active) ∧
    (∀ rec, alookup t s.active = some rec →
        alookup t (s.onError t).1.active = some { rec with decision := .stop }) ∧
    (s.onError t).2 = [SCall.evalFailed t] := by
  have hmgr : (s.onError t).1.mgr = s.mgr.taskRemove t := rfl
  have hact := Sched.cleanup_active s t .stop
  refine ⟨?_, fun t' hne => ?_, fun t' hne k => ?_, fun t' hne => (hact t').trans (if_neg hne), fun rec hrec => ?_, rfl⟩
  · rw [hmgr]; rcases s.mgr.taskRemove_eq t with h | ⟨i, h⟩ <;> rw [h]; exact delRunningAt_rungs _ _ _
  · rw [hmgr]; rcases s.mgr.taskRemove_eq t with h | ⟨i, h⟩ <;> rw [h]; exact alookup_adel_ne hne _
  · rw [hmgr]; rcases s.mgr.taskRemove_eq t with h | ⟨i, h⟩ <;> rw [h]; exact delRunningAt_other _ _ _ _ _ hne
  · exact (hact t).trans (by rw [if_pos rfl, hrec]; rfl)

/-- **A running trial that fails is never resumed** (ASHA / PASHA) — stated for one rung and one scan: if `t` is
recorded as promoted from the rung, the scan does not pick `t` there; over histories it is `C04.promoted_once`.
A promotion needs an unpromoted rung entry of the trial; a trial that was running when it failed has none in a
rung it was promoted from.  The remaining case — a trial that fails *after* it has paused at a rung and before
it is promoted — leaves an unpromoted entry and is decided by the correspondence / monitor (DESIGN §6-F11). -/
theorem failed_running_trial_not_resumed (m : Mode) (rg : Rung) (hint : Option Nat) (t pos : Nat)
    (hnd : (rg.data.map (·.tid)).Nodup) (hp : PromotedIn rg t) :
    plainPick m rg hint ≠ some (t, pos) :=
  plainPick_not_promoted m rg hint t pos hnd hp

end SyneTune.C13Hb
