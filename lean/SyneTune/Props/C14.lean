import SyneTune.Model.SearcherState
import SyneTune.Lemmas.AssocList
/- C14 — multi-fidelity surrogate data: each observation once, only live pending entries.  Searcher side
(`Model/SearcherState.lean`) and the scheduler's `_update_searcher` taken separately; composed in `Props/C14Comp.lean`. -/
namespace SyneTune.C14
open SyneTune

def KeysNodup {β} (l : List (Nat × β)) : Prop := (l.map (·.1)).Nodup

/-- the data set is well-formed: one record per trial, one value per level -/
def ObsWF (st : SState) : Prop :=
  KeysNodup st.observed ∧ ∀ t ms, (t, ms) ∈ st.observed → KeysNodup ms

/-- What an accepted searcher call does to the mode and the data: nothing, except that `update=True` stores
one label and `remove_case` drops one level of one trial. -/
theorem apply_ok {st st' : SState} {c : SCall} (h : st.apply c = .ok st') :
    (st'.mode = st.mode ∧ st'.observed = st.observed) ∨
    (∃ t r v, c = .update t r v true ∧ st' = st.label t r (st.crit v)) ∨
    (∃ t r v ms, c = .removeCase t r v ∧ alookup t st.observed = some ms ∧
      st' = { st with observed := aset t (adel r ms) st.observed }) := by
  cases c with
  | pending t r =>
    simp only [SState.apply] at h
    split at h
    · cases h; exact .inl ⟨rfl, rfl⟩
    · split at h <;> cases h
      exact .inl ⟨rfl, rfl⟩
  | update t r v upd =>
    cases upd with
    | false => cases h; exact .inl ⟨rfl, rfl⟩
    | true => cases h; exact .inr (.inl ⟨t, r, v, rfl, rfl⟩)
  | removeCase t r v =>
    simp only [SState.apply] at h
    split at h
    · cases h
    · rename_i ms hl
      split at h <;> cases h
      exact .inr (.inr ⟨t, r, v, ms, rfl, hl, rfl⟩)
  | cleanup t => cases h; exact .inl ⟨rfl, rfl⟩
  | evalFailed t =>
    simp only [SState.apply] at h
    cases h
    split <;> exact .inl ⟨rfl, rfl⟩

/-- **At most one observation per trial and level** is an invariant of every searcher call,
hence of every history. -/
theorem apply_preserves_wf (st st' : SState) (c : SCall) (h : st.apply c = .ok st') (hw : ObsWF st) :
    ObsWF st' := by
  obtain ⟨w1, w2⟩ := hw
  -- both changes replace the record of one trial by one with distinct levels
  have hset : ∀ t ms, KeysNodup ms → ObsWF { st with observed := aset t ms st.observed } := by
    intro t ms hms
    refine ⟨nodup_keys_aset _ _ w1, fun t' ms' hm => ?_⟩
    rcases mem_aset hm with h1 | h1
    · injection h1 with _ h1; subst h1; exact hms
    · exact w2 t' ms' h1
  rcases apply_ok h with ⟨_, ho⟩ | ⟨t, r, v, _, rfl⟩ | ⟨t, r, v, ms, _, hl, rfl⟩
  · unfold ObsWF; rw [ho]; exact ⟨w1, w2⟩
  · apply hset t
    apply nodup_keys_aset
    cases hl : alookup t st.observed with
    | none => simp [KeysNodup]
    | some ms => exact w2 t ms (mem_of_alookup hl)
  · exact hset t _ (nodup_keys_adel _ (w2 t ms (mem_of_alookup hl)))

theorem applyAll_induct {P : SState → Prop} {st st' : SState} {cs : List SCall} (h : st.applyAll cs = .ok st') (h0 : P st)
    (hstep : ∀ c ∈ cs, ∀ s1 s2, s1.apply c = .ok s2 → P s1 → P s2) : P st' := by
  induction cs generalizing st with
  | nil => cases h; exact h0
  | cons c cs ih =>
    unfold SState.applyAll at h
    split at h
    · cases h
    · rename_i s1 hc
      exact ih h (hstep c (List.mem_cons_self ..) st s1 hc h0) fun c' hc' => hstep c' (List.mem_cons_of_mem _ hc')

theorem applyAll_preserves_wf (st st' : SState) (cs : List SCall) (h : st.applyAll cs = .ok st')
    (hw : ObsWF st) : ObsWF st' :=
  applyAll_induct h hw fun c _ s1 s2 hc => apply_preserves_wf s1 s2 c hc

theorem label_lookup (st : SState) (t r : Nat) (c : Rat) (t' r' : Nat) :
    (alookup t' (st.label t r c).observed).bind (alookup r') =
      if t' = t ∧ r' = r then some c else (alookup t' st.observed).bind (alookup r') := by
  show (alookup t' (aset t _ st.observed)).bind (alookup r') = _
  rw [alookup_aset]
  by_cases ht : t' = t
  · subst ht
    simp only [if_true, Option.bind_some, true_and, alookup_aset]
    by_cases hr : r' = r
    · simp [hr]
    · simp only [hr, if_false]
      cases alookup t' st.observed <;> simp [alookup]
  · simp [ht]

/-- **The stored value is the reported one.**  After `update(t, r, v, update=True)` the
observation at `(t, r)` is `v` in the minimisation convention; every other (trial, level)
keeps its observation. -/
theorem observation_value (st : SState) (t r : Nat) (v : Rat) (t' r' : Nat) :
    let st' := st.label t r (st.crit v)
    (alookup t' st'.observed).bind (alookup r') =
      if t' = t ∧ r' = r then some (st.crit v) else (alookup t' st.observed).bind (alookup r') :=
  label_lookup st t r (st.crit v) t' r'

/-- `drop_pending_evaluation(t, r)` removes the first entry `(t, r)` -/
theorem dropPending_eq_erase (t r : Nat) (P : List (Nat × Nat)) : dropPending t r P = P.erase (t, r) := by
  induction P with
  | nil => rfl
  | cons p ps ih =>
    obtain ⟨a, b⟩ := p
    rw [dropPending, List.erase_cons, ih]
    rfl

theorem dropPending_others (t r : Nat) (l : List (Nat × Nat)) (p : Nat × Nat) (hp : p.1 ≠ t) :
    p ∈ dropPending t r l ↔ p ∈ l := by
  rw [dropPending_eq_erase]
  exact List.mem_erase_of_ne fun h => hp (h ▸ rfl)

theorem dropPending_filter_others (t r : Nat) (l : List (Nat × Nat)) :
    (dropPending t r l).filter (fun p => p.1 != t) = l.filter (fun p => p.1 != t) := by
  rw [dropPending_eq_erase, ← List.erase_filter, List.erase_of_not_mem]
  simp

/-- **An observation removes only the matching pending entry**: pending evaluations of all
other trials are untouched (same entries, same order). -/
theorem label_keeps_others (st : SState) (t r : Nat) (c : Rat) :
    (st.label t r c).pending.filter (fun p => p.1 != t) = st.pending.filter (fun p => p.1 != t) :=
  dropPending_filter_others t r st.pending

/-- **When a trial completes or fails, its pending evaluations disappear and everybody
else's stay exactly as they were.** -/
theorem cleanup_spec (st : SState) (t : Nat) :
    (∀ p ∈ (st.cleanupPending t).pending, p.1 ≠ t) ∧
    (st.cleanupPending t).pending.filter (fun p => p.1 != t) = st.pending.filter (fun p => p.1 != t) ∧
    (st.cleanupPending t).observed = st.observed := by
  unfold SState.cleanupPending
  refine ⟨?_, ?_, rfl⟩
  · intro p hp
    simp only [List.mem_filter, bne_iff_ne, ne_eq] at hp
    exact hp.2
  · simp [List.filter_filter]

/-- scheduler side: `on_trial_complete` always ends with `cleanup_pending(trial)`, and
`on_trial_error` issues `evaluation_failed(trial)`. -/
theorem complete_calls_cleanup (s s' : Sched) (tid r : Nat) (v : Rat) (calls : List SCall)
    (h : s.onComplete tid r v = .ok (s', calls)) : calls.getLast? = some (SCall.cleanup tid) := by
  unfold Sched.onComplete at h
  cases hl : alookup tid s.active with
  | none => simp [hl] at h
  | some rec =>
    simp only [hl] at h
    injection h with h
    injection h with _ h2
    rw [← h2]; simp

theorem error_calls_failed (s : Sched) (tid : Nat) : (s.onError tid).2 = [SCall.evalFailed tid] := rfl

/-- composition for failure: after `evaluation_failed` the failed trial has no pending
entry, the others' pending entries and all observations are unchanged. -/
theorem failed_spec (st st' : SState) (t : Nat) (h : st.apply (.evalFailed t) = .ok st') :
    (∀ p ∈ st'.pending, p.1 ≠ t) ∧
    st'.pending.filter (fun p => p.1 != t) = st.pending.filter (fun p => p.1 != t) ∧
    st'.observed = st.observed ∧ t ∈ st'.failed := by
  simp only [SState.apply] at h
  injection h with h
  obtain ⟨c1, c2, c3⟩ := cleanup_spec st t
  subst h
  split
  · rename_i hc
    exact ⟨c1, c2, c3, by simpa using hc⟩
  · exact ⟨c1, c2, c3, by simp⟩

/-- registering a pending evaluation never duplicates an entry and is refused for a level
that already has an observation. -/
theorem register_pending_spec (st st' : SState) (t r : Nat) (h : st.apply (.pending t r) = .ok st') :
    st'.isPending t r = true ∧ (st.isPending t r = true → st' = st) ∧
    (st.isPending t r = false → st.isLabeled t r = false ∧ st'.pending = st.pending ++ [(t, r)]) := by
  simp only [SState.apply] at h
  by_cases hp : st.isPending t r = true
  · simp only [hp, if_true] at h
    injection h with h; subst h
    exact ⟨hp, fun _ => rfl, fun hc => by rw [hp] at hc; cases hc⟩
  · simp only [hp, Bool.false_eq_true, if_false] at h
    by_cases hl : st.isLabeled t r = true
    · simp [hl] at h
    · simp only [hl, Bool.false_eq_true, if_false] at h
      injection h with h; subst h
      refine ⟨?_, fun hc => absurd hc hp, fun _ => ⟨by simpa using hl, rfl⟩⟩
      simp [SState.isPending]

/-- One step of the trial's record (`afterReport`): `update=True` is issued for `(t, r)` only if `r` differs from
the trial's `largest_update_resource`, which is then set to `r`, and it stays otherwise.  With the assertion
`largest_update_resource ≤ r` (hypothesis `hle`) a level passed on is strictly above the last one passed on; that the
updated levels of a trial therefore increase strictly along a history is the intended consequence, not stated here. -/
theorem update_strictly_increasing (rec : TrialInfo) (r : Nat) (v : Rat) (o : RepOut) (doUpd : Bool)
    (hle : rec.lastUpdate r ≤ r) :
    ((rec.afterReport r v o doUpd).1 = true →
        doUpd = true ∧ rec.lastUpdate r < r ∧ (rec.afterReport r v o doUpd).2.largestUpdate = some r) ∧
    ((rec.afterReport r v o doUpd).1 = false →
        (rec.afterReport r v o doUpd).2.largestUpdate = rec.largestUpdate) := by
  unfold TrialInfo.afterReport
  cases doUpd with
  | false => simp
  | true =>
    simp only [if_true]
    by_cases he : r = rec.lastUpdate r
    · simp [← he]
    · simp only [he, if_false, true_and, Bool.true_eq_false, false_implies, and_true]
      intro _; omega

/-- the data policy `rungs`: a result is passed to the model only at rung levels or `max_t`. -/
theorem policy_rungs (s : Sched) (tid r : Nat) (v : Rat) (o : RepOut) (rec : TrialInfo)
    (h : s.searcherData = .rungs) :
    (s.updateSearcher tid r v o rec).1 = true ↔ (r ∈ s.mgr.rungLevels ∨ r = s.mgr.maxT) := by
  unfold Sched.updateSearcher
  simp only [h]
  split <;> simp_all

/-- the data policies `all` / `rungs_and_last`: every non-ignored result is passed on. -/
theorem policy_all (s : Sched) (tid r : Nat) (v : Rat) (o : RepOut) (rec : TrialInfo)
    (h : s.searcherData ≠ .rungs) :
    (s.updateSearcher tid r v o rec).1 = !o.ignoreData := by
  unfold Sched.updateSearcher
  split
  · rename_i hs; exact absurd hs h
  · cases o.ignoreData <;> rfl

/-- `rungs_and_last`: the previously stored result of the trial is removed iff it was not
at a rung level (`keep_case` false). -/
theorem policy_rungs_and_last (s : Sched) (tid r : Nat) (v : Rat) (o : RepOut) (rec : TrialInfo)
    (h : s.searcherData = .rungsAndLast) (hig : o.ignoreData = false) (pv : Rat) (pr : Nat)
    (hrep : rec.reported = some (pv, pr)) :
    (SCall.removeCase tid pr pv ∈ (s.updateSearcher tid r v o rec).2 ↔ rec.keepCase = false) := by
  unfold Sched.updateSearcher
  simp only [h, hig, Bool.false_eq_true, if_false, hrep]
  cases hk : rec.keepCase <;> simp

example : ObsWF { mode := .min } := ⟨by simp [KeysNodup], by simp⟩

example : (({ mode := .max, pending := [(0, 1), (1, 1), (2, 3)] } : SState).cleanupPending 1).pending
    = [(0, 1), (2, 3)] := by decide

end SyneTune.C14
