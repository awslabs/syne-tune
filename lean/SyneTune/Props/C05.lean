import SyneTune.Lemmas.SyncRun
import SyneTune.Lemmas.SyncLineage
/-
C05 — synchronous Hyperband fills rungs exactly and promotes exactly the top trials.
Models: `Model/SyncBracket.lean`, `Model/SyncManager.lean`, `Model/SyncScheduler.lean`.

`Reachable mode systems s`: `s` is the state of the scheduler constructed for the rung
systems `systems` after ANY list of operations (`suggest` with a trial id not yet known to
the scheduler / `on_trial_result` / `on_trial_error` / `on_trial_complete` /
`on_trial_remove` / `trials_checkpoints_can_be_removed`, in any order, for any trials, any
metrics, any resources) — every interleaving of the results of several open brackets and
every subset of failing jobs is such a list.  The theorems are proved by induction over
that list (`Lemmas/SyncRun.lean: run_inv`).
-/
namespace SyneTune.C05
open SyneTune SyneTune.Sync

/-- **Never raises.**  On a reachable state every operation that respects the loop's
contract (fresh id for `suggest`) returns normally; the only exception possible is the
assertion "training script must not skip rung levels" (a report beyond the milestone). -/
theorem run_total (mode : Mode) (systems : List (List (Nat × Nat))) (s : Sched)
    (h : Reachable mode systems s) (op : Op) (hl : LegalOp s op) :
    (∃ s' o, s.step op = .ok (s', o)) ∨
    (∃ tid r v id sl, op = .result tid r v ∧ alookup tid s.pending = some (id, sl) ∧ sl.level < r) :=
  (step_spec h.inv op hl).2.2

/-- **Distinct trials.**  In every reachable state the slots of a rung hold pairwise
distinct trials, and no trial occurs in two brackets. -/
theorem distinct (mode : Mode) (systems : List (List (Nat × Nat))) (s : Sched)
    (h : Reachable mode systems s) :
    (∀ br ∈ s.mgr.brackets, ∀ rg ∈ br.rungs, (rg.slots.filterMap (·.tid)).Nodup) ∧
    (∀ (i j : Nat) (bi bj : Bracket) (t : Nat), s.mgr.brackets[i]? = some bi → s.mgr.brackets[j]? = some bj →
      bi.HasId t → bj.HasId t → i = j) := by
  refine ⟨fun br hbr rg hrg => ?_, h.inv.disjoint⟩
  obtain ⟨spec, hb, -⟩ := h.bwf hbr
  exact hb.nodup rg hrg

/-- **Rungs of exactly the configured size; brackets cycle through the rung systems.**
Bracket `id` is built from rung system `id mod num_bracket_offsets`: its rungs (materialised or
not yet) have exactly the sizes and levels of that system, and the recorded offset is
`id mod num_bracket_offsets`. -/
theorem cycle (mode : Mode) (systems : List (List (Nat × Nat))) (s : Sched)
    (h : Reachable mode systems s) (id : Nat) (br : Bracket) (hbr : s.mgr.brackets[id]? = some br) :
    ∃ spec, systems[id % systems.length]? = some spec ∧
      br.rungs.map (fun r => (r.slots.length, r.level)) ++ br.todo = spec ∧
      s.mgr.idToOffset[id]? = some (id % systems.length) ∧ br.mode = mode := by
  have hI := h.inv; have hsys := h.sys; have hmode := h.mode
  obtain ⟨spec, hspec, hb, hm⟩ := hI.mwf.wf id br hbr
  have hn : s.mgr.numOffsets = systems.length := congrArg List.length hsys
  have hidlt : id < s.mgr.idToOffset.length := hI.mwf.lenEq ▸ getElem?_lt hbr
  refine ⟨spec, hn ▸ hsys ▸ hspec, hb.shape, ?_, hm.trans hmode⟩
  rw [List.getElem?_eq_getElem hidlt, ← hn, hI.mwf.cycle id _ (List.getElem?_eq_getElem hidlt)]

/-- **Barrier.**  A rung `k+1` of a bracket exists (has slots) only if every slot of rung
`k` is occupied by a result; only the current rung has unoccupied slots, and it always has
one (a complete rung is advanced immediately). -/
theorem barrier (mode : Mode) (systems : List (List (Nat × Nat))) (s : Sched)
    (h : Reachable mode systems s) (br : Bracket) (hbr : br ∈ s.mgr.brackets) :
    (∀ (k : Nat) (rgk next : Rung), br.rungs[k]? = some rgk → br.rungs[k + 1]? = some next →
      ∀ x ∈ rgk.slots, x.metric.isSome = true) ∧
    (∀ (k : Nat) (rgk : Rung) (x : Slot), br.rungs[k]? = some rgk → x ∈ rgk.slots → x.metric = none →
      k = br.current) ∧
    (∀ rg, br.rungs[br.current]? = some rg → ∃ x ∈ rg.slots, x.metric = none) := by
  obtain ⟨spec, hb, -⟩ := h.bwf hbr
  -- the rungs below the last materialised one are below the current one, hence complete
  refine ⟨fun k rgk next hk hn => hb.done k rgk (hb.le_cur hn) hk,
    fun k rgk x hk hx hxm => Classical.not_not.mp fun hne => ?_, hb.open_⟩
  have := hb.done k rgk (Nat.lt_of_le_of_ne (hb.le_cur hk) hne) hk x hx
  rw [hxm] at this; cases this

/-- **The next rung is the top list.**  Whenever rung `k+1` of a bracket exists, its slots
hold, position by position, the ids `get_top_list` selects from the completed rung `k`
(`topList`, characterised by `top_list_best` below).  A position whose top-list entry is
`None` (a failed slot that never had a trial, promoted only under shortfall) may instead
hold a trial that was started into that slot later; such a trial has reported there and
occurs in no lower rung. -/
theorem top (mode : Mode) (systems : List (List (Nat × Nat))) (s : Sched)
    (h : Reachable mode systems s) (br : Bracket) (hbr : br ∈ s.mgr.brackets)
    (k : Nat) (prev next : Rung) (hprev : br.rungs[k]? = some prev) (hnext : br.rungs[k + 1]? = some next) :
    ∃ es, entriesOf prev.slots = some es ∧ es.length = prev.slots.length ∧
      (topList es next.slots.length mode).length = next.slots.length ∧
      ∀ (p : Nat) (o : Option Nat) (x : Slot),
        (topList es next.slots.length mode)[p]? = some o → next.slots[p]? = some x →
        x.tid = o ∨ (o = none ∧ ∀ t, x.tid = some t → x.metric.isSome = true ∧
                      ∀ r ∈ br.rungs.take (k + 1), t ∉ r.slots.filterMap (·.tid)) := by
  obtain ⟨spec, hb, hm⟩ := h.bwf hbr
  obtain ⟨es, hes, hlen, hpt⟩ := hb.top k prev next hprev hnext
  rw [hm] at hlen hpt
  exact ⟨es, hes, entriesOf_length hes, hlen, hpt⟩

/-- **`get_top_list` selects exactly the best entries.**  `topSel rung n m` are the selected
entries with their positions in the completed rung, in the order of the new rung
(`topList` = their ids).  For `n ≤ |rung|` (rung sizes decrease):
* exactly `n` entries at pairwise distinct positions of the rung are selected;
* if the rung has at least `n` valid (non-NaN) entries: only valid entries are selected,
  they are ordered by (metric key, position), and every selected entry ranks strictly
  before every valid entry which is not selected — key = metric (`min`) / −metric (`max`),
  ties by position;
* otherwise all valid entries are selected; hence a failed (NaN) entry is selected only
  when fewer than `n` valid ones exist. -/
theorem top_list_best (rung : List TEntry) (n : Nat) (m : Mode) (hn : n ≤ rung.length) :
    topList rung n m = (topSel rung n m).map (·.1.1) ∧
    (topSel rung n m).length = n ∧
    ((topSel rung n m).map (·.2)).Nodup ∧
    (∀ x ∈ topSel rung n m, rung[x.2]? = some x.1) ∧
    (n ≤ (rung.filter (fun e => !e.2.isNan)).length →
      (∀ x ∈ topSel rung n m, IsValid x.1) ∧
      (topSel rung n m).Pairwise (Better m) ∧
      (∀ x ∈ topSel rung n m, ∀ (j : Nat) (e : TEntry), rung[j]? = some e → IsValid e →
        j ∉ (topSel rung n m).map (·.2) → Better m x (e, j))) ∧
    ((rung.filter (fun e => !e.2.isNan)).length < n →
      ∀ (j : Nat) (e : TEntry), rung[j]? = some e → IsValid e → (e, j) ∈ topSel rung n m) ∧
    (∀ x ∈ topSel rung n m, ¬ IsValid x.1 → (rung.filter (fun e => !e.2.isNan)).length < n) := by
  rw [← validPos_length]
  refine ⟨rfl, topSel_length rung n m hn, topSel_nodup rung n m, topSel_mem rung n m, ?_, ?_, ?_⟩
  · intro hv
    exact ⟨topSel_valid rung n m hv, topSel_sorted rung n m hv, topSel_best rung n m hv⟩
  · intro hv
    exact topSel_all_valid rung n m (by omega)
  · intro x hx hnv
    by_contra hc
    exact hnv (topSel_valid rung n m (by omega) x hx)

/-- **A request for work never blocks.**  `next_job` returns a job on every reachable state:
the first free slot of the first bracket from the primary on that has a free slot in its
current rung — and exactly when no open bracket has one, a new bracket is created (its
first slot is the job). -/
theorem never_blocks (mode : Mode) (systems : List (List (Nat × Nat))) (s : Sched)
    (h : Reachable mode systems s) :
    ∃ g' id sl, s.mgr.nextJob = .ok (g', id, sl) ∧
      ((∃ br, s.mgr.brackets[id]? = some br ∧ s.mgr.primary ≤ id ∧ br.HasFree ∧
          (∀ j b, s.mgr.primary ≤ j → j < id → s.mgr.brackets[j]? = some b → ¬ b.HasFree) ∧
          g'.brackets.length = s.mgr.brackets.length ∧
          sl.rungIndex = br.current ∧ sl.slotIndex = br.firstFree) ∨
       (id = s.mgr.brackets.length ∧
          (∀ j b, s.mgr.primary ≤ j → s.mgr.brackets[j]? = some b → ¬ b.HasFree) ∧
          g'.brackets.length = s.mgr.brackets.length + 1 ∧ sl.rungIndex = 0 ∧ sl.slotIndex = 0)) := by
  have hI := h.inv
  obtain ⟨g', id, br, rg, x, hjob, hj, -⟩ := nextJob_job hI.mwf
  refine ⟨g', id, _, hjob, ?_⟩
  rcases hj.old with ⟨hge, hbr, he⟩ | ⟨rfl, he, hfr⟩
  · exact Or.inl ⟨br, hbr, hge, hj.free, hj.first, by rw [he, List.length_set], rfl, rfl⟩
  · exact Or.inr ⟨rfl, fun j b h1 hb => hj.first j b h1 (getElem?_lt hb) hb, by rw [he]; simp, hfr.current, hfr.firstFree⟩

/-- `suggest` (scheduler level) always answers: a new trial, a trial to resume, or —
only when the searcher has no configuration — nothing. -/
theorem suggest_total (mode : Mode) (systems : List (List (Nat × Nat))) (s : Sched)
    (h : Reachable mode systems s) (tid : Nat) (c : Bool) (hfresh : tid ∉ s.configs) :
    ∃ s' sg calls, s.suggest tid c = .ok (s', sg, calls) ∧ (sg = .none → c = false) := by
  have he := suggest_eff h.inv tid c hfresh
  generalize s.suggest tid c = res at he
  cases he with
  | resume => exact ⟨_, _, _, rfl, nofun⟩
  | start => exact ⟨_, _, _, rfl, nofun⟩
  | noconfig => exact ⟨_, _, _, rfl, fun _ => rfl⟩

/-- **Primary bracket.**  The primary bracket is the one with the least id among the
incomplete brackets: all brackets below it are complete, it is not. -/
theorem primary (mode : Mode) (systems : List (List (Nat × Nat))) (s : Sched)
    (h : Reachable mode systems s) :
    s.mgr.primary < s.mgr.brackets.length ∧
    (∀ id br, id < s.mgr.primary → s.mgr.brackets[id]? = some br → br.isComplete = true) ∧
    (∀ br, s.mgr.brackets[s.mgr.primary]? = some br → br.isComplete = false) := by
  have hw := h.inv.mwf
  exact ⟨hw.primLt, hw.below, hw.primOpen⟩

/-- **A trial is resumed only after its whole rung has reported, and only from the top
list.**  If `suggest` answers "resume `t` to level `lvl`", then in the resulting state `t`
sits in the current rung `k+1 ≥ 1` of some bracket, at level `lvl`; every slot of rung `k`
holds a result; and `t` is an element of the top list of rung `k`. -/
theorem resume_is_top (mode : Mode) (systems : List (List (Nat × Nat))) (s : Sched)
    (h : Reachable mode systems s) (tid : Nat) (c : Bool) (hfresh : tid ∉ s.configs)
    (s' : Sched) (t lvl : Nat) (cl : Option Nat) (calls : List SCall)
    (hs : s.suggest tid c = .ok (s', .resume t lvl cl, calls)) :
    ∃ (id : Nat) (br : Bracket) (k : Nat) (prev rg : Rung) (es : List TEntry),
      s'.mgr.brackets[id]? = some br ∧ br.current = k + 1 ∧
      br.rungs[k]? = some prev ∧ br.rungs[k + 1]? = some rg ∧ rg.level = lvl ∧
      (∀ y ∈ prev.slots, y.metric.isSome = true) ∧
      entriesOf prev.slots = some es ∧ some t ∈ topList es rg.slots.length br.mode := by
  have hI := h.inv
  obtain ⟨id, spec, br, rg, p, x, hr⟩ := resume_spec hI hfresh hs
  obtain ⟨k, prev, es, hk, hprev, hdone, hes, htop⟩ := waiting_from_top hr.wf hr.hrg hr.hsl hr.tid hr.empty
  exact ⟨id, bump br, k, prev, rg, es, hr.after, hk, hprev, hk ▸ hr.hrg, hr.lvl, hdone, hes, htop⟩

/-- two brackets' worth of history on the system `[[(2,1),(1,2)],[(1,2)]]`: both trials of
the base rung report, the better one (trial 1, metric 1/4 < 1/2) is promoted. -/
example :
    ∃ s0 s, Sched.init .min [[(2, 1), (1, 2)], [(1, 2)]] false false = .ok s0 ∧
      s0.run [.suggest 0 true, .suggest 1 true, .result 0 1 (.val (1/2)), .result 1 1 (.val (1/4))] = s ∧
      s.mgr.brackets.map (fun b => (b.current, b.rungs.map (fun r => r.slots))) =
        [(1, [[⟨some 0, some (.val (1/2))⟩, ⟨some 1, some (.val (1/4))⟩], [⟨some 1, none⟩]])] ∧
      s.removable = [some 0] :=
  ⟨_, _, rfl, rfl, by decide +kernel, by decide +kernel⟩

/-- `Reachable` itself: three `suggest`s on the same system; the third finds both base slots
of bracket 0 handed out and opens bracket 1 (rung system 1 mod 2), two brackets are open. -/
example :
    ∃ s, Reachable .min [[(2, 1), (1, 2)], [(1, 2)]] s ∧ s.mgr.brackets.length = 2 ∧ s.mgr.primary = 0 ∧
      s.mgr.idToOffset = [0, 1] ∧ s.pending.map (·.1) = [0, 1, 2] :=
  ⟨_, ⟨false, false, _, [.suggest 0 true, .suggest 1 true, .suggest 2 true], rfl, by decide +kernel, rfl⟩,
    by decide +kernel, by decide +kernel, by decide +kernel, by decide +kernel⟩

example : topList [(some 0, .val 3), (some 1, .nan), (some 2, .val 1), (some 3, .val 3)] 2 .min = [some 2, some 0] := by
  decide +kernel

example : topList [(some 0, .val 3), (some 1, .nan), (none, .nan)] 2 .max = [some 0, some 1] := by
  decide +kernel

end SyneTune.C05
