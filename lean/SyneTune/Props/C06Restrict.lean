import SyneTune.Lemmas.SearcherDomains
import SyneTune.Lemmas.RandomRestrictRun
/-
C06 for the random searcher WITH `restrict_configurations` — suggestions are valid, typed
configurations of the caller's list; initial points first; no repeats; what "nothing left"
means; the caller's list object is never changed.
Property theorems and examples of their hypotheses; helper lemmas (`in_list_iff` apart) are
in `Lemmas/RandomRestrict{,Run}.lean` and, for the typed configurations and the queue of initial points, in
`Lemmas/{SearcherDomains,SearcherRuns}.lean`.
Model: `Model/RandomRestrict.lean` (extends `Model/RandomSearcher.lean`).

Conventions: `construct imm init (some l)` is the constructor with the imputed initial
configurations `init` (`C06.impute`) and the caller's list `l`; it returns the searcher AND
the caller's list object (`World`).  The draws `random_state.randint(0, len(list))` are an
arbitrary tape `di` of positions (a value that is not a position of the list contradicts
numpy's contract and is the model error `tape`); `dc` is the tape of the unrestricted path
(never read by a searcher with a list).  All theorems quantify over all histories of
suggest / pending / failed / result events.
-/
namespace SyneTune.C06R
open SyneTune SyneTune.Srch

/-- "the configuration is in the list" as the code decides it (`matchstr_to_pos.get(...)`):
some list entry has the same match string -/
theorem in_list_iff (mk : MK) (l : List Config) (mss : List String) (hm : mapMk mk l = .ok mss) (c : Config) :
    inMss mk mss c = true ↔ ∃ r ∈ l, ∃ m, mk r = .ok m ∧ mk c = .ok m := by
  unfold inMss
  cases hc : mk c with
  | error e => simp
  | ok m =>
    -- `m` is in `mss` iff `.ok m` is in `mss.map .ok`, which is `l.map mk`
    rw [decide_eq_true_eq, ← List.mem_map_of_injective (f := Except.ok) fun _ _ => Except.ok.inj, ← mapMk_map hm,
      List.mem_map]
    exact ⟨fun ⟨r, hr, e⟩ => ⟨r, hr, m, e, rfl⟩, fun ⟨r, hr, m', e, e'⟩ => ⟨r, hr, e.trans (e' ▸ rfl)⟩⟩

/-- **The constructor** (`_filter_points_to_evaluate`): it rejects an empty list; the
initial configurations that are in the list stay, in their order, the others are dropped;
the searcher's list is a sub-list of the caller's (the caller's list itself if duplicates
are allowed); `_rc_returned_pos` starts empty; the caller's list object is not changed and
is not the searcher's list object. -/
theorem constructor (imm : RImm) (init l : List Config) (w : World)
    (h : construct imm init (some l) = .ok w) :
    l ≠ [] ∧ w.caller = l ∧ w.shared = false ∧ w.s.pos = [] ∧
    ∃ mss rc, mapMk imm.mkf l = .ok mss ∧ w.s.rc = some rc ∧ rc.Sublist l ∧
      w.s.base = RState.init (init.filter (inMss imm.mkf mss)) ∧
      (imm.allowDup = true → rc = l) := by
  obtain ⟨mss, rc, hm, rfl, hne, hsub, hT, -⟩ := construct_spec h
  exact ⟨hne, rfl, rfl, rfl, mss, rc, hm, rfl, hsub, rfl, hT⟩

/-- **Initial configurations first, in order; everything else from the list.**  For every
history from the freshly constructed searcher: the first answers of `get_config` are
exactly the initial configurations that are in the list (`kept`), in order; every later
answer is a member of the caller's list; hence every answer is a member of the list or an
initial configuration with the match string of a list entry. -/
theorem suggestions_from_list (imm : RImm) (dc : Nat → Config) (di : Nat → Nat) (init l : List Config)
    (w : World) (hc : construct imm init (some l) = .ok w) (ops : List ROp) (s' : XState)
    (outs : List (Option Config)) (h : XState.run imm dc di w.s ops = .ok (s', outs)) :
    ∃ mss, mapMk imm.mkf l = .ok mss ∧
      outs.take (init.filter (inMss imm.mkf mss)).length =
        ((init.filter (inMss imm.mkf mss)).map some).take outs.length ∧
      (∀ (j : Nat) (c : Config), (init.filter (inMss imm.mkf mss)).length ≤ j → outs[j]? = some (some c) → c ∈ l) ∧
      (∀ c, some c ∈ outs → c ∈ l ∨ (c ∈ init ∧ ∃ r ∈ l, ∃ m, imm.mkf r = .ok m ∧ imm.mkf c = .ok m)) := by
  obtain ⟨mss, rc, hm, rfl, -, hsub, -, -⟩ := construct_spec hc
  have hs : Served (init.filter (inMss imm.mkf mss)) (· ∈ rc) outs := (xrun_served h rfl).imp fun _ => And.left
  refine ⟨mss, hm, hs.take_eq, fun j c hj ho => hsub.subset (hs.later hj ho),
    fun c hc' => (hs.mem hc').symm.imp (hsub.subset ·) fun hin => ?_⟩
  rw [List.mem_filter] at hin
  exact ⟨hin.1, (in_list_iff imm.mkf l mss hm c).mp hin.2⟩

/-- **Valid, typed suggestions.**  If every configuration of the caller's list gives each
hyperparameter a member of its domain, every configuration the searcher returns — initial
or drawn, after any history — is turned by the scheduler into a configuration with all
keys, typed member values and the space's constants (`C06.keys_types_members`). -/
theorem keys_types_members_restricted (sp : Space) (hwf : Space.wfb sp = true) (imm : RImm)
    (hints : List (String × Nat)) (p2e : Option (List Config)) (init : List Config)
    (hinit : imputePoints sp hints p2e = .ok init) (l : List Config)
    (hl : ∀ c ∈ l, ValidOn (hpEntries sp) c) (w : World) (hc : construct imm init (some l) = .ok w)
    (dc : Nat → Config) (di : Nat → Nat) (ops : List ROp) (s' : XState) (outs : List (Option Config))
    (h : XState.run imm dc di w.s ops = .ok (s', outs)) :
    ∀ c, some c ∈ outs → ∃ full, schedulerConfig sp c = .ok full ∧ FullValid sp c full := by
  intro c hc'
  obtain ⟨_, _, _, _, hall⟩ := suggestions_from_list imm dc di init l w hc ops s' outs h
  rcases hall c hc' with hin | ⟨hin, _⟩
  · exact schedulerConfig_valid sp hwf c (hl c hin)
  · exact schedulerConfig_valid sp hwf c
      (HpValid.validOn hwf (imputePoints_valid sp hwf hints p2e init hinit c hin))

/-- `_rc_returned_pos` is empty between any two calls, and the searcher's list stays a
sub-list of the caller's (unchanged if duplicates are allowed) -/
theorem returned_pos_empty_between_calls (imm : RImm) (dc : Nat → Config) (di : Nat → Nat) (init l : List Config)
    (w : World) (hc : construct imm init (some l) = .ok w) (ops : List ROp) (s' : XState)
    (outs : List (Option Config)) (h : XState.run imm dc di w.s ops = .ok (s', outs)) :
    s'.pos = [] ∧ ∃ l', s'.rc = some l' ∧ l'.Sublist l ∧ (imm.allowDup = true → l' = l) := by
  obtain ⟨mss, rc, -, rfl, -, hsub, hT, -⟩ := construct_spec hc
  obtain ⟨d, l', a, b, c⟩ := xrun_list h rfl rfl
  exact ⟨d, l', a, b.trans hsub, fun hd => by rw [c hd, hT hd]⟩

/-- **No repeats (`allow_duplicates = False`)** — for every caller's list (duplicates in
it or not), duplicate-free initial configurations (`C06.impute`), every history and every
tape: (1) no two returned configurations are equal; (2) every returned configuration's
match string is in the exclusion set afterwards; (3) a configuration returned after the
initial ones has a match string different from that of EVERY configuration returned before. -/
theorem no_repeat (imm : RImm) (hnd : imm.allowDup = false) (dc : Nat → Config) (di : Nat → Nat)
    (init l : List Config) (hinit : init.Nodup) (w : World) (hc : construct imm init (some l) = .ok w)
    (ops : List ROp) (s' : XState) (outs : List (Option Config))
    (h : XState.run imm dc di w.s ops = .ok (s', outs)) :
    (outs.filterMap id).Nodup ∧
    (∀ c ∈ outs.filterMap id, ∃ m, imm.mkf c = .ok m ∧ m ∈ s'.base.excl) ∧
    (∀ (j : Nat) (c : Config), w.s.base.p2e.length ≤ j → (outs.filterMap id)[j]? = some c →
      ∀ (i : Nat) (c' : Config), i < j → (outs.filterMap id)[i]? = some c' → imm.mkf c' ≠ imm.mkf c) := by
  obtain ⟨mss, rc, -, rfl, -⟩ := construct_spec hc
  exact xrun_norepeat_start hnd h rfl (hinit.sublist List.filter_sublist)

/-- **Accounting of the list (`allow_duplicates = False`).**  From any state without
initial configurations left, over any history: the configurations suggested together with
the list that remains are a rearrangement of the list before — every suggestion removes
exactly itself from the list, nothing else ever leaves it. -/
theorem list_accounting (imm : RImm) (hnd : imm.allowDup = false) (dc : Nat → Config) (di : Nat → Nat)
    (s s' : XState) (l : List Config) (ops : List ROp) (outs : List (Option Config))
    (h : XState.run imm dc di s ops = .ok (s', outs)) (hrc : s.rc = some l) (hpos : s.pos = [])
    (hp : s.base.p2e = []) :
    ∃ l', s'.rc = some l' ∧ (outs.filterMap id ++ l').Perm l :=
  xrun_accounting hnd h hrc hpos hp

/-- **What `None` means (any list, either setting of `allow_duplicates`).**  `get_config`
of a searcher with list `rc` answers `None` only when no initial configuration is left and
either the list is empty (no draw is made) or each of the `MAX_RETRIES` draws hit a list
entry whose match string is excluded; the state is unchanged apart from the generator.
(The full statement "`None` ⇒ every list entry is excluded" is false of the code:
`none_only_if_used_up_counterexample`.) -/
theorem none_restricted_partial (imm : RImm) (s s' : XState) (rc : List Config) (dc : Nat → Config)
    (di : Nat → Nat) (hrc : s.rc = some rc) (hpos : s.pos = [])
    (h : s.getConfig imm dc di = .ok (s', none)) :
    s.base.p2e = [] ∧ s' = s.advance (s'.base.rng - s.base.rng) ∧
    ((rc = [] ∧ s'.base.rng = s.base.rng) ∨
     (rc ≠ [] ∧ s'.base.rng = s.base.rng + imm.maxRetries ∧
       ∀ i, i < imm.maxRetries → ∃ c m, rc[di i]? = some c ∧ imm.mkf c = .ok m ∧ m ∈ s.base.excl)) := by
  have hhit : ∀ i, s.Hit imm dc di i → ∃ c m, rc[di i]? = some c ∧ imm.mkf c = .ok m ∧ m ∈ s.base.excl :=
    fun i ⟨c, h1, m, h2⟩ => ⟨c, m, (XState.cand_some hrc ..).symm.trans h1, h2⟩
  obtain ⟨hp, n, rfl, why⟩ := XState.getConfig_none hpos h
  refine ⟨hp, by rw [show (s.advance n).base.rng = s.base.rng + n from rfl, Nat.add_sub_cancel_left], ?_⟩
  rcases why with ⟨rfl, hw | hw⟩ | ⟨rfl, hne, hall⟩
  · exact Or.inl ⟨by simpa [hrc] using hw, rfl⟩
  · simp [hrc] at hw
  · exact Or.inr ⟨fun e => hne (e ▸ hrc), rfl, fun i hi => hhit i (hall i hi)⟩

/-- **… and `None` is answered whenever the list is used up relative to the exclusion
list**: no initial configuration left and every entry of the list excluded (in particular:
the list is empty) — whatever positions are drawn. -/
theorem none_when_all_excluded (imm : RImm) (s : XState) (rc : List Config) (dc : Nat → Config) (di : Nat → Nat)
    (hrc : s.rc = some rc) (hp : s.base.p2e = [])
    (hall : ∀ c ∈ rc, ∃ m, imm.mkf c = .ok m ∧ m ∈ s.base.excl) (hdi : ∀ i, rc ≠ [] → di i < rc.length) :
    ∃ n, s.getConfig imm dc di = .ok (s.advance n, none) :=
  XState.getConfig_all_excluded hrc hp hall hdi

def exMk : MK := fun c => match cget "x" c with
  | some (.int 0) => .ok "0"
  | some (.int 1) => .ok "1"
  | some (.int 2) => .ok "2"
  | _ => .error (.keyError "x")

def cfg (i : Int) : Config := [("x", .int i)]

def exImm : RImm := { mkf := exMk, allowDup := false, maxRetries := 100, size := some 3, debugLog := false }
def exImmDup : RImm := { exImm with allowDup := true }

/-- **`None` before the list is used up.**  The caller lists `x=0` twice and `x=1` once;
`x=0` has been suggested (its second copy stays in the list, excluded); `MAX_RETRIES = 100`
draws that all hit that copy: `get_config` answers `None` although `x=1` was never
suggested.  The state is reached from the constructor by one `get_config` (second part).
Same loop bound as `C06.none_only_if_exhausted_counterexample` (F8); on the real code the
monitor reports it as `c06:random-none-before-exhaustion`. -/
theorem none_only_if_used_up_counterexample :
    ¬ (∀ (imm : RImm) (s s' : XState) (rc : List Config) (dc : Nat → Config) (di : Nat → Nat),
        s.rc = some rc → s.pos = [] → s.getConfig imm dc di = .ok (s', none) →
        ∀ c ∈ rc, ∃ m, imm.mkf c = .ok m ∧ m ∈ s.base.excl) ∧
    ((construct exImm [] (some [cfg 0, cfg 0, cfg 1])).toOption.bind fun w =>
        (XState.run exImm (fun _ => []) (fun _ => 0) w.s [.get]).toOption) =
      some ({ base := { p2e := [], excl := ["0"], cfgFor := [], rng := 1 }, rc := some [cfg 0, cfg 1], pos := [] },
            [some (cfg 0)]) := by
  refine ⟨?_, by decide +kernel⟩
  intro hall
  let s : XState := { base := { p2e := [], excl := ["0"], cfgFor := [], rng := 1 }, rc := some [cfg 0, cfg 1], pos := [] }
  obtain ⟨m, hm, hin⟩ := hall exImm s (s.advance 100) [cfg 0, cfg 1] (fun _ => []) (fun _ => 0) rfl rfl
    (by decide +kernel) (cfg 1) (by simp)
  have h1 : exImm.mkf (cfg 1) = .ok "1" := by decide +kernel
  rw [h1] at hm
  injection hm with hm; subst hm
  revert hin
  decide +kernel

/-- **`None` exactly when the list is used up** — full statement for a caller's list
without duplicates (pairwise different match strings) and `allow_duplicates = False`.
After ANY history from the constructor the state is `Clean` (no remaining entry excluded,
none equal to a pending initial configuration), and then a `get_config`: answers `None`
iff no initial configuration and no list entry is left; never retries (at most one draw);
and leaves a `Clean` state. -/
theorem none_iff_list_used_up (imm : RImm) (hnd : imm.allowDup = false) (hmr : 0 < imm.maxRetries)
    (dc : Nat → Config) (di : Nat → Nat) (init l : List Config) (mss : List String)
    (hm : mapMk imm.mkf l = .ok mss) (hn : mss.Nodup) (w : World) (hc : construct imm init (some l) = .ok w)
    (ops : List ROp) (s : XState) (outs : List (Option Config))
    (h : XState.run imm dc di w.s ops = .ok (s, outs)) :
    ∃ rc, XState.Clean imm s rc ∧
      ∀ (dc' : Nat → Config) (di' : Nat → Nat) (s' : XState) (o : Option Config),
        s.getConfig imm dc' di' = .ok (s', o) →
        (o = none ↔ s.base.p2e = [] ∧ rc = []) ∧ s'.base.rng ≤ s.base.rng + 1 := by
  obtain ⟨rc0, hc0⟩ := construct_clean hnd hc hm hn
  obtain ⟨rc, hcl⟩ := xrun_clean hnd hmr h hc0
  refine ⟨rc, hcl, fun dc' di' s' o hg => ?_⟩
  obtain ⟨a, b, _⟩ := xget_clean hnd hmr hcl (XState.getConfig_got hcl.pos hg)
  exact ⟨a, b⟩

/-- **The caller's list is never changed** (code after the fix 923cd41).  The constructor
returns the searcher and the caller's list object; over every history the content of that
object after EVERY operation (`cl`) and at the end is what the caller passed, and the
outputs are those of the searcher alone. -/
theorem caller_list_unchanged (imm : RImm) (dc : Nat → Config) (di : Nat → Nat) (init l : List Config)
    (w : World) (hc : construct imm init (some l) = .ok w) (ops : List ROp) (w' : World)
    (outs : List (Option Config)) (cl : List (List Config))
    (h : World.run imm dc di w ops = .ok (w', outs, cl)) :
    w.caller = l ∧ w'.caller = l ∧ (∀ x ∈ cl, x = l) ∧ cl.length = ops.length ∧
    XState.run imm dc di w.s ops = .ok (w'.s, outs) := by
  obtain ⟨mss, rc, -, rfl, -⟩ := construct_spec hc
  obtain ⟨a, c, d, e⟩ := wrun_unshared h rfl
  exact ⟨rfl, a, c, d, e⟩

/-- **The behaviour before the fix 923cd41 (F26)** on the model: the old constructor keeps
the caller's list object when no initial configuration has to be removed from it; the first
drawn suggestion is then popped off the caller's list.  With the fixed constructor the same
history leaves it alone.  On the real code the monitor reports the former as
`c06:restrict-configurations-caller-list-mutated`. -/
theorem caller_list_mutated_counterexample :
    ((constructOld exImm [] (some [cfg 0, cfg 1, cfg 2])).toOption.bind fun w =>
        ((World.run exImm (fun _ => []) (fun _ => 1) w [.get]).toOption.map fun r => (r.2.1, r.1.caller))) =
      some ([some (cfg 1)], [cfg 0, cfg 2]) ∧
    ((construct exImm [] (some [cfg 0, cfg 1, cfg 2])).toOption.bind fun w =>
        ((World.run exImm (fun _ => []) (fun _ => 1) w [.get]).toOption.map fun r => (r.2.1, r.1.caller))) =
      some ([some (cfg 1)], [cfg 0, cfg 1, cfg 2]) := by
  refine ⟨by decide +kernel, by decide +kernel⟩

/-- without `restrict_configurations` every history gives exactly the outputs (and errors)
of the unrestricted model `RState.run` the theorems of `C06` are about -/
theorem unrestricted_agrees (imm : RImm) (dc : Nat → Config) (di : Nat → Nat) (init : List Config)
    (ops : List ROp) :
    (construct imm init none).map (fun w => w.s) = .ok (XState.ofBase (RState.init init)) ∧
    XState.run imm dc di (XState.ofBase (RState.init init)) ops =
      liftBase (RState.run imm dc (RState.init init) ops) :=
  ⟨rfl, xrun_unrestricted imm dc di ops (RState.init init)⟩

/-- the constructor: of the initial configurations `x=2, x=0` only `x=0` is in the list
`[x=0, x=1, x=0]`; its LAST copy is removed from the searcher's list; the caller's list is
left alone (hypotheses of `constructor`, `suggestions_from_list`) -/
example :
    construct exImm [cfg 2, cfg 0] (some [cfg 0, cfg 1, cfg 0]) =
      .ok { s := { base := RState.init [cfg 0], rc := some [cfg 0, cfg 1], pos := [] },
            caller := [cfg 0, cfg 1, cfg 0], shared := false } := by decide +kernel

/-- an empty list is the constructor's assertion -/
example : construct exImm [] (some []) = .error (.assertion "len(restrict_configurations) > 0") := by
  decide +kernel

/-- a history with a pending and a failed trial, a retry (the first draw hits the excluded
copy of `x=0`) and exhaustion: initial `x=0`, then `x=1`, then `None` for ever, the
remaining list `[x=0]` being excluded (hypotheses of `no_repeat`, `none_restricted_partial`,
`none_when_all_excluded`, `caller_list_unchanged`) -/
def exHistory : Option (World × List (Option Config) × List (List Config)) :=
  (construct exImm [cfg 2, cfg 0] (some [cfg 0, cfg 1, cfg 0])).toOption.bind fun w =>
    (World.run exImm (fun _ => []) (fun i => if i = 1 then 1 else 0) w
      [.get, .pending 0 (some (cfg 0)), .get, .failed 0, .get, .result 1, .get]).toOption

example :
    exHistory.map (fun r => (r.1.s.rc, r.1.s.base.rng)) = some (some [cfg 0], 202) ∧
    exHistory.map (fun r => r.2.1) = some [some (cfg 0), some (cfg 1), none, none] ∧
    exHistory.map (fun r => r.1.caller) = some [cfg 0, cfg 1, cfg 0] := by
  refine ⟨by decide +kernel, by decide +kernel⟩

/-- a duplicate-free list driven past exhaustion (hypotheses of `none_iff_list_used_up`,
`list_accounting`): one draw per suggestion, the remainder ends as `[]` (not `None`) -/
def exHistory2 : Option (XState × List (Option Config)) :=
  (construct exImm [cfg 1] (some [cfg 2, cfg 0, cfg 1])).toOption.bind fun w =>
    (XState.run exImm (fun _ => []) (fun i => if i = 0 then 1 else 0) w.s
      [.get, .get, .pending 1 none, .get, .get, .get]).toOption

example :
    mapMk exMk [cfg 2, cfg 0, cfg 1] = .ok ["2", "0", "1"] ∧
    exHistory2.map (fun r => (r.1.rc, r.1.base.rng)) = some (some [], 2) ∧
    exHistory2.map (fun r => r.2) = some [some (cfg 1), some (cfg 0), some (cfg 2), none, none] := by
  refine ⟨by decide +kernel, by decide +kernel⟩

/-- `allow_duplicates = True`: the list is never shortened, a configuration comes back,
and the configuration of a failed trial is excluded from then on -/
def exHistory3 : Option (XState × List (Option Config)) :=
  (construct exImmDup [] (some [cfg 0, cfg 1])).toOption.bind fun w =>
    (XState.run exImmDup (fun _ => []) (fun i => if i < 3 then 0 else 1) w.s
      [.get, .pending 0 (some (cfg 0)), .get, .failed 0, .get]).toOption

example :
    exHistory3.map (fun r => (r.1.rc, r.1.base.excl)) = some (some [cfg 0, cfg 1], ["0"]) ∧
    exHistory3.map (fun r => r.2) = some [some (cfg 0), some (cfg 0), some (cfg 1)] := by
  decide +kernel

end SyneTune.C06R
