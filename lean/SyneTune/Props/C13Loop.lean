import SyneTune.Lemmas.TunerLifecycle
import SyneTune.Lemmas.TunerWitnessData
/-
C13 (loop side) — trial failures are contained.
Property theorems only; model `Model/Tuner.lean`, lemmas `Lemmas/TunerStruct.lean`
(`SInv.names_failed`), `Lemmas/TunerLifecycle.lean`.
Scheduler-side parts (the schedulers keep working after `on_trial_error`) are separate.
-/
namespace SyneTune.C13Loop
open SyneTune SyneTune.Tuner

/-- **Every failure is notified.** When the second loop of `_update_running_trials` comes to an
item whose polled status is `failed`, `scheduler.on_trial_error(trial)` is the next call. -/
theorem notified_failed (s : LState) (a : Ans) (t : Nat) (rest : List (Nat × St))
    (hp : s.pc = .second) (hi : s.items = (t, .failed) :: rest) :
    pending (step s a) = .schedError t ∧ (step s a).items = rest := by
  rw [step_eq_log, next_second_cons a hp hi]; exact ⟨rfl, rfl⟩

/-- the same for a trial that was stopped from outside (status `stopped` although the scheduler
never said STOP) -/
theorem notified_external_stop (s : LState) (a : Ans) (t : Nat) (rest : List (Nat × St))
    (hp : s.pc = .second) (hi : s.items = (t, .stopped) :: rest) (hns : t ∉ s.schedStopped) :
    pending (step s a) = .schedError t ∧ (step s a).items = rest := by
  rw [step_eq_log, next_second_cons a hp hi]
  show pending (ite _ _ _) = _ ∧ (ite _ _ _ : LState).items = _
  rw [if_neg hns]; exact ⟨rfl, rfl⟩

/-- **… and only once.** `on_trial_error(t)` is only called while the run of `t` is open for the
scheduler, and its return closes it (`kst t = dead`): no second `on_trial_error`, no
`on_trial_result`, for that run (under B, K and the no-end-clash hypothesis, see
`C01.notify_partial`; without the latter the scheduler hears `on_trial_remove` and then
`on_trial_error`, `C01.notify_end_clash_counterexample`). -/
theorem notified_once (c : Cfg) (as : List Ans)
    (hB : Along BOk (init c) as) (hK : Along KOk (init c) as) (hN : Along NCOk (init c) as)
    (hp : (run (init c) as).pc = .errorS) :
    alookup (run (init c) as).t (run (init c) as).kst = some .live ∧
    alookup (run (init c) as).t (step (run (init c) as) .ret).kst = some .dead := by
  refine ⟨(NotifyOK.reach (reach_run c (hB.and (hK.and hN)))).error hp, ?_⟩
  rw [step_eq_log, next_errorS hp]; exact alookup_aset_self _ _ _

/-- **The run carries on while failures stay within the limit.** If, when the stopping condition
is evaluated, the stopping criterion is false and the number of failed trials is at most
`max_failures`, the loop starts another iteration. -/
theorem continues (s : LState) (a a' : Ans) (hp : s.pc = .evalStop) (hw : s.cfg.crit.maxWallclock = none)
    (hc : s.cfg.crit.eval s.status 0 s.cfg.keyCost = false) (hf : s.status.numFailed ≤ s.cfg.maxFailures) :
    (step (step s a) a').pc = .loopStart := by
  have hs : stopCond s 0 = false := by
    unfold stopCond; rw [hc, Bool.false_or, decide_eq_false_iff_not]; omega
  have h1 : step s a = { s with stopReached := false, pc := .loopHead } := by
    rw [step_eq, next_evalStop a hp hw, hs]; rfl
  rw [h1]; rfl

/-- **Exceeding the limit ends the run with an error that names a failed trial.** Under contract
B: when the `finally` block reaches `_handle_failure` with more than `max_failures` failed
trials, the run goes on to show the log of a trial `t` whose entry in `done_trials_statuses` is
`failed` (the first such), and — the two log calls returning — `run()` raises
`ValueError("Trial - t failed")`. -/
theorem abort_names_failed (c : Cfg) (as : List Ans) (hB : Along BOk (init c) as)
    (hp : (run (init c) as).pc = .finMark)
    (hmax : (run (init c) as).cfg.maxFailures < (run (init c) as).status.markStopped.numFailed) (a : Ans) :
    ∃ t, alookup t (run (init c) as).doneAll = some .failed ∧
      pending (step (run (init c) as) a) = .stdout t ∧
      (step (step (step (run (init c) as) a) .ret) .ret).err = some (.failed t) ∧
      (step (step (step (run (init c) as) a) .ret) .ret).pc = .done := by
  obtain ⟨t, hff, hd⟩ := (SInv.reach (reach_run c hB)).names_failed (LNInv.reach (reach_any c as))
    (Nat.lt_of_le_of_lt (Nat.zero_le _) hmax)
  generalize run (init c) as = s at *
  have hn := next_finMark_failed a hp hmax hff
  have h1 : step s a = { next s a with log := (next s a).log ++ [pending (next s a)] } := by
    rw [step_eq, hn, if_neg (by rw [hp]; nofun)]
  rw [h1, hn]
  exact ⟨t, hd, rfl, rfl, rfl⟩

/-- `notified_failed`: trial 0 polled as failed → `on_trial_error(0)` -/
example : (run (init Witness.clashCfg) (Witness.clashPrefix.take 28)).pc = .second ∧
    (run (init Witness.clashCfg) (Witness.clashPrefix.take 28)).items = [(0, .failed)] ∧
    pending (run (init Witness.clashCfg) Witness.clashPrefix) = .schedError 0 := by
  decide +kernel

/-- `continues`: one failure with `max_failures = 1`: the next iteration starts -/
example : (run (init Witness.clashCfg) (Witness.clashPrefix ++ Witness.clashRest.take 7)).pc = .evalStop ∧
    (run (init Witness.clashCfg) (Witness.clashPrefix ++ Witness.clashRest.take 7)).status.numFailed = 1 ∧
    (run (init Witness.clashCfg) (Witness.clashPrefix ++ Witness.clashRest.take 9)).pc = .loopStart := by
  decide +kernel

/-- `abort_names_failed`: the same answers with `max_failures = 0`: the loop is left at the next
`while` test, `_handle_failure` shows the logs of trial 0 and `run()` raises "Trial - 0 failed" -/
example :
    let c : Cfg := { Witness.clashCfg with maxFailures := 0 }
    let as : List Ans := Witness.clashPrefix ++ Witness.clashRest.take 9 ++
      [.ret, .ids [0], Witness.τ, .status .failed, Witness.τ, Witness.τ]
    (run (init c) as).pc = .finMark ∧
    pending (run (init c) (as ++ [Witness.τ])) = .stdout 0 ∧
    (run (init c) (as ++ [Witness.τ, .ret, .ret])).err = some (.failed 0) ∧
    (run (init c) (as ++ [Witness.τ, .ret, .ret])).pc = .done := by
  decide +kernel

end SyneTune.C13Loop
