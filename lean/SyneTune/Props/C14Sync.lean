import SyneTune.Lemmas.C14SyncAll
/-
C14, COMPOSED SYSTEM, SYNCHRONOUS HYPERBAND — "multi-fidelity surrogate data: each observation
once, only live pending entries", for the model of `SynchronousHyperbandScheduler`
(`Model/SyncScheduler.lean`, `Sync.Sched`) and the model of the data bookkeeping of the GP
searcher (`Model/SearcherState.lean`, `SState`) running together: every searcher call an
operation emits is translated (`trCall`) and applied, in order, to the searcher state (`applyActs`:
`SState.apply`, or `drop_pending_evaluation` + `mark_trial_failed` for a NaN result passed with
`update=True`, as /repo does) by `stepCS` (`Lemmas/C14SyncDefs.lean`).  Proved for ALL histories, in the style of `Props/C14Comp.lean`
(asynchronous `HyperbandScheduler`).

* `SysS` = scheduler + searcher state + the ghost map `last` (level of the last result a trial
  reported in its current run; only contract and invariant read it).
* `OpOKS` is the contract of the operation stream (what the `Tuner` loop and the training scripts
  guarantee), evaluated along the run by `OpsOKS`; each clause is justified at its definition and
  shown NECESSARY by a `…_counterexample` below.
* `CInvS` is the invariant; it holds for every scheduler built by `Sched.init` (both
  `searcher_data` policies, `max_resource_attr` on or off) with a searcher without data.

Levels: `s.lvl id k` is the level of rung `k` of bracket `id` (`bracket_rungs[id mod n][k][1]`),
`s.prevLvl id k` the level of the rung below (0 for the base rung); `window_is_code_window`
shows that these are `rung.level` and `level_to_prev_level(bracket_id, level)` of the code.
`s.mgr.SlotAt id k p ⟨tid, metric⟩`: slot `p` of rung `k` of bracket `id` holds `(tid, metric)`.
-/
namespace SyneTune.Sync.C14S
open SyneTune.C14 SyneTune.C14Comp

/-- **Scheduler and searcher accept every operation within the contract.**  From a state
satisfying the invariant: the scheduler method does not raise (in particular not "Training
script must not skip rung levels"), and none of the calls it makes on the searcher (`applyActs` of their translation) hits the
searcher's assertion ("already has observation, cannot be pending" in `register_pending`): the
two error branches of `stepCS` are unreachable. -/
theorem calls_accepted_sync (y : SysS) (h : CInvS y) (op : Op) (hok : OpOKS y op) :
    ∃ s' o st', y.sched.step op = .ok (s', o) ∧ applyActs y.st (o.calls.map trCall) = .ok st' :=
  accepted_step h op hok

theorem cinvS_step (y : SysS) (h : CInvS y) (op : Op) (hok : OpOKS y op) : CInvS (stepCS y op) :=
  cinvS_step' h op hok

/-- **`CInvS` holds after every history** of scheduler operations within the contract. -/
theorem cinvS_all_histories (y0 : SysS) (h : CInvS y0) (ops : List Op) (hok : OpsOKS y0 ops) :
    CInvS (runCS y0 ops) := by
  induction ops generalizing y0 with
  | nil => exact h
  | cons op ops ih => exact ih _ (cinvS_step' h op hok.1) hok.2

/-- **Every constructed system satisfies the invariant**: any scheduler the constructor
`SynchronousHyperbandScheduler(config_space, bracket_rungs, mode, max_resource_attr,
searcher_data)` accepts (`Sched.init … = .ok s0`: the assertions on `bracket_rungs` hold), with
a searcher that has no data yet. -/
theorem init_CInvS (mode : Mode) (systems : List (List (Nat × Nat))) (maxResourceAttr searcherAll : Bool)
    (s0 : Sched) (h : Sched.init mode systems maxResourceAttr searcherAll = .ok s0) :
    CInvS { sched := s0, st := { mode := mode }, last := [] } :=
  init_cinvS h mode

/-- **The scheduler inside the composed system is the scheduler of C05/C13/C20.**  Along a
history within the contract the scheduler component is `Sched.run` of the same operations and
the history is a `LegalRun`; started from a constructed scheduler its states are `Reachable`, so
`C05.distinct`, `C05.barrier`, `C05.top`, `C13Sync.*`, `C20Sync.*` apply to them. -/
theorem sched_component_sync (y0 : SysS) (h : CInvS y0) (ops : List Op) (hok : OpsOKS y0 ops) :
    (runCS y0 ops).sched = y0.sched.run ops ∧ LegalRun y0.sched ops ∧
    (runCS y0 ops).sched.mgr.bracketRungs = y0.sched.mgr.bracketRungs ∧
    (runCS y0 ops).sched.searcherAll = y0.sched.searcherAll :=
  ⟨(sched_run_eq h ops hok).1, (sched_run_eq h ops hok).2, (run_consts h ops hok).1, (run_consts h ops hok).2⟩

/-- **`lvl` / `prevLvl` are the code's milestone and `prev_level`.**  In a state satisfying the
invariant, for every materialised rung `k` of bracket `id`: `lvl id k` is the rung's level,
`level_to_prev_level(id, level)` returns `prevLvl id k`, and `prevLvl id k < lvl id k`; for a
trial registered in `_trial_to_pending_slot` the milestone `slot_in_rung.level` is `lvl` of its
rung. -/
theorem window_is_code_window (y : SysS) (h : CInvS y) :
    (∀ id k br rg, y.sched.mgr.brackets[id]? = some br → br.rungs[k]? = some rg →
      y.sched.lvl id k = rg.level ∧
      y.sched.mgr.levelToPrevLevel id rg.level = .ok (y.sched.prevLvl id k) ∧
      y.sched.prevLvl id k < y.sched.lvl id k) ∧
    (∀ t id sl, alookup t y.sched.pending = some (id, sl) → sl.level = y.sched.lvl id sl.rungIndex) :=
  ⟨fun _ _ _ _ hbr hrg => rung_levels h.inv.mwf hbr hrg, fun _ _ _ hl => (pend_level h.inv hl).1⟩

/-- **Only live pending entries.**  After every history within the contract, every pending
evaluation `(t, r)` the searcher holds belongs to a trial which is registered in the scheduler's
`_trial_to_pending_slot` (it is running: started or resumed and has neither reported its
milestone, nor failed), `r` is the milestone of its slot, above the last level the trial
reported in this run, there is no observation for `(t, r)`, and the trial was STARTED for this
slot (the bracket's slot still holds `(None, None)`: `register_pending` is called for a new
trial only).  Histories with NaN metric values are covered: the contract does not restrict the
values reported. -/
theorem pending_only_running_sync (y0 : SysS) (h0 : CInvS y0) (ops : List Op) (hok : OpsOKS y0 ops) (t r : Nat)
    (hp : (t, r) ∈ (runCS y0 ops).st.pending) :
    ∃ id sl, alookup t (runCS y0 ops).sched.pending = some (id, sl) ∧ r = sl.level ∧
      (runCS y0 ops).lastOf t < r ∧ (runCS y0 ops).st.isLabeled t r = false ∧
      (runCS y0 ops).sched.mgr.SlotAt id sl.rungIndex sl.slotIndex ⟨none, none⟩ := by
  have h := cinvS_all_histories y0 h0 ops hok
  obtain ⟨id, sl, h1, h2, h3⟩ := h.pend (t, r) hp
  refine ⟨id, sl, h1, h2, ?_, pending_not_labeled h hp, h3⟩
  have := h.lastOk t id sl h1
  simp only at h2; omega

/-- **Exactly the started trials have a pending evaluation.**  After every history within the
contract: no pending entry occurs twice; a running trial has the pending evaluation
`(t, milestone)` iff it was started for its slot (slot content `(None, None)`); a running trial
which was RESUMED for its slot (slot content `(t, None)`) has no pending evaluation at all (the
synchronous scheduler does not call `register_pending` on promotion); a trial which is not
running has none. -/
theorem pending_exact_sync (y0 : SysS) (h0 : CInvS y0) (ops : List Op) (hok : OpsOKS y0 ops) :
    (runCS y0 ops).st.pending.Nodup ∧
    (∀ t id sl, alookup t (runCS y0 ops).sched.pending = some (id, sl) →
      ((t, sl.level) ∈ (runCS y0 ops).st.pending ↔
        (runCS y0 ops).sched.mgr.SlotAt id sl.rungIndex sl.slotIndex ⟨none, none⟩)) ∧
    (∀ t id sl, alookup t (runCS y0 ops).sched.pending = some (id, sl) →
      (runCS y0 ops).sched.mgr.SlotAt id sl.rungIndex sl.slotIndex ⟨some t, none⟩ →
      ∀ p ∈ (runCS y0 ops).st.pending, p.1 ≠ t) ∧
    (∀ t, alookup t (runCS y0 ops).sched.pending = none → ∀ p ∈ (runCS y0 ops).st.pending, p.1 ≠ t) := by
  have h := cinvS_all_histories y0 h0 ops hok
  refine ⟨h.pnd, fun t id sl hl => ⟨fun hp => (pending_of_running h hl hp rfl).2, h.conv t id sl hl⟩, ?_,
    fun t hn => no_pending_of_not_running h hn⟩
  intro t id sl hl hs p hp he
  have := slotAt_functional hs (pending_of_running h hl hp he).2
  simp at this

/-- **No pending evaluation survives the end of a run.**  From a state satisfying the
invariant: after `on_trial_error(t)` no pending entry of `t` remains; after an
`on_trial_result` (within the contract) whose answer is PAUSE (the milestone report — with a
finite OR a NaN metric value) or STOP no pending entry of the reporting trial remains; and
`on_trial_complete` (within the contract) changes neither the scheduler nor the pending
evaluations nor the data (with a finite value nothing at all; a NaN value only marks the trial as
failed) — the trial has been paused at its milestone before. -/
theorem no_pending_after_end_sync (y : SysS) (h : CInvS y) :
    (∀ t, ∀ p ∈ (stepCS y (.error t)).st.pending, p.1 ≠ t) ∧
    (∀ t r v s' d calls, OpOKS y (.result t r v) → y.sched.onResult t r v = .ok (s', d, calls) →
      d ≠ .continue → ∀ p ∈ (stepCS y (.result t r v)).st.pending, p.1 ≠ t) ∧
    (∀ t r v, OpOKS y (.complete t r v) →
      (stepCS y (.complete t r v)).sched = y.sched ∧
      (stepCS y (.complete t r v)).st.pending = y.st.pending ∧
      (stepCS y (.complete t r v)).st.observed = y.st.observed ∧
      (∀ x, v = .val x → stepCS y (.complete t r v) = y)) := by
  refine ⟨fun t => error_no_pending h t,
    fun t r v _ _ _ hok hres hd => result_end_no_pending h t r v hok hres hd, ?_⟩
  intro t r v hok
  obtain ⟨hp, ho, hv⟩ := received_complete h (show CompleteOK y.st t r v from hok)
  rw [stepCS_complete]
  exact ⟨rfl, hp, ho, fun x hx => by rw [hv x hx]⟩

/-- **Each observation once, equal to what was reported, never overwritten.**  After every
history within the contract: the data set holds at most one record per trial and one value per
level (`ObsWF`); every stored value for trial `t` at level `r` was there at the start or is the
criterion (`1 - x` for mode max) of a FINITE metric value `x` which an `on_trial_result` call of
the history reported for `t` at level `r`; and an observation which was in the data at the start
is still there, unchanged (`label_trial` never overwrites, nothing is removed). -/
theorem observed_once_sync (y0 : SysS) (h0 : CInvS y0) (ops : List Op) (hok : OpsOKS y0 ops) :
    ObsWF (runCS y0 ops).st ∧
    (∀ t r c, obsAt (runCS y0 ops).st t r = some c →
      obsAt y0.st t r = some c ∨
      ∃ x, (t, r, Metric.val x) ∈ ops.flatMap opReportsS ∧ c = y0.st.crit x) ∧
    (∀ t r c, obsAt y0.st t r = some c → obsAt (runCS y0 ops).st t r = some c) :=
  ⟨(cinvS_all_histories y0 h0 ops hok).owf, fun t r c hc => run_obs_source h0 ops hok t r c hc,
   (run_stable h0 ops hok).2⟩

/-- the same from a searcher without data: every observation is a reported value -/
theorem observed_once_from_init_sync (y0 : SysS) (h0 : CInvS y0) (hemp : y0.st.observed = [])
    (ops : List Op) (hok : OpsOKS y0 ops) (t r : Nat) (c : Rat)
    (hc : obsAt (runCS y0 ops).st t r = some c) :
    ∃ x, (t, r, Metric.val x) ∈ ops.flatMap opReportsS ∧ c = y0.st.crit x := by
  rcases run_obs_source h0 ops hok t r c hc with h | h
  · rw [obsAt_of_empty hemp] at h; cases h
  · exact h

/-- **`searcher_data = "rungs"`: the data set is exactly the set of finite rung entries.**
After every history within the contract, with the policy `rungs`: trial `t` has the observation
`c` at level `r` iff some bracket has a rung of level `r` in which `t` holds a slot with a finite
metric value `x`, and `c` is the criterion of `x` — i.e. `t` reached the milestone `r` in its own
bracket and reported `x` there.  Present and no others: a failed trial (slot `(t, NaN)`), a
level between rungs, a level of another bracket's rung system never occur. -/
theorem observed_levels_sync (y0 : SysS) (h0 : CInvS y0) (ops : List Op) (hok : OpsOKS y0 ops)
    (hpol : y0.sched.searcherAll = false) (t r : Nat) (c : Rat) :
    obsAt (runCS y0 ops).st t r = some c ↔
      ∃ id k p x, (runCS y0 ops).sched.mgr.SlotAt id k p ⟨some t, some (.val x)⟩ ∧
        r = (runCS y0 ops).sched.lvl id k ∧ c = (runCS y0 ops).st.crit x :=
  obs_rungs_iff (cinvS_all_histories y0 h0 ops hok) ((run_consts h0 ops hok).2.trans hpol) t r c

/-- **No observation outside the windows of the runs** (both policies).  After every history
within the contract an observation for trial `t` at level `r` belongs to a run of `t`:
* a finished run — slot `p` of rung `k` of bracket `id` holds `(t, m)` — with
  `prev_level < r ≤ level` of that rung; `r` is the rung level itself only if `m` is a finite
  value (then the observation is its criterion); with `searcher_data = "rungs"`, `r` is the rung
  level; or
* the current run of the running trial `t` (`searcher_data = "all"` only), with `prev_level < r`
  and `r` not above the last level `t` reported. -/
theorem observed_levels_window_sync (y0 : SysS) (h0 : CInvS y0) (ops : List Op) (hok : OpsOKS y0 ops) (t r : Nat)
    (hl : (runCS y0 ops).st.isLabeled t r = true) :
    (∃ id k p m, (runCS y0 ops).sched.mgr.SlotAt id k p ⟨some t, some m⟩ ∧
        (runCS y0 ops).sched.prevLvl id k < r ∧ r ≤ (runCS y0 ops).sched.lvl id k ∧
        (r = (runCS y0 ops).sched.lvl id k →
          ∃ x, m = .val x ∧ obsAt (runCS y0 ops).st t r = some ((runCS y0 ops).st.crit x)) ∧
        ((runCS y0 ops).sched.searcherAll = false → r = (runCS y0 ops).sched.lvl id k)) ∨
    (∃ id sl, alookup t (runCS y0 ops).sched.pending = some (id, sl) ∧
        (runCS y0 ops).sched.prevLvl id sl.rungIndex < r ∧ r ≤ (runCS y0 ops).lastOf t ∧
        (runCS y0 ops).sched.searcherAll = true) :=
  (cinvS_all_histories y0 h0 ops hok).obs t r hl

/-- **Every report the policy selects is in the data** (both policies).  If at some point of a
history within the contract the running trial `t`, registered for a slot of rung `sl.rungIndex`
of bracket `id`, reports the finite value `x` at a level `r` above `prev_level` of that rung, and
the policy selects it (`searcher_data = "all"`, or `r` is the milestone), then at the end of the
history — whatever happens afterwards — the observation of `t` at `r` is the criterion of `x`. -/
theorem selected_report_present_sync (y0 : SysS) (h0 : CInvS y0) (ops1 ops2 : List Op) (t r : Nat) (x : Rat)
    (hok : OpsOKS y0 (ops1 ++ .result t r (.val x) :: ops2)) (id : Nat) (sl : SlotInRung)
    (hlook : alookup t (runCS y0 ops1).sched.pending = some (id, sl))
    (hprev : (runCS y0 ops1).sched.prevLvl id sl.rungIndex < r)
    (hsel : (runCS y0 ops1).sched.searcherAll = true ∨ r = sl.level) :
    obsAt (runCS y0 (ops1 ++ .result t r (.val x) :: ops2)).st t r = some (y0.st.crit x) := by
  rw [opsOKS_append] at hok
  obtain ⟨hok1, hok2, hok3⟩ := hok
  have h1 := cinvS_all_histories y0 h0 ops1 hok1
  have hp := result_present h1 hok2 hlook (hsel.imp_left (⟨·, hprev⟩))
  rw [crit_of_mode (run_stable h0 ops1 hok1).1] at hp
  rw [runCS_append, runCS_cons]
  exact (run_stable (cinvS_step' h1 _ hok2) ops2 hok3).2 t r _ hp

/-- **`searcher_data = "all"`: every level of the window of every run — PARTIAL**: proved under
the extra hypothesis `ConsecRun` (the training scripts leave out no resource level: each report
of a running trial is the level after its previous one, the first report of a run being 1 or
`prev_level + 1`), which is not part of the contract `OpOKS`.  Then, started from a constructed
system, after every history: a running trial has an observation at every level `r` with
`prev_level < r ≤ last level reported`, and a finished run with a finite milestone report has one
at every `r` with `prev_level < r ≤ milestone`.  What is missing without `ConsecRun`: nothing
forces a script to report every level (the scheduler only asserts that the milestone itself is
not skipped); a level which was never reported is simply absent — `selected_report_present_sync`
is the unconditional statement. -/
theorem observed_levels_all_present_partial (mode : Mode) (systems : List (List (Nat × Nat)))
    (maxResourceAttr : Bool) (s0 : Sched) (hinit : Sched.init mode systems maxResourceAttr true = .ok s0)
    (ops : List Op) (hok : OpsOKS { sched := s0, st := { mode := mode }, last := [] } ops)
    (hcon : ConsecRun { sched := s0, st := { mode := mode }, last := [] } ops) :
    let y := runCS { sched := s0, st := { mode := mode }, last := [] } ops
    (∀ t id sl, alookup t y.sched.pending = some (id, sl) →
      ∀ r, y.sched.prevLvl id sl.rungIndex < r → r ≤ y.lastOf t → y.st.isLabeled t r = true) ∧
    (∀ t id k p x, y.sched.mgr.SlotAt id k p ⟨some t, some (.val x)⟩ →
      ∀ r, y.sched.prevLvl id k < r → r ≤ y.sched.lvl id k → y.st.isLabeled t r = true) := by
  intro y
  have h0 := init_CInvS mode systems maxResourceAttr true s0 hinit
  have hall := allInv_run h0 ops hok hcon (allInv_init mode systems maxResourceAttr true s0 hinit mode)
  apply hall
  rw [(run_consts h0 ops hok).2]
  obtain ⟨g, -, rfl⟩ := init_ok_eq hinit
  rfl

/-- the system constructed by `Sched.init`, with a searcher without data -/
def mkSys (mode : Mode) (systems : List (List (Nat × Nat))) (maxResourceAttr searcherAll : Bool) : SysS :=
  match Sched.init mode systems maxResourceAttr searcherAll with
  | .ok s => { sched := s, st := { mode := mode } }
  | .error _ => { sched := default, st := { mode := mode } }

theorem mkSys_CInvS (mode : Mode) (systems : List (List (Nat × Nat))) (a b : Bool)
    (hok : (Sched.init mode systems a b).toOption.isSome = true) : CInvS (mkSys mode systems a b) := by
  unfold mkSys
  cases h : Sched.init mode systems a b with
  | error e => rw [h] at hok; cases hok
  | ok s => exact init_CInvS mode systems a b s h

def searcherRaises (y : SysS) (op : Op) : Bool :=
  match y.sched.step op with
  | .ok (_, o) => (match applyActs y.st (o.calls.map trCall) with | .error _ => true | .ok _ => false)
  | .error _ => false

def schedRaises (y : SysS) (op : Op) : Bool :=
  match y.sched.step op with
  | .ok _ => false
  | .error _ => true

/-- two brackets, rung systems `[(4,1),(2,3)]` and `[(2,3)]`, `searcher_data = "all"` -/
def exAll : SysS := mkSys .min [[(4, 1), (2, 3)], [(2, 3)]] false true
/-- the same with `searcher_data = "rungs"` -/
def exRungs : SysS := mkSys .min [[(4, 1), (2, 3)], [(2, 3)]] false false
/-- one bracket with the rung system `[(2,1),(1,3)]`, `searcher_data = "rungs"` -/
def exSmall : SysS := mkSys .min [[(2, 1), (1, 3)]] false false
/-- the same with `searcher_data = "all"` -/
def exSmallAll : SysS := mkSys .min [[(2, 1), (1, 3)]] false true
/-- one bracket with the single rung `(1,3)`, `searcher_data = "all"` -/
def exOneAll : SysS := mkSys .min [[(1, 3)]] false true
/-- the same with `searcher_data = "rungs"` -/
def exOne : SysS := mkSys .min [[(1, 3)]] false false
/-- one bracket with the single rung `(1,1)` -/
def exUnit : SysS := mkSys .min [[(1, 1)]] false false

/-- **Counterexample (clause `suggest`: new trial ids).**  Trial 0 is started, reports its
milestone 1 and is paused; the `Tuner` then offers the id 0 again for a new trial: the scheduler
accepts it (trial 0 is not registered any more) and calls `register_pending(0, milestone=1)`,
which the searcher refuses: "already has observation, cannot be pending". -/
theorem fresh_id_counterexample :
    ¬ OpsOKS exSmall [.suggest 0 true, .result 0 1 (.val 1), .suggest 0 true] ∧
    OpsOKS exSmall [.suggest 0 true, .result 0 1 (.val 1)] ∧
    searcherRaises (runCS exSmall [.suggest 0 true, .result 0 1 (.val 1)]) (.suggest 0 true) = true := by
  decide +kernel

/-- **A NaN report at the milestone drops the pending evaluation** (no contract clause about
metric values is needed).  The new trial 0 (pending evaluation `(0, 1)`) reports `NaN` at its
milestone 1: the history is within the contract; the bracket records the slot as failed,
`(0, NaN)`, the trial leaves `_trial_to_pending_slot` (answer PAUSE); the searcher's `_update`
"rejects NaN or infinite values" — no observation — but drops the pending evaluation the result
replaces and marks the trial as failed: nothing is pending at the end, `failed_trials = [0]`.
(F28, DESIGN §10.2: before the fix the pending evaluation `(0, 1)` stayed for ever; replayed on the fixed
code: same state as here.) -/
theorem nan_report_drops_pending :
    OpsOKS exUnit [.suggest 0 true, .result 0 1 .nan] ∧
    (runCS exUnit [.suggest 0 true]).st.pending = [(0, 1)] ∧
    (runCS exUnit [.suggest 0 true, .result 0 1 .nan]).st.pending = [] ∧
    (runCS exUnit [.suggest 0 true, .result 0 1 .nan]).sched.pending.map (·.1) = [] ∧
    (runCS exUnit [.suggest 0 true, .result 0 1 .nan]).st.observed = [] ∧
    (runCS exUnit [.suggest 0 true, .result 0 1 .nan]).st.failed = [0] ∧
    (runCS exUnit [.suggest 0 true, .result 0 1 .nan]).sched.mgr.brackets.map (fun b => b.rungs.map (·.slots)) =
      [[[⟨some 0, some .nan⟩]], [[⟨none, none⟩]]] := by
  decide +kernel

/-- **Counterexample (clause `result`: increasing levels).**  `searcher_data = "all"`: trial 0
(milestone 3) reports level 1 twice with different values; the second report overwrites the
observation — the searcher "receives multiple reports for the same resource", the observation
5 is not stable (`observed_once_sync`, third part). -/
theorem rereport_counterexample :
    ¬ OpsOKS exOneAll [.suggest 0 true, .result 0 1 (.val 5), .result 0 1 (.val 7)] ∧
    obsAt (runCS exOneAll [.suggest 0 true, .result 0 1 (.val 5)]).st 0 1 = some 5 ∧
    obsAt (runCS exOneAll [.suggest 0 true, .result 0 1 (.val 5), .result 0 1 (.val 7)]).st 0 1 = some 7 := by
  decide +kernel

/-- **Counterexample (clause `result`: not above the milestone).**  Trial 0 has milestone 3 and
reports level 4 without having reported level 3: `on_trial_result` raises the assertion
"Training script must not skip rung levels" (`calls_accepted_sync` fails). -/
theorem skip_level_counterexample :
    ¬ OpsOKS exOneAll [.suggest 0 true, .result 0 4 (.val 1)] ∧
    schedRaises (runCS exOneAll [.suggest 0 true]) (.result 0 4 (.val 1)) = true := by
  decide +kernel

/-- **Counterexample (clause `complete`).**  `searcher_data = "rungs"`, trial 0 has milestone 3.
(1) Its script ends after level 2 and the `Tuner` calls `on_trial_complete` with that result:
the searcher stores an observation at level 2, which is not a rung level
(`observed_levels_sync` fails), while the trial stays registered for its slot for ever, with its
pending evaluation `(0, 3)`.  (2) `on_trial_complete` with a level-3 result which was never
passed to `on_trial_result`: the pending evaluation of the running, started trial disappears
(`pending_exact_sync` fails) and the data contains a value no `on_trial_result` reported.
(3) The same with a NaN value: nothing is stored (the trial is marked failed), but the pending
evaluation of the running trial is dropped all the same. -/
theorem complete_counterexample :
    ¬ OpsOKS exOne [.suggest 0 true, .result 0 2 (.val 1), .complete 0 2 (.val 1)] ∧
    (runCS exOne [.suggest 0 true, .result 0 2 (.val 1), .complete 0 2 (.val 1)]).st.observed = [(0, [(2, 1)])] ∧
    (runCS exOne [.suggest 0 true, .result 0 2 (.val 1), .complete 0 2 (.val 1)]).st.pending = [(0, 3)] ∧
    (runCS exOne [.suggest 0 true, .result 0 2 (.val 1), .complete 0 2 (.val 1)]).sched.pending.map (·.1) = [0] ∧
    ¬ OpsOKS exOne [.suggest 0 true, .complete 0 3 (.val 1)] ∧
    (runCS exOne [.suggest 0 true, .complete 0 3 (.val 1)]).st.pending = [] ∧
    (runCS exOne [.suggest 0 true, .complete 0 3 (.val 1)]).st.observed = [(0, [(3, 1)])] ∧
    (runCS exOne [.suggest 0 true, .complete 0 3 (.val 1)]).sched.pending.map (·.1) = [0] ∧
    ¬ OpsOKS exOne [.suggest 0 true, .complete 0 3 .nan] ∧
    (runCS exOne [.suggest 0 true, .complete 0 3 .nan]).st.pending = [] ∧
    (runCS exOne [.suggest 0 true, .complete 0 3 .nan]).sched.pending.map (·.1) = [0] := by
  decide +kernel

example : CInvS exAll := mkSys_CInvS _ _ _ _ (by decide +kernel)
example : CInvS exRungs := mkSys_CInvS _ _ _ _ (by decide +kernel)
example : CInvS exSmall := mkSys_CInvS _ _ _ _ (by decide +kernel)
example : CInvS exOneAll := mkSys_CInvS _ _ _ _ (by decide +kernel)

/-- five trials are started (0–3 in the base rung of bracket 0, 4 in bracket 1), 0, 1, 3 report
their milestone 1, trial 2 fails: the rung is complete, trials 1 and 3 are promoted; the next
`_suggest` resumes trial 1 to milestone 3, which trains again from scratch (re-reports level 1),
reports 2 and 3; trial 4 reports 1, 2, 3; finally `on_trial_complete` for trial 1 -/
def histA : List Op :=
  [.suggest 0 true, .suggest 1 true, .suggest 2 true, .suggest 3 true, .suggest 4 true,
   .result 0 1 (.val 5), .result 1 1 (.val 3), .error 2, .result 3 1 (.val 4), .suggest 5 true,
   .result 1 1 (.val 3), .result 1 2 (.val 2), .result 4 1 (.val 1), .result 4 2 (.val 1),
   .result 4 3 (.val 1), .result 1 3 (.val 2), .complete 1 3 (.val 2)]

/-- the history is within the contract (also `ConsecRun`), for both policies.  Policy `all`: after
the five starts every trial has its milestone pending; after the tenth operation trial 1 is
running again (resumed) WITHOUT a pending evaluation, trial 4 still has `(4, 3)`; at the end
nothing is pending, the failed trial 2 has no observation, the resumed trial 1 has levels 1
(first run), 2, 3 (second run, the re-report of level 1 was not passed on), trial 4 levels 1–3. -/
example : OpsOKS exAll histA ∧ ConsecRun exAll histA ∧
    (runCS exAll (histA.take 5)).st.pending = [(0, 1), (1, 1), (2, 1), (3, 1), (4, 3)] ∧
    (runCS exAll (histA.take 10)).st.pending = [(4, 3)] ∧
    (runCS exAll (histA.take 10)).sched.pending.map (·.1) = [4, 1] ∧
    (runCS exAll histA).st.pending = [] ∧
    (runCS exAll histA).st.observed =
      [(0, [(1, 5)]), (1, [(1, 3), (2, 2), (3, 2)]), (3, [(1, 4)]), (4, [(1, 1), (2, 1), (3, 1)])] ∧
    (runCS exAll histA).st.failed = [2] := by decide +kernel

/-- policy `rungs`, same history: only milestone reports are in the data -/
example : OpsOKS exRungs histA ∧
    (runCS exRungs histA).st.observed = [(0, [(1, 5)]), (1, [(1, 3), (3, 2)]), (3, [(1, 4)]), (4, [(3, 1)])] ∧
    (runCS exRungs histA).st.pending = [] := by decide +kernel

/-- hypotheses of `selected_report_present_sync`: the report `(1, 2, 2)` of the resumed trial 1
(registered for rung 1 of bracket 0, `prev_level = 1 < 2`, policy `all`) -/
example : OpsOKS exAll (histA.take 11 ++ .result 1 2 (.val 2) :: histA.drop 12) ∧
    (alookup 1 (runCS exAll (histA.take 11)).sched.pending).map (fun v => (v.1, v.2.rungIndex, v.2.level)) = some (0, 1, 3) ∧
    (runCS exAll (histA.take 11)).sched.prevLvl 0 1 = 1 ∧
    (runCS exAll (histA.take 11)).sched.searcherAll = true := by decide +kernel

/-- NaN reports of a started trial, policy `all`, single rung `(1,3)`: NaN at level 1 (nothing
stored, `(0, 1)` is not pending: nothing dropped, trial marked failed), a finite value at level 2, NaN at the milestone 3
(the pending evaluation `(0, 3)` is dropped, no observation at 3) — replayed on the real code -/
example : OpsOKS exOneAll [.suggest 0 true, .result 0 1 .nan, .result 0 2 (.val 2), .result 0 3 .nan] ∧
    (runCS exOneAll [.suggest 0 true, .result 0 1 .nan, .result 0 2 (.val 2)]).st.pending = [(0, 3)] ∧
    (runCS exOneAll [.suggest 0 true, .result 0 1 .nan, .result 0 2 (.val 2), .result 0 3 .nan]).st.pending = [] ∧
    (runCS exOneAll [.suggest 0 true, .result 0 1 .nan, .result 0 2 (.val 2), .result 0 3 .nan]).st.observed =
      [(0, [(2, 2)])] ∧
    (runCS exOneAll [.suggest 0 true, .result 0 1 .nan, .result 0 2 (.val 2), .result 0 3 .nan]).sched.pending.map (·.1)
      = [] ∧
    (runCS exOneAll [.suggest 0 true, .result 0 1 .nan]).st.failed = [0] ∧
    (runCS exOneAll [.suggest 0 true, .result 0 1 .nan, .result 0 2 (.val 2), .result 0 3 .nan]).st.failed = [0] := by
  decide +kernel

/-- NaN reports of a resumed trial (no pending evaluation): trial 1 reports NaN at level 2 and at
its milestone 3 — the searcher stores nothing (and has nothing to drop), the bracket marks the
slot as failed, nothing is pending for trial 1, its observation of the first run stays -/
example : OpsOKS exAll (histA.take 11 ++ [.result 1 2 .nan, .result 1 3 .nan]) ∧
    (runCS exAll (histA.take 11 ++ [.result 1 2 .nan, .result 1 3 .nan])).st.pending = [(4, 3)] ∧
    (runCS exAll (histA.take 11 ++ [.result 1 2 .nan, .result 1 3 .nan])).st.observed =
      [(0, [(1, 5)]), (1, [(1, 3)]), (3, [(1, 4)])] ∧
    (runCS exAll (histA.take 11 ++ [.result 1 2 .nan, .result 1 3 .nan])).sched.pending.map (·.1) = [4] := by
  decide +kernel

/-- hypotheses of `observed_levels_sync` / `observed_once_from_init_sync`: policy `rungs`, no data at
the start -/
example : exRungs.sched.searcherAll = false ∧ exRungs.st.observed = [] ∧ exAll.st.observed = [] := by
  decide +kernel

/-- hypotheses of `observed_levels_all_present_partial` on the same history -/
example : ∃ s0, Sched.init .min [[(4, 1), (2, 3)], [(2, 3)]] false true = .ok s0 ∧
    OpsOKS { sched := s0, st := { mode := .min }, last := [] } histA ∧
    ConsecRun { sched := s0, st := { mode := .min }, last := [] } histA :=
  ⟨_, rfl, by decide +kernel, by decide +kernel⟩

/-- hypotheses of `no_pending_after_end_sync`: the milestone report of trial 0 is answered PAUSE;
before it trial 0 has the pending evaluation `(0, 1)`, afterwards none; the failure of trial 2
removes `(2, 1)` -/
example : ((runCS exAll (histA.take 5)).sched.onResult 0 1 (.val 5)).toOption.map (·.2.1) = some Decision.pause ∧
    OpOKS (runCS exAll (histA.take 5)) (.result 0 1 (.val 5)) ∧
    (runCS exAll (histA.take 6)).st.pending = [(1, 1), (2, 1), (3, 1), (4, 3)] ∧
    (runCS exAll (histA.take 8)).st.pending = [(3, 1), (4, 3)] := by decide +kernel

/-- **A trial started in a promoted empty slot.**  Rung system `[(2,1),(1,3)]`, policy `all`: the
searcher has no configuration for the two base slots, both are reported as failed `(None, NaN)`;
the rung is complete and `get_top_list` promotes an empty entry; the next `_suggest` STARTS the
new trial 2 in rung 1 (milestone 3, `prev_level` 1): pending `(2, 3)`.  It trains from scratch
and reports levels 1, 2, 3 — within the contract and `ConsecRun` — but the report at level
1 ≤ `prev_level` is withheld from the searcher: the data has levels 2 and 3 only. -/
example : OpsOKS exSmallAll [.suggest 0 false, .suggest 1 false, .suggest 2 true, .result 2 1 (.val 9),
      .result 2 2 (.val 8), .result 2 3 (.val 7)] ∧
    ConsecRun exSmallAll [.suggest 0 false, .suggest 1 false, .suggest 2 true, .result 2 1 (.val 9),
      .result 2 2 (.val 8), .result 2 3 (.val 7)] ∧
    (runCS exSmallAll [.suggest 0 false, .suggest 1 false, .suggest 2 true]).st.pending = [(2, 3)] ∧
    (runCS exSmallAll [.suggest 0 false, .suggest 1 false, .suggest 2 true]).sched.pending.map
      (fun v => (v.1, v.2.2.rungIndex)) = [(2, 1)] ∧
    (runCS exSmallAll [.suggest 0 false, .suggest 1 false, .suggest 2 true, .result 2 1 (.val 9),
      .result 2 2 (.val 8), .result 2 3 (.val 7)]).st.observed = [(2, [(2, 8), (3, 7)])] := by
  decide +kernel

end SyneTune.Sync.C14S
