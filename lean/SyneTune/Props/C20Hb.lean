import SyneTune.Props.C04K
/-
C20 (asynchronous Hyperband, every pause-and-resume type: promotion, PASHA, cost-aware, RUSH) — a checkpoint exists whenever
a trial is resumed.  The loop deletes a trial's checkpoint (with `delete_checkpoints`) only
after the scheduler's STOP decision for it.  A promotion-type scheduler answers STOP only at
`resource ≥ max_t` (`C03.decision_follows_report`); at that moment the trial has no unpromoted
rung entry (it is running, `KInv`).  `dead_stays_dead`: a trial that is not running and has no
unpromoted rung entry is never resumed again, over every continuation.
-/
namespace SyneTune.C20Hb
open SyneTune SyneTune.C04K

/-- the scheduler will never touch `t` again: not running and nothing left to promote -/
def Dead (s : Sched) (t : Nat) : Prop := NotRunning s t ∧ t ∉ unpromotedSys s.mgr.systems

theorem cleanup_dead (s : Sched) (tid : Nat) (d : Decision) (hd : d ≠ .continue) (t : Nat)
    (h : Dead s t) : Dead (s.cleanup tid d) t :=
  ⟨notRunning_cleanup s tid d hd t h.1, (taskRemove_rel s.mgr tid).same ▸ h.2⟩

/-- `t` has no unpromoted entry, the resumed trial had one -/
theorem suggest_dead {s s' : Sched} {n b : Nat} {hint : Option Nat} {sg : Suggestion} {calls : List SCall} {fr : Bool}
    {t : Nat} (hk : KInv s) (h : Dead s t) (hs : s.suggest n b hint = .ok (s', sg, calls, fr)) :
    Dead s' t ∧ ∀ f m, sg ≠ .resume t f m := by
  obtain ⟨rec, hr, hd⟩ := h.1
  obtain ⟨g, so, ms, fr0, hts, ha⟩ := Sched.suggest_ok hs
  obtain ⟨_, ⟨rfl, hnone, hun, hact⟩ | ⟨t0, f0, ms, rfl, _, hperm, hact⟩⟩ :=
    afterSchedule_effect hk (Manager.taskSchedule_eff hts) ha
  · have hne : t ≠ n := by rintro rfl; rw [hnone] at hr; cases hr
    exact ⟨⟨NotRunning.of_active_eq (hact t hne) h.1, hun ▸ h.2⟩, fun _ _ e => by cases e⟩
  · have hne : t ≠ t0 := by rintro rfl; exact h.2 (hperm.mem_iff.mpr (List.mem_cons_self ..))
    exact ⟨⟨NotRunning.of_active_eq (hact t hne) h.1,
      fun hm => h.2 (hperm.mem_iff.mpr (List.mem_cons_of_mem _ hm))⟩, fun _ _ e => by cases e; exact hne rfl⟩

theorem onResult_dead {s s' : Sched} {x r : Nat} {v : Rat} {hint : Bool} {c e : Rat} {out : ResOut} {t : Nat}
    (hk : KInv s) (h : Dead s t) (hs : s.onResult x r v hint c e = .ok (s', out)) : Dead s' t := by
  obtain ⟨_, hact, hcase⟩ := onResult_effect hk hs
  by_cases he : t = x
  · subst he
    rcases hcase with ⟨hun, hkeep⟩ | ⟨_, _, hrunning⟩
    · exact ⟨hkeep h.1, hun ▸ h.2⟩
    · exact absurd h.1 hrunning
  · refine ⟨NotRunning.of_active_eq (hact t he) h.1, ?_⟩
    rcases hcase with ⟨hun, _⟩ | ⟨hperm, _, _⟩
    · exact hun ▸ h.2
    · intro hm
      rcases List.mem_cons.mp (hperm.mem_iff.mp hm) with h5 | h5
      · exact he h5
      · exact h.2 h5

theorem step_dead (s : Sched) (op : SOp) (hk : KInv s) (t : Nat) (h : Dead s t) : Dead (stepS s op) t :=
  stepS_cases s op h (fun hs => (suggest_dead hk h hs).1) (onResult_dead hk h) fun x d hd => cleanup_dead s x d hd t h

/-- **A dead trial is never resumed** (every pause-and-resume type): over every continuation of the history. -/
theorem dead_stays_dead (s : Sched) (hk : KInv s) (t : Nat) (h : Dead s t) (ops : List SOp) :
    Dead (runS s ops) t :=
  (runS_inv (P := fun s => KInv s ∧ Dead s t) (fun s op h => ⟨step_KInv s op h.1, step_dead s op h.1 t h.2⟩)
    s ⟨hk, h⟩ ops).2

/-- **Checkpoint safety for the pause-and-resume types.**  If trial `t` is dead at some point (in particular:
it was stopped by the scheduler while running — the only situation in which the loop deletes
its checkpoint), no `suggest` at any later point of any history resumes it. -/
theorem stopped_never_resumed (s : Sched) (hk : KInv s) (t : Nat) (h : Dead s t) (ops : List SOp)
    (n b : Nat) (hint : Option Nat) (s' : Sched) (f m : Nat) (calls : List SCall) (fr : Bool) :
    (runS s ops).suggest n b hint ≠ .ok (s', .resume t f m, calls, fr) :=
  fun hs => (suggest_dead (kinv_all_histories s hk ops) (dead_stays_dead s hk t h ops) hs).2 f m rfl

/-- a running trial that receives STOP (resource ≥ max_t) becomes dead: it had no unpromoted
entry (it was running) and the report at `max_t` touches no rung. -/
theorem stop_at_max_makes_dead (s s' : Sched) (hk : KInv s) (tid r : Nat) (v : Rat) (hint : Bool) (c e : Rat)
    (out : ResOut) (rec : TrialInfo) (hrec : alookup tid s.active = some rec) (hlive : rec.decision = .continue)
    (hr : s.mgr.maxT ≤ r) (h : s.onResult tid r v hint c e = .ok (s', out)) : Dead s' tid := by
  have hnotin : tid ∉ unpromotedSys s.mgr.systems := fun hm => by
    obtain ⟨rec2, hr2, hd2⟩ := hk.paused tid hm
    rw [hrec] at hr2; cases hr2; exact hd2 hlive
  obtain ⟨rec', hrec', ⟨hd, _⟩ | ⟨hcont, g, o, co, hrep, hcase⟩⟩ := Sched.onResult_ok h
  · rw [hrec] at hrec'; cases hrec'; exact absurd hlive hd
  · -- at `max_t` the manager is untouched and the answer is "do not continue", not ignored
    obtain ⟨rfl, rfl⟩ := Manager.taskReport_at_max hrep hr
    rcases hcase with ⟨hig, _⟩ | ⟨_, _, rfl, _, rfl, _⟩
    · cases hig
    · refine ⟨⟨_, by rw [Sched.live_active _ _ _ _ _ _ hcont, if_pos rfl],
        (decisionFor_continue ({ s with costOffset := co } : Sched) r { continues := false, reached := true, next := none }).not.mpr
          Bool.false_ne_true⟩, ?_⟩
      rw [Sched.live_mgr, if_neg Bool.false_ne_true]
      exact (taskRemove_rel s.mgr tid).same ▸ hnotin

end SyneTune.C20Hb
