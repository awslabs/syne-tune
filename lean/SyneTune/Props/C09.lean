import SyneTune.Lemmas.CholeskyVJP
import SyneTune.Lemmas.EI
import Mathlib.Algebra.BigOperators.Field
/-
C09 — Gradients for model fitting and acquisition search are the true derivatives.
Property theorems and examples of their hypotheses (PARTIAL proof: the hand-written backward passes of `custom_op.py`
are the adjoints of the tangent maps, and the hand-derived head gradients of
`meanstd_acqfunc_impl.py` are the derivatives of the head values; autograd's chain rule,
kernels' / priors' derivatives, differentiability of the Cholesky map and `Φ' = φ` for the
code's `0.5 * erfc(-u / sqrt(2))` are trusted and exercised by the correspondence
(finite differences on the real objects)).
-/
namespace SyneTune.C09
open SyneTune.GP SyneTune.EI Matrix Filter Topology

variable {𝕜 : Type} [Field 𝕜] {n : ℕ}

/-- **`cholesky_factorization_backward` is the adjoint of the tangent map of `A = L Lᵀ`.**
For a lower-triangular `L` with non-zero diagonal, every output cotangent `L̄` and every
lower-triangular tangent `dL`, with `dA = dL Lᵀ + L dLᵀ` (the differentiated equation) and
`Ā = cholesky_factorization_backward(L, L̄)`:  `tr(Āᵀ dA) = tr(tril(L̄)ᵀ dL) = tr(L̄ᵀ dL)`.
(What the code does with the diagonal: `copyltu` keeps the diagonal of `Lᵀ L̄` once and mirrors
the strict lower triangle; the final `0.5` then halves everything; `Ā` is symmetric.) -/
theorem chol_vjp (h2 : (2 : 𝕜) ≠ 0) (L Lbar : Mat 𝕜 n n) (hL : LowerTri L) (hd : DiagNZ L)
    (dL : Matrix (Fin n) (Fin n) 𝕜) (hdL : ∀ i j : Fin n, i < j → dL i j = 0) :
    trace ((toM (cholBackward L Lbar))ᵀ * (dL * (toM L)ᵀ + toM L * dLᵀ)) = trace ((toM (tril Lbar))ᵀ * dL) ∧
    trace ((toM (tril Lbar))ᵀ * dL) = trace ((toM Lbar)ᵀ * dL) := by
  have ht : trace ((toM (tril Lbar))ᵀ * dL) = trace ((toM Lbar)ᵀ * dL) := trace_tril_mul Lbar hdL
  rw [ht, cholBackward_spec L Lbar hL hd]
  exact ⟨chol_vjp_matrix h2 (isUnit_det_toM hL hd) hL.isLowerTriangular (isLowerTriangular_iff.mpr hdL), rfl⟩

/-- the cotangent returned by `cholesky_factorization_backward` is a symmetric matrix -/
theorem chol_vjp_symmetric (L Lbar : Mat 𝕜 n n) (hL : LowerTri L) (hd : DiagNZ L) :
    (toM (cholBackward L Lbar))ᵀ = toM (cholBackward L Lbar) := by
  rw [cholBackward_spec L Lbar hL hd, Matrix.transpose_smul, chol_vjp_symm]

/-- the tangents `dL` of `chol_vjp` reach every symmetric perturbation `dA` of `A = L Lᵀ`
(so `chol_vjp` determines the pairing of `Ā` with every symmetric `dA`). -/
theorem chol_tangent_complete (h2 : (2 : 𝕜) ≠ 0) (L : Mat 𝕜 n n) (hL : LowerTri L) (hd : DiagNZ L)
    (dA : Matrix (Fin n) (Fin n) 𝕜) (hA : dAᵀ = dA) :
    ∃ dL : Matrix (Fin n) (Fin n) 𝕜, (∀ i j : Fin n, i < j → dL i j = 0) ∧
      dL * (toM L)ᵀ + toM L * dLᵀ = dA := by
  obtain ⟨dL, h1, h2'⟩ := chol_tangent_surjective h2 (isUnit_det_toM hL hd) hL.isLowerTriangular hA
  exact ⟨dL, isLowerTriangular_iff.mp h1, h2'⟩

/-- **`AddJitterOp_vjp`**: `g ↦ (vec g, tr g)` is the adjoint of `(X, s) ↦ X + (s + jitter)·I`
(the dependence of the jitter on the inputs being ignored, as documented):
`⟨g, dX + ds·I⟩ = ⟨ḡ_X, dX⟩ + ḡ_s · ds`. -/
theorem jitter_vjp (g : Mat 𝕜 n n) (dX : Matrix (Fin n) (Fin n) 𝕜) (ds : 𝕜) :
    ∑ i, ∑ j, toM g i j * (dX + ds • (1 : Matrix (Fin n) (Fin n) 𝕜)) i j =
      ∑ i, ∑ j, toM (jitterVjp g).1 i j * dX i j + (jitterVjp g).2 * ds := by
  simp only [jitterVjp, sumFin_eq, Matrix.add_apply, Matrix.smul_apply, smul_eq_mul, mul_add,
    Finset.sum_add_distrib, toM_apply]
  congr 1
  rw [Finset.sum_mul]
  refine Finset.sum_congr rfl fun i _ => ?_
  simp [Matrix.one_apply, Finset.sum_ite_eq]

/-- `φ'(u) = −u φ(u)` for the code's `φ(u) = exp(−u²/2)/√(2π)`. -/
theorem phi_deriv (u : ℝ) : HasDerivAt phi (-u * phi u) u := phi_hasDerivAt u

/-- **EI head**: along every differentiable curve of predictive means `μⱼ` (one per fantasy
column) and standard deviation `σ ≠ 0`, the head value `−mean_j σ (uⱼ Φ(uⱼ) + φ(uⱼ))`,
`uⱼ = (bestⱼ − μⱼ − jitter)/σ`, has derivative `Σⱼ dh_dmeanⱼ μⱼ' + dh_dstd σ'` with the code's
`dh_dmean = Φ(u)/nf`, `dh_dstd = mean(−φ(u))` — under the hypothesis `Φ' = φ`. -/
theorem ei_head (Φ : ℝ → ℝ) (hΦ : ∀ u, HasDerivAt Φ (phi u) u) (nf : ℕ)
    (best : Fin nf → ℝ) (jit : ℝ) (μ : Fin nf → ℝ → ℝ) (σ : ℝ → ℝ) (μ' : Fin nf → ℝ) (σ' x : ℝ)
    (hμ : ∀ j, HasDerivAt (μ j) (μ' j) x) (hσ : HasDerivAt σ σ' x) (hs : σ x ≠ 0) :
    HasDerivAt (fun y => (eiHeadAt Φ best jit (fun j => μ j y) (σ y)).hval)
      (∑ j, (eiHeadAt Φ best jit (fun j => μ j x) (σ x)).dmean j * μ' j
        + (eiHeadAt Φ best jit (fun j => μ j x) (σ x)).dstd * σ') x := by
  have hterm := fun j => ei_term_hasDerivAt Φ hΦ (best j) jit (μ j) σ (μ' j) σ' x (hμ j) hσ hs
  have hsum := HasDerivAt.fun_sum (u := Finset.univ) (fun j _ => hterm j)
  have h := (hsum.div_const (nf : ℝ)).fun_neg
  simp only [eiHeadAt_hval, eiHeadAt_dmean, eiHeadAt_dstd]
  refine h.congr_deriv ?_
  rw [Finset.sum_div, Finset.sum_div, Finset.sum_mul, ← Finset.sum_add_distrib, ← Finset.sum_neg_distrib]
  refine Finset.sum_congr rfl fun j _ => ?_
  ring

/-- `get_quantiles` clamps the standard deviation at `1e-10` from below; for every `s` at or above
the clamp (all GP predictors: `s ≥ √MIN_POSTERIOR_VARIANCE = 1e-6`) the clamp is the identity, so
`ei_head` speaks about the code's `u`. Below the clamp the head does not depend on `s` any more
while the code still reports `dh_dstd = mean(−φ)`: not covered. -/
theorem std_clamp_inactive (s c : ℝ) (h : c ≤ s) : clampStd s c = s := by
  unfold clampStd
  rw [if_neg (not_lt.mpr h)]

/-- partial derivative of the EI head w.r.t. the predictive mean of fantasy column `j`:
`dh_dmean[j] = Φ(uⱼ)/nf`. -/
theorem ei_dmean (Φ : ℝ → ℝ) (hΦ : ∀ u, HasDerivAt Φ (phi u) u) (nf : ℕ)
    (best : Fin nf → ℝ) (jit : ℝ) (μ : Fin nf → ℝ) (s : ℝ) (hs : s ≠ 0) (j : Fin nf) :
    HasDerivAt (fun y => (eiHeadAt Φ best jit (Function.update μ j y) s).hval)
      ((eiHeadAt Φ best jit μ s).dmean j) (μ j) ∧
    (eiHeadAt Φ best jit μ s).dmean j = Φ (eiU (best j) (μ j) jit s) / nf := by
  refine ⟨?_, rfl⟩
  have hμ : ∀ k, HasDerivAt (fun y => Function.update μ j y k) (if k = j then 1 else 0) (μ j) := by
    intro k
    by_cases hk : k = j
    · subst hk; simpa using hasDerivAt_id' (μ k)
    · simpa [hk] using hasDerivAt_const (μ j) (μ k)
  have h := ei_head Φ hΦ nf best jit (fun k y => Function.update μ j y k) (fun _ => s)
    (fun k => if k = j then 1 else 0) 0 (μ j) hμ (hasDerivAt_const _ _) hs
  simp only [Function.update_eq_self, mul_ite, mul_one, mul_zero, Finset.sum_ite_eq', Finset.mem_univ,
    if_true, add_zero] at h
  exact h

/-- partial derivative of the EI head w.r.t. the predictive standard deviation:
`dh_dstd = mean_j(−φ(uⱼ))`. -/
theorem ei_dstd (Φ : ℝ → ℝ) (hΦ : ∀ u, HasDerivAt Φ (phi u) u) (nf : ℕ)
    (best : Fin nf → ℝ) (jit : ℝ) (μ : Fin nf → ℝ) (s : ℝ) (hs : s ≠ 0) :
    HasDerivAt (fun y => (eiHeadAt Φ best jit μ y).hval) ((eiHeadAt Φ best jit μ s).dstd) s ∧
    (eiHeadAt Φ best jit μ s).dstd = (∑ j, -phi (eiU (best j) (μ j) jit s)) / nf := by
  refine ⟨?_, eiHeadAt_dstd Φ best jit μ s⟩
  have h := ei_head Φ hΦ nf best jit (fun k _ => μ k) (fun y => y)
    (fun _ => 0) 1 s (fun k => hasDerivAt_const _ _) (hasDerivAt_id s) hs
  simpa using h

/-- **the value returned together with the gradient equals the value returned alone**
(`_compute_head_and_gradient(...).hval = _compute_head(...)`), for the EI and LCB heads, over any
field: the two code paths differ only in where the sign is applied. -/
theorem value_consistency {nf : ℕ} (sd kappa : 𝕜) (u Phi phi mu : Fin nf → 𝕜) :
    (eiHeadGrad sd u Phi phi).hval = eiHead sd u Phi phi ∧
    (lcbHeadGrad kappa sd mu).hval = lcbHead kappa sd mu := by
  refine ⟨?_, rfl⟩
  simp only [eiHeadGrad, eiHead, sumFin_eq, neg_mul, Finset.sum_neg_distrib, neg_div]

/-- **expected improvement is never negative** (the head, which is *minus* EI, is `≤ 0`) for
every non-negative standard deviation — from `Φ' = φ` and `Φ(u) → 0` as `u → −∞` only. -/
theorem ei_nonneg (Φ : ℝ → ℝ) (hΦ : ∀ u, HasDerivAt Φ (phi u) u) (hlim : Tendsto Φ atBot (𝓝 0))
    (nf : ℕ) (best : Fin nf → ℝ) (jit : ℝ) (μ : Fin nf → ℝ) (s : ℝ) (hs : 0 ≤ s) :
    (∀ u, 0 ≤ u * Φ u + phi u) ∧ (eiHeadAt Φ best jit μ s).hval ≤ 0 ∧ eiValueAt Φ best jit μ s ≤ 0 := by
  have hg := g_nonneg Φ hΦ hlim
  have hv : (eiHeadAt Φ best jit μ s).hval ≤ 0 := by
    rw [eiHeadAt_hval, neg_nonpos]
    exact div_nonneg (Finset.sum_nonneg fun j _ => mul_nonneg hs (hg _)) (Nat.cast_nonneg _)
  exact ⟨hg, hv, (value_consistency s 0 _ _ _ μ).1.symm.trans_le hv⟩

/-- **LCB head** `mean_j(μⱼ − κσ)`: derivative `Σⱼ (1/nf) μⱼ' + (−κ) σ'`, i.e. the code's
`dh_dmean = ones/nf`, `dh_dstd = −κ`. -/
theorem lcb_head (nf : ℕ) (hnf : 0 < nf) (kappa : ℝ) (μ : Fin nf → ℝ → ℝ) (σ : ℝ → ℝ)
    (μ' : Fin nf → ℝ) (σ' x : ℝ) (hμ : ∀ j, HasDerivAt (μ j) (μ' j) x) (hσ : HasDerivAt σ σ' x) :
    HasDerivAt (fun y => (lcbHeadAt kappa (fun j => μ j y) (σ y)).hval)
      (∑ j, (lcbHeadAt kappa (fun j => μ j x) (σ x)).dmean j * μ' j
        + (lcbHeadAt kappa (fun j => μ j x) (σ x)).dstd * σ') x := by
  have hterm := fun j => (hμ j).fun_sub (hσ.mul_const kappa)
  have hsum := HasDerivAt.fun_sum (u := Finset.univ) (fun j _ => hterm j)
  have h := hsum.div_const (nf : ℝ)
  simp only [lcbHeadAt, lcbHeadGrad, sumFin_eq]
  refine h.congr_deriv ?_
  have hn : (nf : ℝ) ≠ 0 := by exact_mod_cast hnf.ne'
  rw [Finset.sum_sub_distrib, Finset.sum_const, Finset.card_univ, Fintype.card_fin, nsmul_eq_mul,
    ← Finset.mul_sum]
  field_simp
  ring

/-- a concrete triangular factor meeting the hypotheses of `chol_vjp` -/
example : LowerTri (𝕜 := ℚ) (n := 2) #v[#v[2, 0], #v[1, 3]] ∧ DiagNZ (𝕜 := ℚ) (n := 2) #v[#v[2, 0], #v[1, 3]] := by
  constructor
  · unfold LowerTri; decide +kernel
  · unfold DiagNZ; decide +kernel

/-- the hypotheses of `ei_head` are satisfiable: constant curves, `σ = 1` -/
example : HasDerivAt (fun _ : ℝ => (1 : ℝ)) 0 0 ∧ (1 : ℝ) ≠ 0 := ⟨hasDerivAt_const _ _, one_ne_zero⟩

/-- the backward pass on concrete numbers (the same line is in the correspondence smoke test) -/
example : cholBackward (α := ℚ) (n := 2) #v[#v[1, 0], #v[1/2, 1]] #v[#v[1, 2], #v[3, 4]] =
    #v[#v[1/4, 1/2], #v[1/2, 2]] := by
  decide +kernel

end SyneTune.C09
