import SyneTune.Lemmas.PollOps
import SyneTune.Lemmas.SimComplete
/-
C02 — Every reported result is delivered exactly once, in order, never after stop.
Property theorems and the counterexample histories.

Part 1 (generic poll logic, `Model/PollBackend.lean`): `TrialBackend.fetch_status_results`
with its cursor and status hiding, `start/resume/pause/stop_trial`, `stop_all`, and the batch
filter of `Tuner._update_running_trials`, over ALL histories of backend / worker / loop
operations (`Poll.run`; a rejected operation is skipped).

Part 2 (simulator, `Model/Simulator.lean` + `Model/TabularBackend.lean`): the event heap,
`_next_results_to_fetch` ("not polled ⇒ dropped but counted"), stop / pause, resume, over all
histories of operations none of which raised (`TB.run … = .ok s`).

On the current tree "nothing a trial reports after the decision is delivered, not even after
a resume / after a resume delivery continues with the first report of the new run" is FALSE
for both backends: `poll_resume_fresh_counterexample`, `sim_resume_fresh_counterexample`; the
`…_partial` theorems state what does hold.
-/
namespace SyneTune.C02
open SyneTune SyneTune.Backend SyneTune.PollL SyneTune.SimL SyneTune.SimTab

/-- reports of run `k` among a list of reports (`runReps`) -/
abbrev ofRun (k : Nat) (l : List Rep) : List Rep := runReps k l

/-- **prefix (generic poll logic).**  After ANY history of backend / worker / loop
operations, what `fetch_status_results` has returned for a trial so far (`deliv`, in the
order returned) is exactly the first `cursor` reports of everything the trial ever wrote;
hence for every run `k` the delivered reports of that run are a prefix of the reports of that
run — each once, in report order, without gaps (the reports of a run carry the indices
`0, 1, 2, …`). -/
theorem poll_prefix (dc ds : Bool) (ops : List POp) (t : Nat) (x : PTrial)
    (hx : ((Poll.init dc ds).run ops).trials[t]? = some x) :
    x.deliv = x.out.take x.cursor ∧
    ∀ k, ofRun k x.deliv <+: ofRun k x.out ∧ ∃ n, (ofRun k x.out).map (·.idx) = List.range n := by
  have h := (PInv.run ops (PInv.init dc ds)).get hx
  refine ⟨h.deliv_eq, fun k => ⟨?_, h.all_idx k⟩⟩
  rw [h.deliv_eq]
  exact List.IsPrefix.filter _ (List.take_prefix _ _)

/-- **complete (generic).**  In every reachable state: a poll of trial `t` that reports
`Completed` (the job ended on its own, exit code 0, no stop / pause marker) has handed out
everything: the delivered sequence is the whole output of the trial. -/
theorem poll_complete (dc ds : Bool) (ops : List POp) (ids : List Nat) (b' : Poll)
    (sts : List (Nat × St)) (batch : List (Nat × Rep)) (t : Nat) (x' : PTrial)
    (hf : ((Poll.init dc ds).run ops).fetch ids = .ok (b', sts, batch)) (ht : t ∈ ids)
    (hx : b'.trials[t]? = some x') (hc : x'.status = .completed) :
    x'.deliv = x'.out ∧ alookup t sts = some .completed := by
  have hinv := PInv.run ops (PInv.init dc ds)
  obtain ⟨hd, hs⟩ := fetch_completed hinv hf ht hx hc
  exact ⟨by rw [((hinv.fetch hf).get hx).deliv_eq, hd.2, List.take_length], hs⟩

/-- **nothing after the decision (generic).**  `afterDec` collects every result a poll
returns for a trial, and every result the loop hands to the scheduler, while the trial is
"decided" (from the STOP / PAUSE answer of the scheduler inside `_update_running_trials`
until the next `resume_trial`).  It stays empty in every reachable state: the rest of the
batch is skipped, later polls hide the trial (paused / stopping / stopped) or find nothing new
(STOP of a trial already polled as completed). -/
theorem poll_nothing_after_decision (dc ds : Bool) (ops : List POp) (t : Nat) (x : PTrial)
    (hx : ((Poll.init dc ds).run ops).trials[t]? = some x) : x.afterDec = [] :=
  ((PInv.run ops (PInv.init dc ds)).get hx).after

/-- **fresh after resume — partial (generic).**  `since` collects what polls returned for the
trial since its last `start_trial` / `resume_trial`.  If at that resume every report written
so far had been seen (`staleAtResume = false`: the old run wrote nothing between the deciding
poll and the pause), the first result delivered afterwards is report 0 of the new run.

The full statement (without the hypothesis) is FALSE of the code: `poll_resume_fresh_counterexample`. -/
theorem poll_resume_fresh_partial (dc ds : Bool) (ops : List POp) (t : Nat) (x : PTrial) (r : Rep)
    (hx : ((Poll.init dc ds).run ops).trials[t]? = some x)
    (hclean : x.staleAtResume = false) (hr : x.since.head? = some r) :
    r.run = x.run ∧ r.idx = 0 :=
  ((PInv.run ops (PInv.init dc ds)).get hx).since_head hclean hr

/-- the history of DESIGN.md §6-F2: a report written between the deciding poll and the pause -/
def staleHistory : List POp :=
  [.start none, .emit 0 1,
   .loop [0] [⟨.pause, 1⟩],     -- poll sees report 0, PAUSE; the worker writes report 1 before the kill
   .resume 0, .emit 0 1,        -- new run (run 1) writes its report 0
   .fetch [0]]

theorem staleHistory_eval :
    (((Poll.init false false).run staleHistory).trials[0]?).map
        (fun x => (x.run, x.since.map (fun r => (r.run, r.idx)), x.staleAtResume)) =
      some (1, [(0, 1), (1, 0)], true) := by
  decide

/-- **fresh after resume — counterexample (generic).**  On the current tree the statement
"after a resume the first delivered result is the first report of the new run" is false for
the generic poll logic: in `staleHistory` the first result after the resume is report 1 of the
OLD run (written after the scheduler's PAUSE decision), ahead of report 0 of the new run. -/
theorem poll_resume_fresh_counterexample :
    ¬ ∀ (ops : List POp) (t : Nat) (x : PTrial) (r : Rep),
        ((Poll.init false false).run ops).trials[t]? = some x → x.since.head? = some r →
        r.run = x.run ∧ r.idx = 0 := by
  intro h
  obtain ⟨x, hx, he⟩ := Option.map_eq_some_iff.mp staleHistory_eval
  simp only [Prod.mk.injEq, List.map_eq_cons_iff] at he
  obtain ⟨_, ⟨r, tl, hs, hr, _⟩, _⟩ := he
  have := h staleHistory 0 x r hx (by rw [hs]; rfl)
  omega


/-! ## Part 2: simulator backend -/

/-- indices of the results of run `r` of trial `t` that polls DELIVERED, in delivery order -/
def deliveredIdx (s : TB) (t r : Nat) : List Nat :=
  (s.log.filter (fun en => en.trial == t && en.tag.run == r && en.delivered)).map (·.tag.idx)

/-- **prefix (simulator).**  In every reachable state, for every trial `t` and run `r`: the
results of the run that polls have handled so far (`logIdx`: delivered, or dropped-but-counted
because the trial was not among the polled ids), then those that have arrived and wait for the
next poll, then those still in the event heap carry the indices `0, 1, …, m-1` in this order.
Hence the handled ones are `0, …, k-1`; the delivered ones are a sub-sequence of these (each
once, in order) and — when no result of the run was dropped, i.e. the trial was covered by
every poll while results of the run were queued — exactly the gap-free prefix `0, …, k-1`.
Assumptions: floating-point addition is monotone (`AddMono`, `AddGe`), repair step `≥ 0`. -/
theorem sim_prefix (A : Arith) (hA : AddMono A) (hA2 : AddGe A) (cfg : SimCfg) (js : TabState)
    (hm : 0 ≤ js.minStep) (ops : List SOp) (s : TB)
    (h : TB.run A (tabJob A) (TB.init cfg js) ops = .ok s) (t r : Nat) :
    ∃ m k, logIdx s t r ++ nextIdx s t r ++ heapIdx s t r = List.range m ∧
      logIdx s t r = List.range k ∧ k ≤ m ∧
      (deliveredIdx s t r).Sublist (List.range k) ∧
      ((∀ en ∈ s.log, en.trial = t → en.tag.run = r → en.delivered = true) → deliveredIdx s t r = List.range k) := by
  obtain ⟨m, hm'⟩ := sim_prefix_run A (tabJob A) hA (tabJob_sortedOn A hA2) cfg js hm ops s h t r
  obtain ⟨hk, hle⟩ := range_prefix ((List.append_assoc _ _ _).symm.trans hm')
  refine ⟨m, (logIdx s t r).length, hm', hk, hle, ?_, ?_⟩
  · rw [← hk]
    unfold deliveredIdx logIdx
    apply List.Sublist.map
    have : (s.log.filter fun en => en.trial == t && en.tag.run == r && en.delivered) =
        (s.log.filter fun en => en.trial == t && en.tag.run == r).filter (fun en => en.delivered) := by
      rw [List.filter_filter]; congr 1; funext en; simp [Bool.and_comm]
    rw [this]
    exact List.filter_sublist
  · intro hall
    rw [← hk]
    unfold deliveredIdx logIdx
    congr 1
    apply List.filter_congr
    intro en hen
    by_cases h1 : en.trial = t
    · by_cases h2 : en.tag.run = r
      · simp [h1, h2, hall en hen h1 h2]
      · simp [h2]
    · simp [h1]

/-- **complete (simulator).**  Once the completion event that the run's own start event pushed
has been processed (`completedRun = some r`: the job ended on its own, status `Completed` is
what the next poll reports), every result of run `r` has arrived at the backend — handled by
an earlier poll or queued for the next one, none left in the heap.  So the first poll covering
the trial after that hands out the rest: the handled indices are then `0, …, n-1` with `n` the
number of results of the run, and (no drops, `sim_prefix`) the delivered ones are all of them.
Assumption of the real `SimulatorConfig`: `delay_on_trial_result ≤
delay_complete_after_final_report`. -/
theorem sim_complete (A : Arith) (hA : AddMono A) (hA2 : AddGe A) (cfg : SimCfg) (js : TabState)
    (hm : 0 ≤ js.minStep) (hd : cfg.dResult ≤ cfg.dCompleteFinal) (ops : List SOp) (s : TB)
    (h : TB.run A (tabJob A) (TB.init cfg js) ops = .ok s)
    (t : Nat) (x : STrial) (r : Nat) (hx : s.trials[t]? = some x) (hc : x.completedRun = some r) :
    ∃ ρ ∈ s.runs, ρ.trial = t ∧ ρ.run = r ∧
      logIdx s t r ++ nextIdx s t r = List.range ρ.results.length ∧ heapIdx s t r = [] :=
  sim_complete_run A (tabJob A) hA (tabJob_sortedOn A hA2) cfg js hm hd ops s h t x r hx hc

/-- **nothing after the decision — partial (simulator).**  In every reachable state, for a
trial that was paused / stopped and not resumed since (`commanded`): no event of the trial is
left in the heap (nothing more can arrive, `C10.stop_removes`), and once a poll that does not
cover the trial has happened (`flushed`; the tuning loop polls running trials only) nothing is
queued for it either, so every further poll returns nothing for it — until `resume_trial`.

Without `flushed` the statement is false: see `sim_resume_fresh_counterexample` (results that
arrived between the deciding poll and the stop event are still queued; they are delivered if
the trial is resumed — or polled — before the next poll that does not cover it). -/
theorem sim_nothing_after_decision_partial (A : Arith) (hA : AddGe A) (cfg : SimCfg) (js : TabState)
    (hg : 0 ≤ cfg.guard) (ops : List SOp) (s : TB)
    (h : TB.run A (tabJob A) (TB.init cfg js) ops = .ok s)
    (t : Nat) (x : STrial) (hx : s.trials[t]? = some x) (hc : x.commanded = true) :
    (∀ e ∈ s.heap, e.trial ≠ t) ∧
    (x.flushed = true → alookup t s.next = none ∧
      ∀ ids s' sts res, s.fetch A (tabJob A) ids = .ok (s', sts, res) → ∀ p ∈ res, p.1 ≠ t) := by
  have inv := CmdInv.run hA (tabJob_statusOK A) ops (CmdInv.init cfg js hg) h
  refine ⟨inv.quiet t x hx hc, fun hf => ⟨inv.flushed t x hx hc hf, ?_⟩⟩
  intro ids s' sts res hfe
  exact fetch_nothing (inv.quiet t x hx hc) (inv.flushed t x hx hc hf) hfe

/-- **fresh after resume — partial (simulator).**  `since` collects the tags of the results
delivered for the trial since its last `start_trial` / `resume_trial`.  If nothing was queued
for the trial at that moment (`queuedAtResume = false`; guaranteed when a poll not covering the
trial happened between the pause and the resume) and none of its results has been dropped
since, the first result delivered afterwards is result 0 of a run started after the resume.

The full statement (without `queuedAtResume = false`) is FALSE of the code:
`sim_resume_fresh_counterexample`. -/
theorem sim_resume_fresh_partial (A : Arith) (hA : AddMono A) (hA2 : AddGe A) (cfg : SimCfg) (js : TabState)
    (hg : 0 ≤ cfg.guard) (hm : 0 ≤ js.minStep) (ops : List SOp) (s : TB)
    (h : TB.run A (tabJob A) (TB.init cfg js) ops = .ok s)
    (t : Nat) (x : STrial) (hx : s.trials[t]? = some x)
    (hq : x.queuedAtResume = false) (hd : x.droppedSince = false) (tag : Tag) (ht : x.since.head? = some tag) :
    tag.idx = 0 ∧ x.expectRun ≤ tag.run :=
  sim_resume_fresh_run A (tabJob A) hA hA2 (tabJob_sortedOn A hA2) (tabJob_statusOK A) cfg js hm hg ops s h t x hx hq hd
    tag ht

/-- a real table for the counterexample: one configuration, one seed, levels 1, 2, 3 reached
after 1, 2, 3 time units -/
def staleTable : TabState :=
  { table := ⟨[1, 2, 3], 0, 1, [[[[1], [2], [3]]]]⟩, maxResAttr := false, seedFix := some 0,
    checkpointing := true, minStep := 1/100 }

def staleCfg : SimCfg :=
  { dResult := 0, dCompleteFinal := 0, dCompleteStop := 0, dStart := 0, dStop := 1/2, sleep := 0, guard := 1/1000 }

/-- the scheduler pauses the trial on its first result and resumes it right away (as a
promotion-type scheduler does when the trial is promotable): the second result of the old run
arrives before the stop takes effect (`delay_stop`) and is delivered after the resume -/
def simStaleHistory : List SOp :=
  [.start ⟨0, none⟩, .advance (7/4), .fetch [0],   -- delivers level 1 (time 1)
   .pause 0 (some 1),                              -- PAUSE at level 1; stop event at 9/4: level 2 (time 2) arrives
   .resume 0 none,                                 -- resumed before the next poll
   .advance (3/2), .fetch [0]]                     -- delivers level 2 of the OLD run, then level 2 of the new run

def simStaleView (r : Except BErr TB) : Option (List (Nat × Nat) × Nat × Bool × Bool) :=
  match r with
  | .error _ => none
  | .ok s => (s.trials[0]?).map fun x =>
      (x.since.map fun tg => (tg.run, tg.idx), x.expectRun, x.queuedAtResume, x.droppedSince)

theorem simStaleHistory_eval :
    simStaleView (TB.run Arith.exact (tabJob Arith.exact) (TB.init staleCfg staleTable) simStaleHistory) =
      some ([(0, 1), (1, 0)], 1, true, false) := by
  decide +kernel

/-- **fresh after resume — counterexample (simulator).**  On the current tree "after a resume
the first delivered result is the first report of the new run" (and with it "nothing reported
after the PAUSE decision is ever delivered") is false for the simulator backend as well: in
`simStaleHistory` the first result delivered after the resume is result 1 of run 0. -/
theorem sim_resume_fresh_counterexample :
    ¬ ∀ (ops : List SOp) (s : TB) (t : Nat) (x : STrial) (tag : Tag),
        TB.run Arith.exact (tabJob Arith.exact) (TB.init staleCfg staleTable) ops = .ok s →
        s.trials[t]? = some x → x.droppedSince = false → x.since.head? = some tag →
        tag.idx = 0 ∧ x.expectRun ≤ tag.run := by
  intro hall
  have hc := simStaleHistory_eval
  unfold simStaleView at hc
  cases hr : TB.run Arith.exact (tabJob Arith.exact) (TB.init staleCfg staleTable) simStaleHistory with
  | error e => rw [hr] at hc; cases hc
  | ok s =>
    rw [hr] at hc
    obtain ⟨x, hx, he⟩ := Option.map_eq_some_iff.mp hc
    simp only [Prod.mk.injEq, List.map_eq_cons_iff] at he
    obtain ⟨⟨tg, tl, hs, htg, _⟩, _, _, hd⟩ := he
    have := hall simStaleHistory s 0 x tg hr hx hd (by rw [hs]; rfl)
    omega

/-! ### the hypotheses are satisfiable -/

example : AddGe Arith.exact := addGe_exact
example : AddMono Arith.exact :=
  ⟨fun a b b' h => by show a + b ≤ a + b'; linarith, fun a a' b h => by show a + b ≤ a' + b; linarith⟩
/-- a concrete history of the generic model reaching a paused-and-resumed trial with a clean
resume (hypotheses of `poll_resume_fresh_partial`) -/
example : (((Poll.init false false).run
      [.start none, .emit 0 2, .loop [0] [⟨.continue, 0⟩, ⟨.pause, 0⟩], .resume 0, .emit 0 1, .fetch [0]]).trials[0]?).map
      (fun x => (x.staleAtResume, x.since.map (fun r => (r.run, r.idx)), x.afterDec.length)) =
    some (false, [(1, 0)], 0) := by decide

end SyneTune.C02
