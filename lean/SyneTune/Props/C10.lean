import SyneTune.Lemmas.SimProv
import SyneTune.Lemmas.SimCmd
/-
C10 — Simulated experiments replay the benchmark table faithfully in values and time.
Property theorems, with `Reach` and `fetch_run` (what they share).  Models: `Model/Simulator.lean`,
`Model/TabularBackend.lean`; lemmas: `Lemmas/Sim*.lean`.  `A : Arith` is the floating-point arithmetic of the code (the
correspondence driver uses IEEE-754 binary64 `Arith.ieee`; `Arith.exact` is real arithmetic);
assumptions about it (`AddGe`: adding a non-negative number does not decrease) are explicit.
-/
namespace SyneTune.C10
open SyneTune SyneTune.Backend SyneTune.SimL SyneTune.SimTab

/-- `s` is reachable: the state of the tabular simulator backend (`UserBlackboxBackend` /
`BlackboxRepositoryBackend`) after some history of operations, none of which raised.  Not the `Reach` of the
tuning-loop files. -/
def Reach (A : Arith) (cfg : SimCfg) (js : TabState) (s : TB) : Prop :=
  ∃ ops, TB.run A (tabJob A) (TB.init cfg js) ops = .ok s

/-- the state after a poll of a reachable state is reachable, and every result the poll returns
is the `idx`-th result of a recorded run of its trial, with the job call that produced it -/
theorem fetch_run {A : Arith} {cfg : SimCfg} {js : TabState} {s s' : TB} (hr : Reach A cfg js s)
    {ids : List Nat} {sts : List (Nat × St)} {res : List (Nat × Arrived)}
    (hf : s.fetch A (tabJob A) ids = .ok (s', sts, res)) :
    Reach A cfg js s' ∧ ∀ p ∈ res, Prov A (tabJob A) s' p.1 p.2.res p.2.time p.2.tag := by
  obtain ⟨ops, hops⟩ := hr
  exact ⟨⟨ops ++ [.fetch ids], run_snoc ops _ s s' _ hops (step_fetch_ok.mpr ⟨_, _, hf⟩)⟩,
    fetch_provAll A (tabJob A) s s' ids sts res ((ProvAll.init A (tabJob A) cfg js).run ops hops) hf⟩

/-- **values.**  Every result returned by `fetch_status_results` is the `idx`-th result of a
recorded run `ρ` of its trial, and carries the table's row for: the trial's configuration at
the start of that run, the trial's seed, and the position of its level among the table's
fidelities.  The seed is the backend's fixed seed, or else the trial's entry in
`_seed_for_trial` of the current state — which never changes once set (`seed_stable`), so all
runs of a trial use the same seed. -/
theorem values (A : Arith) (cfg : SimCfg) (js : TabState) (s s' : TB) (hr : Reach A cfg js s)
    (ids : List Nat) (sts : List (Nat × St)) (res : List (Nat × Arrived))
    (hf : s.fetch A (tabJob A) ids = .ok (s', sts, res)) :
    ∀ p ∈ res, ∃ (ρ : RunRec TabState) (cfgT : Cfg) (sd : Nat) (rows : List (List Rat)) (i : Nat),
      ρ ∈ s'.runs ∧ ρ.trial = p.1 ∧ ρ.run = p.2.tag.run ∧ ρ.results[p.2.tag.idx]? = some p.2.res ∧
      alookup p.1 ρ.jsBefore.cfgs = some cfgT ∧
      sd < js.table.numSeeds ∧ js.table.rows cfgT.idx sd = some rows ∧
      js.table.fids[i]? = some p.2.res.level ∧ rows[i]? = some p.2.res.row ∧
      (js.seedFix = some sd ∨ (js.seedFix = none ∧ alookup p.1 s'.js.seedFor = some sd)) := by
  obtain ⟨⟨ops', hops'⟩, hres⟩ := fetch_run hr hf
  have hup := runsUp_run A cfg js ops' hops'
  intro p hp
  obtain ⟨ρ, hρ, htr, hrun, hidx, ⟨st, hjob⟩, _⟩ := hres p hp
  obtain ⟨htable, hfix, _⟩ := consts_eq (hup.before ρ hρ).consts_eq
  obtain ⟨cfgT, sd, rows, lo, hi0, hT⟩ := tabJob_run A ρ.jsBefore ρ.jsAfter p.1 st ρ.results hjob
  obtain ⟨i, hi1, hi2⟩ := hT.values _ (List.mem_of_getElem? hidx)
  refine ⟨ρ, cfgT, sd, rows, i, hρ, htr, hrun, hidx, hT.cfg_eq, by rw [← htable]; exact hT.seed_lt,
    by rw [← htable]; exact hT.rows_eq, by rw [← htable]; exact hi1, hi2, ?_⟩
  rw [← hfix]
  exact hT.seed_spec.imp_right fun hn => ⟨hn.1, (hup.after ρ hρ).seeds p.1 sd hn.2⟩

/-- the per-trial seed, the table and the constants never change along a history -/
theorem seed_stable (A : Arith) (ops : List SOp) (s s' : TB) (h : TB.run A (tabJob A) s ops = .ok s') :
    s'.js.table = s.js.table ∧ s'.js.seedFix = s.js.seedFix ∧
    ∀ u sd, alookup u s.js.seedFor = some sd → alookup u s'.js.seedFor = some sd := by
  have := tabUp_run A ops h
  exact ⟨(consts_eq this.consts_eq).1, (consts_eq this.consts_eq).2.1, this.seeds⟩

/-- **levels.**  The levels reported by a run (the run every delivered result belongs to) are
the table's fidelity values inside `[min fidelity, config[max_resource_attr]]` (all of them
when the attribute is not used), above the paused level when the trial is resumed with
checkpointing, in table order.  For fidelities `1, …, F` these are the consecutive levels
`p+1, …, min(F, max_resource)` (`levels_consecutive`); which of them are delivered is the
subject of C02 (`sim_prefix`: a gap-free prefix). -/
theorem levels (A : Arith) (cfg : SimCfg) (js : TabState) (s s' : TB) (hr : Reach A cfg js s)
    (ids : List Nat) (sts : List (Nat × St)) (res : List (Nat × Arrived))
    (hf : s.fetch A (tabJob A) ids = .ok (s', sts, res)) :
    ∀ p ∈ res, ∃ (ρ : RunRec TabState) (cfgT : Cfg) (lo hi0 : Nat),
      ρ ∈ s'.runs ∧ ρ.trial = p.1 ∧ ρ.run = p.2.tag.run ∧ ρ.results[p.2.tag.idx]? = some p.2.res ∧
      alookup p.1 ρ.jsBefore.cfgs = some cfgT ∧
      listMin ρ.jsBefore.table.fids = some lo ∧ listMax ρ.jsBefore.table.fids = some hi0 ∧
      ((∀ cfgI sdI rowsI, ρ.jsBefore.table.rows cfgI sdI = some rowsI → ρ.jsBefore.table.fids.length ≤ rowsI.length) →
        ρ.results.map (·.level) = ρ.jsBefore.table.fids.filter
          (keepLevel lo (match ρ.jsBefore.maxResAttr, cfgT.maxRes with | true, some m => m | _, _ => hi0)
                     (if ρ.jsBefore.checkpointing then alookup p.1 ρ.jsBefore.paused else none))) := by
  intro p hp
  obtain ⟨ρ, hρ, htr, hrun, hidx, ⟨st, hjob⟩, _⟩ := (fetch_run hr hf).2 p hp
  obtain ⟨cfgT, sd, rows, lo, hi0, hT⟩ := tabJob_run A ρ.jsBefore ρ.jsAfter p.1 st ρ.results hjob
  exact ⟨ρ, cfgT, lo, hi0, hρ, htr, hrun, hidx, hT.cfg_eq, hT.lo_eq, hT.hi_eq, fun hwf => hT.levels (hwf _ _ _ hT.rows_eq)⟩

theorem keepLevel_iff {hi f : Nat} (p : Option Nat) (hf : 1 ≤ f) :
    keepLevel 1 hi p f = true ↔ p.getD 0 < f ∧ f ≤ hi := by
  cases p <;> simp [keepLevel] <;> omega

/-- fidelities `1, …, F`: the kept levels are consecutive, `p+1, …, min(F, max_resource)` -/
theorem levels_consecutive (F hi : Nat) (p : Option Nat) :
    (List.range' 1 F).filter (keepLevel 1 hi p) = List.range' (p.getD 0 + 1) (min F hi - p.getD 0) := by
  induction F with
  | zero => simp
  | succ F ih =>
    rw [List.range'_concat, List.filter_append, ih, Nat.one_mul]
    have hiff := keepLevel_iff (hi := hi) p (Nat.le_add_right 1 F)
    generalize p.getD 0 = q at *
    by_cases hk : q < 1 + F ∧ 1 + F ≤ hi
    · -- `F + 1` is kept: one more level at the end
      have h1 : F + 1 ≤ hi := by omega
      rw [List.filter_cons_of_pos (hiff.mpr hk), List.filter_nil, Nat.min_eq_left h1,
        Nat.min_eq_left (Nat.le_of_succ_le h1), show F + 1 - q = F - q + 1 by omega, List.range'_concat,
        show q + 1 + 1 * (F - q) = 1 + F by omega]
    · -- `F + 1` is above `hi`, or not above `q` (and then nothing is kept so far)
      rw [List.filter_cons_of_neg (mt hiff.mp hk), List.filter_nil, List.append_nil]
      rcases Nat.lt_or_ge hi (F + 1) with h1 | h1
      · rw [Nat.min_eq_right (Nat.le_of_lt h1), Nat.min_eq_right (Nat.le_of_lt_succ h1)]
      · rw [Nat.min_eq_left h1, Nat.min_eq_left (Nat.le_of_succ_le h1),
          Nat.sub_eq_zero_of_le (by omega : F + 1 ≤ q), Nat.sub_eq_zero_of_le (by omega : F ≤ q)]

/-- **timestamp.**  The `st_tuner_time` of a delivered result is
`(start ⊕ elapsed') ⊕ delay_on_trial_result`, where `start` is the time of the start event of
its run (pushed at `now ⊕ delay_start` by `start_trial` / `resume_trial`) and `elapsed'` is the
result's elapsed time as the job hands it to the simulator: the table's elapsed-time column,
rebased by the elapsed time at the paused level for a checkpointed resume
(`resumeFilter`: `e ⊖ e_paused`), then repaired (`repair`: `e'_0 = max(e_0, 0.01)`,
`e'_{i+1} = max(e_{i+1}, e'_i ⊕ 0.01)` — `SimTab.repair_elapsed`). -/
theorem timestamp (A : Arith) (cfg : SimCfg) (js : TabState) (s s' : TB) (hr : Reach A cfg js s)
    (ids : List Nat) (sts : List (Nat × St)) (res : List (Nat × Arrived))
    (hf : s.fetch A (tabJob A) ids = .ok (s', sts, res)) :
    ∀ p ∈ res, ∃ (ρ : RunRec TabState) (cfgT : Cfg) (sd : Nat) (all : List Res),
      ρ ∈ s'.runs ∧ ρ.trial = p.1 ∧ ρ.run = p.2.tag.run ∧ ρ.results[p.2.tag.idx]? = some p.2.res ∧
      p.2.time = A.add (A.add ρ.start p.2.res.elapsed) cfg.dResult ∧
      alookup p.1 ρ.jsBefore.cfgs = some cfgT ∧
      ρ.jsAfter.allResults cfgT sd = .ok all ∧
      repair A ρ.jsBefore.minStep
        (match alookup p.1 ρ.jsBefore.paused with
         | some lvl => if ρ.jsBefore.checkpointing then resumeFilter A lvl all else all
         | none => all) = .ok ρ.results := by
  obtain ⟨⟨ops', hops'⟩, hres⟩ := fetch_run hr hf
  have hcfg' : s'.cfg = cfg := cfg_run ops' hops'
  intro p hp
  obtain ⟨ρ, hρ, htr, hrun, hidx, ⟨st, hjob⟩, htime⟩ := hres p hp
  obtain ⟨_, cfgT, sd, all, hcfg, _, hall, hrep⟩ := tabJob_spec A ρ.jsBefore ρ.jsAfter p.1 st ρ.results hjob
  exact ⟨ρ, cfgT, sd, all, hρ, htr, hrun, hidx, by rw [htime, hcfg'], hcfg, hall, hrep⟩

/-- **monotone clock (1).**  Along any history the simulated clock never decreases
(`advance` asserts `step ≥ 0`, `advance_to` takes the maximum). -/
theorem monotone_clock (A : Arith) (hA : AddGe A) (ops : List SOp) (s s' : TB)
    (h : TB.run A (tabJob A) s ops = .ok s') : s.now ≤ s'.now :=
  now_le_run hA ops h

/-- **monotone clock (2).**  The time stamp of a delivered result is not before the start of
its run (non-negative `delay_on_trial_result` and repair step). -/
theorem stamp_after_start (A : Arith) (hA : AddGe A) (cfg : SimCfg) (js : TabState) (s s' : TB)
    (hr : Reach A cfg js s) (hd : 0 ≤ cfg.dResult) (hm : 0 ≤ js.minStep)
    (ids : List Nat) (sts : List (Nat × St)) (res : List (Nat × Arrived))
    (hf : s.fetch A (tabJob A) ids = .ok (s', sts, res)) :
    ∀ p ∈ res, ∃ ρ ∈ s'.runs, ρ.trial = p.1 ∧ ρ.run = p.2.tag.run ∧ ρ.start ≤ p.2.time := by
  obtain ⟨⟨ops', hops'⟩, hres⟩ := fetch_run hr hf
  have hcfg' : s'.cfg = cfg := cfg_run ops' hops'
  intro p hp
  obtain ⟨ρ, hρ, htr, hrun, hidx, ⟨st, hjob⟩, htime⟩ := hres p hp
  refine ⟨ρ, hρ, htr, hrun, ?_⟩
  -- the repaired elapsed time is at least the repair step, hence non-negative
  have hstep : 0 ≤ ρ.jsBefore.minStep := consts_minStep ((runsUp_run A cfg js ops' hops').before ρ hρ).consts_eq ▸ hm
  have hel := tabJob_ge A ρ.jsBefore ρ.jsAfter p.1 st ρ.results (fun a => hA a _ hstep) hjob
    p.2.res (List.mem_of_getElem? hidx)
  rw [htime]
  exact le_trans (hA _ _ (le_trans hstep hel)) (hA _ _ (by rw [hcfg']; exact hd))

/-- **FIFO on ties.**  In every reachable state the event heap is strictly ordered by
`(time, insertion counter)`: events with equal time are processed in the order in which they
were pushed (`_process_events_until_now` pops the first entry while it is due), and every
counter is below `events_added`. -/
theorem fifo_ties (A : Arith) (cfg : SimCfg) (js : TabState) (s : TB) (hr : Reach A cfg js s) :
    s.heap.Pairwise (fun a b => a.time < b.time ∨ (a.time = b.time ∧ a.cnt < b.cnt)) ∧
    ∀ e ∈ s.heap, e.cnt < s.added := by
  obtain ⟨ops, hops⟩ := hr
  have := HeapOK.run ops (HeapOK.init cfg js) hops
  exact ⟨this.sorted, this.cnt_lt⟩

/-- **waiting is charged once (1).**  `on_tuning_sleep` advances the clock by exactly
`tuner_sleep_time` (one floating-point addition) and changes nothing else that matters. -/
theorem wait_once_sleep (A : Arith) (s s' : TB) (h : TB.step A (tabJob A) s .sleep = .ok s') :
    s'.now = A.add s.now s.cfg.sleep ∧ s'.heap = s.heap ∧ s'.next = s.next ∧ s'.trials = s.trials := by
  obtain ⟨_, rfl⟩ := advance_ok h
  exact ⟨rfl, rfl, rfl, rfl⟩

/-- **waiting is charged once (2).**  A stop / pause command issued at clock `t` (after the
real time spent outside has been added) leaves the clock at
`max(max(t, t ⊕ delay_stop ⊕ 1e-3), · ⊕ delay_complete_after_stop ⊕ 1e-3)` (`stopClock`): both
delays and both guards are charged exactly once, nothing is subtracted.  With exact arithmetic
and non-negative delays this is `t + delay_stop + 1e-3 + delay_complete_after_stop + 1e-3`. -/
theorem wait_once_stop (A : Arith) (s s' : TB) (t : Nat) (st : St)
    (h : s.stopOrPause A (tabJob A) t st = .ok s') :
    s'.now = stopClock A s ∧
    (∀ (x : TB), x.realNow = x.lastExit → 0 ≤ x.cfg.dStop → 0 ≤ x.cfg.dCompleteStop → 0 ≤ x.cfg.guard →
      stopClock Arith.exact x = x.now + x.cfg.dStop + x.cfg.guard + x.cfg.dCompleteStop + x.cfg.guard) :=
  ⟨stopOrPause_now h, fun x h1 h2 h3 h4 => stopClock_exact x h1 h2 h3 h4⟩

/-- **stop removes.**  In every reachable state: from a `pause_trial` / `stop_trial` command
until the trial is resumed (`commanded`), the event heap contains no event of that trial — the
stop event removed the pending results and the completion event of the old run, and the
completion event pushed by the command itself has been processed. -/
theorem stop_removes (A : Arith) (hA : AddGe A) (cfg : SimCfg) (js : TabState) (hg : 0 ≤ cfg.guard)
    (s : TB) (hr : Reach A cfg js s) (t : Nat) (x : STrial) (hx : s.trials[t]? = some x)
    (hc : x.commanded = true) : ∀ e ∈ s.heap, e.trial ≠ t := by
  obtain ⟨ops, hops⟩ := hr
  exact (CmdInv.run hA (tabJob_statusOK A) ops (CmdInv.init cfg js hg) hops).quiet t x hx hc

/-! ### the hypotheses are satisfiable -/

example : AddGe Arith.exact := addGe_exact

/-- a concrete reachable state with a stopped (commanded) trial: the hypotheses of
`stop_removes`, `values`, … are satisfiable -/
example : ∃ s, Reach Arith.exact ⟨0, 0, 0, 0, 1/2, 1/4, 1/1000⟩
      { table := ⟨[1, 2], 0, 1, [[[[1], [2]]]]⟩, maxResAttr := false, seedFix := some 0, checkpointing := true,
        minStep := 1/100 } s ∧
    ∃ x, s.trials[0]? = some x ∧ x.commanded = true := by
  have key : (match TB.run Arith.exact (tabJob Arith.exact)
        (TB.init ⟨0, 0, 0, 0, 1/2, 1/4, 1/1000⟩
          { table := ⟨[1, 2], 0, 1, [[[[1], [2]]]]⟩, maxResAttr := false, seedFix := some 0, checkpointing := true,
            minStep := 1/100 })
        [.start ⟨0, none⟩, .sleep, .fetch [0], .stop 0] with
      | .ok s => s.trials.map (·.commanded)
      | .error _ => []) = [true] := by decide +kernel
  cases h : TB.run Arith.exact (tabJob Arith.exact)
        (TB.init ⟨0, 0, 0, 0, 1/2, 1/4, 1/1000⟩
          { table := ⟨[1, 2], 0, 1, [[[[1], [2]]]]⟩, maxResAttr := false, seedFix := some 0, checkpointing := true,
            minStep := 1/100 })
        [.start ⟨0, none⟩, .sleep, .fetch [0], .stop 0] with
  | error e => rw [h] at key; cases key
  | ok s =>
    rw [h] at key
    simp only [List.map_eq_cons_iff] at key
    obtain ⟨x, xs, ht, hc, _⟩ := key
    exact ⟨s, ⟨_, h⟩, x, by rw [ht]; rfl, hc⟩

end SyneTune.C10
