import SyneTune.Lemmas.Symmetry
import SyneTune.Lemmas.HBPromotion
/-
C15 — minimising f and maximising -f are the same experiment (asynchronous Hyperband family).
Each theorem is a simulation step: running the model in mode `max` on the negated state and
negated metric yields the negation of what mode `min` yields on the original — same
decisions, same picks, same positions.  Hints (used only for comparisons within round-off)
are the same on both sides.
-/
namespace SyneTune.C15
open SyneTune

/-- rung systems whose promotion quantiles lie in (0,1) — holds for every constructed system
(`C03.promote_quantiles_in_unit_interval`). -/
def QOK (rs : List Rung) : Prop := ∀ rg ∈ rs, 0 < rg.q ∧ rg.q < 1

def negSys (s : RungSys) : RungSys :=
  { s with rungs := s.rungs.map negRung, thresholds := s.thresholds.map (fun p => (p.1, -p.2)) }

theorem rung_add_symm (rg : Rung) (e : Entry) :
    (negRung rg).add .max (negE e) = negRung (rg.add .min e) := by
  simp only [Rung.add, negRung, insertEntry_neg]

theorem cutoff_symm (rg : Rung) (hq0 : 0 < rg.q) (hq1 : rg.q < 1) :
    (negRung rg).cutoff .max = (rg.cutoff .min).map (fun x => -x) := by
  rw [cutoff_eq_quantileAsc .max (negRung rg) hq0 hq1, cutoff_eq_quantileAsc .min rg hq0 hq1]
  have : (negRung rg).ascVals .max = ((rg.ascVals .min).map (fun x => -x)).reverse := by
    simp [Rung.ascVals, negRung, negE, List.map_map, Function.comp_def]
  rw [this]
  exact quantileAsc_neg_reverse _ _ hq0 hq1

theorem contains_neg (rg : Rung) (tid : Nat) : (negRung rg).contains tid = rg.contains tid := by
  simp [Rung.contains, negRung, negE, List.any_map, Function.comp_def]

theorem taskContinues_symm (v : Rat) (rg : Rung) (hint : Bool) (hq0 : 0 < rg.q) (hq1 : rg.q < 1) :
    taskContinues .max (-v) (negRung rg) hint = taskContinues .min v rg hint := by
  unfold taskContinues
  rw [cutoff_symm rg hq0 hq1, scale_neg]
  cases rg.cutoff .min with
  | none => rfl
  | some c => simp only [Option.map_some, cmpNoWorse_neg]

theorem negRung_level (rg : Rung) : (negRung rg).level = rg.level := rfl
theorem negRung_q (rg : Rung) : (negRung rg).q = rg.q := rfl

/-- **Stopping-type scan is symmetric**: same rung reached, same decision, rungs negated. -/
theorem stopScan_symm (tid r : Nat) (v : Rat) (hint : Bool) (next : Nat) (rs : List Rung) (hq : QOK rs) :
    stopScan .max tid r (-v) hint next (rs.map negRung) =
      ((stopScan .min tid r v hint next rs).1.map negRung, (stopScan .min tid r v hint next rs).2) := by
  induction rs generalizing next with
  | nil => simp [stopScan]
  | cons rg rest ih =>
    have hq' : QOK rest := fun x hx => hq x (List.mem_cons_of_mem _ hx)
    have hrg := hq rg (by simp)
    simp only [List.map_cons]
    unfold stopScan
    simp only [negRung_level, contains_neg]
    by_cases h1 : r < rg.level ∨ rg.contains tid = true
    · simp only [h1, if_true, ih rg.level hq', List.map_cons]
    · simp only [h1, if_false]
      by_cases h2 : rg.level < r
      · simp only [h2, if_true, List.map_cons]
      · simp only [h2, if_false, List.map_cons]
        have hadd : (negRung rg).add .max { tid := tid, val := -v } = negRung (rg.add .min { tid := tid, val := v }) :=
          rung_add_symm rg { tid := tid, val := v }
        rw [hadd]
        have hq2 : 0 < (rg.add .min { tid := tid, val := v }).q ∧ (rg.add .min { tid := tid, val := v }).q < 1 := hrg
        rw [taskContinues_symm v _ hint hq2.1 hq2.2]

/-- **`StoppingRungSystem.on_task_report` is symmetric.** -/
theorem stopping_symm (s : RungSys) (tid r : Nat) (v : Rat) (skip : Nat) (hint : Bool) (hq : QOK s.rungs) :
    (negSys s).stopReport .max tid r (-v) skip hint =
      (negSys (s.stopReport .min tid r v skip hint).1, (s.stopReport .min tid r v skip hint).2) := by
  unfold RungSys.stopReport negSys
  by_cases hr : r = s.maxT
  · simp [hr]
  · simp only [hr, if_false, List.length_map, milestoneRungs]
    have hq' : QOK (s.rungs.take (s.rungs.length - skip)) := fun x hx => hq x (List.mem_of_mem_take hx)
    rw [← List.map_take, stopScan_symm tid r v hint s.maxT _ hq']
    simp [List.map_drop]

theorem firstUnpromoted_neg (l : List Entry) (start : Nat) :
    firstUnpromoted (l.map negE) start = (firstUnpromoted l start).map (fun p => (negE p.1, p.2)) := by
  induction l generalizing start with
  | nil => simp [firstUnpromoted]
  | cons x xs ih =>
    simp only [List.map_cons, firstUnpromoted]
    have : (negE x).promoted = x.promoted := rfl
    rw [this]
    split
    · simp
    · exact ih (start + 1)

/-- **Which trial is promotable is symmetric** (ASHA / PASHA rule): same trial, same position. -/
theorem plainPick_symm (rg : Rung) (hint : Option Nat) (hq0 : 0 < rg.q) (hq1 : rg.q < 1) :
    plainPick .max (negRung rg) hint = plainPick .min rg hint := by
  unfold plainPick
  rw [cutoff_symm rg hq0 hq1, scale_neg]
  cases rg.cutoff .min with
  | none => rfl
  | some c =>
    simp only [Option.map_some]
    show (match firstUnpromoted (rg.data.map negE) 0 with | none => none | some (e, pos) => _) = _
    rw [firstUnpromoted_neg]
    cases firstUnpromoted rg.data 0 with
    | none => rfl
    | some ep =>
      obtain ⟨e, pos⟩ := ep
      simp only [Option.map_some, negRung_level]
      have : (negE e).val = -e.val := rfl
      rw [this, cmpNoWorse_neg]
      rfl

theorem markPromoted_symm (rg : Rung) (pos : Nat) :
    markPromoted .max (negRung rg) pos = negRung (markPromoted .min rg pos) := by
  unfold markPromoted
  simp only [negRung, List.getElem?_map]
  cases h : rg.data[pos]? with
  | none => simp
  | some e =>
    simp only [Option.map_some]
    have h1 : ({ negE e with promoted := true } : Entry) = negE { e with promoted := true } := rfl
    have h2 : (rg.data.map negE).eraseIdx pos = (rg.data.eraseIdx pos).map negE := by
      rw [List.eraseIdx_map]
    rw [h1, h2, insertEntry_neg]

/-- **The promotion scan is symmetric** (ASHA / PASHA): the same trial is promoted from the
same rung to the same milestone, or nothing is. -/
theorem promoScan_symm (ty : HBType) (hty : ty.plain) (numThr cap : Nat) (hint : Option Nat) (next : Nat)
    (thr thr' : List (Nat × Rat)) (rs : List Rung) (hq : QOK rs) :
    (promoScan ty .max numThr cap hint next thr' (rs.map negRung)).out
        = (promoScan ty .min numThr cap hint next thr rs).out ∧
    (promoScan ty .max numThr cap hint next thr' (rs.map negRung)).rungs
        = (promoScan ty .min numThr cap hint next thr rs).rungs.map negRung := by
  induction rs generalizing next thr thr' with
  | nil => simp [promoScan]
  | cons rg rest ih =>
    have hq' : QOK rest := fun x hx => hq x (List.mem_cons_of_mem _ hx)
    have hrg := hq rg (by simp)
    simp only [List.map_cons]
    unfold promoScan
    simp only [negRung_level]
    have p1 := findPromotable_plain ty hty .max numThr thr' (negRung rg) hint
    have p2 := findPromotable_plain ty hty .min numThr thr rg hint
    by_cases hc : rg.level < cap
    · simp only [hc, if_true]
      rw [p1.1, p2.1, plainPick_symm rg hint hrg.1 hrg.2]
      cases plainPick .min rg hint with
      | some tp =>
        obtain ⟨tid, pos⟩ := tp
        simp only [List.map_cons, markPromoted_symm, and_self]
      | none =>
        simp only
        have := ih rg.level (findPromotable ty .min numThr thr rg hint).thr
          (findPromotable ty .max numThr thr' (negRung rg) hint).thr hq'
        simp only [this.1, this.2, List.map_cons, and_self]
    · simp only [hc, if_false]
      have := ih rg.level thr thr' hq'
      simp only [this.1, this.2, List.map_cons, and_self]

/-- **Recording a result at a milestone is symmetric.** -/
theorem promoReport_symm (s : RungSys) (tid r : Nat) (v cost : Rat) :
    (negSys s).promoReport .max tid r (-v) cost =
      (match s.promoReport .min tid r v cost with
       | .ok res => .ok (negSys res.1, res.2)
       | .error e => .error e) := by
  unfold RungSys.promoReport
  have hrun : (negSys s).running = s.running := rfl
  rw [hrun]
  cases alookup tid s.running with
  | none => rfl
  | some mr =>
    simp only
    by_cases h1 : mr.1 ≤ r
    · simp only [h1, if_true]
      by_cases h2 : r ≠ mr.1
      · simp only [h2, ne_eq, not_false_eq_true, if_true]
      · simp only [h2, if_false]
        unfold RungSys.promoReached
        have hpos : rungPos (negSys s).rungs mr.1 = rungPos s.rungs mr.1 := by
          simp only [rungPos, negSys, List.findIdx?_map]
          rfl
        rw [hpos]
        cases rungPos s.rungs mr.1 with
        | none => rfl
        | some pos =>
          simp only [negSys, List.getElem?_map]
          cases hg : s.rungs[pos]? with
          | none => rfl
          | some rg =>
            simp only [Option.map_some, contains_neg]
            by_cases hc : rg.contains tid = true
            · simp [hc]
            · simp only [hc, Bool.false_eq_true, if_false]
              have hadd : (negRung rg).add .max { tid := tid, val := -v, cost := cost }
                  = negRung (rg.add .min { tid := tid, val := v, cost := cost }) :=
                rung_add_symm rg { tid := tid, val := v, cost := cost }
              have hnext : nextAbove (s.rungs.map negRung) pos s.maxT = nextAbove s.rungs pos s.maxT := by
                unfold nextAbove
                simp only [List.getElem?_map]
                cases s.rungs[pos - 1]? <;> rfl
              simp only [hadd, hnext, List.map_set]
    · simp only [h1, if_false]

theorem rushBetter_symm (thr : Option Rat) (v : Rat) :
    rushBetter .max (thr.map (fun x => -x)) (-v) = -(rushBetter .min thr v) := by
  cases thr with
  | none => rfl
  | some t =>
    simp only [Option.map_some, rushBetter]
    by_cases h : v < t
    · have : -t < -v := by linarith
      simp [h, this]
    · have : ¬ (-t < -v) := by linarith
      simp [h, this]

/-- **The RUSH threshold rule is symmetric** (thresholds negated). -/
theorem rush_symm (numThr : Nat) (thr : List (Nat × Rat)) (tc : Bool) (tid : Nat) (v : Rat) (res : Nat) :
    rushDecide .max numThr (thr.map (fun p => (p.1, -p.2))) tc tid (-v) res =
      ((rushDecide .min numThr thr tc tid v res).1,
       (rushDecide .min numThr thr tc tid v res).2.map (fun p => (p.1, -p.2))) := by
  unfold rushDecide
  cases tc with
  | false => simp
  | true =>
    simp only [Bool.not_true, Bool.false_eq_true, if_false]
    by_cases h : tid < numThr
    · simp only [h, if_true, alookup_mapv, rushBetter_symm, aset_mapv]
    · simp only [h, if_false, alookup_mapv, rushBetter_symm, neg_inj]

/-- **Cost-aware promotion does not look at the metric sign**: the cost scan on the negated
rung is the cost scan on the original (entries negated in the result). -/
theorem cost_symm (threshold total : Rat) (level : Nat) (hint : Option Nat) (data : List Entry)
    (pos : Nat) (acc : Rat) :
    costFirstPromotable threshold total level hint (data.map negE) pos acc =
      ((costFirstPromotable threshold total level hint data pos acc).1.map (fun p => (negE p.1, p.2)),
       (costFirstPromotable threshold total level hint data pos acc).2) := by
  induction data generalizing pos acc with
  | nil => rfl
  | cons x xs ih =>
    simp only [List.map_cons, costFirstPromotable]
    have h1 : (negE x).cost = x.cost := rfl
    have h2 : (negE x).promoted = x.promoted := rfl
    rw [h1, h2]
    split
    · rfl
    · split
      · rfl
      · rw [ih]

example : QOK (mkRungSys [1, 3] (promoteQuantiles [1, 3] 9) 9).rungs := by
  intro rg hrg
  simp [mkRungSys, promoteQuantiles] at hrg
  rcases hrg with rfl | rfl <;> norm_num

end SyneTune.C15
