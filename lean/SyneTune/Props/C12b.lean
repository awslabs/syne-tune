import SyneTune.Lemmas.TunerC12bCriteria
import SyneTune.Lemmas.TunerC12bWitness
import SyneTune.Lemmas.TunerWitness
/-
C12b — overshoot of the count-based stopping criteria other than `max_num_trials_started`
(which `Props/C12.lean: overshoot` covers).  Property theorems only.
Model: `Model/Tuner.lean`, `Model/StoppingCriterion.lean`, `Model/TuningStatus.lean`; helper lemmas:
`Lemmas/TunerC12bCount.lean`, `Lemmas/TunerC12bCriteria.lean`; witnesses: `Lemmas/TunerC12bWitness.lean`.

`run (init c) as` is the state of `Tuner.run()` after the environment answers `as` (any poll
outcomes, decisions, suggestions, clock readings, `raise` at ANY call).  `stopReached` is the
variable `stop_condition_reached`: the value of `_stop_condition()` at its last evaluation, so a
state with `stopReached = false` is a state up to and including the moment at which the criterion is
found to hold for the first time.

B is contract B of `Props/C01.lean` on the poll answers.

`max_cost`, `max_wallclock_time`, `min_metric_value`, `max_metric_value` are not count-based: the
criterion is evaluated once per iteration on whatever the polls delivered (`C12.exit_criterion`);
there is no overshoot statement to make, and none is made here.
-/
namespace SyneTune.C12b
open SyneTune SyneTune.Tuner SyneTune.Tuner.Cnt

/-- while the stopping condition is false the budget itself is respected from the `while` test up to
the `tuning_status.update` of `_process_new_results` -/
theorem completed_before (c : Cfg) (m : Nat) (hm : c.crit.maxCompleted = some m) (as : List Ans)
    (hB : Along BOk (init c) as) (hs : (run (init c) as).stopReached = false)
    (hp : prePc (run (init c) as).pc = true) : (run (init c) as).status.numCompleted ≤ m :=
  (GInv.reach_completed hm (reach_run c hB)).g1 hs hp

/-- **the count when the criterion first holds**: as long as the last evaluation of the stopping condition
was false — in particular at the evaluation that finds it true — at most `m + n_workers` trials are
recorded as completed (any configuration of the tuner) -/
theorem completed_first (c : Cfg) (m : Nat) (hm : c.crit.maxCompleted = some m) (as : List Ans)
    (hB : Along BOk (init c) as) (hs : (run (init c) as).stopReached = false)
    (hf : finPc (run (init c) as).pc = false) : (run (init c) as).status.numCompleted ≤ m + c.nWorkers := by
  have := (GInv.reach_completed hm (reach_run c hB)).g4 hs hf
  rwa [run_cfg] at this

/-- **Overshoot, partial**: without `wait_trial_completion_when_stopping` the number of completed trials never
exceeds `m + n_workers`, at any point of any run obeying contract B, in particular when `run()` returns
(normally or by exception).  Full statement (without `hw`) is false: `completed_overshoot_counterexample`. -/
theorem completed_overshoot_partial (c : Cfg) (m : Nat) (hm : c.crit.maxCompleted = some m) (hw : c.wait = false)
    (as : List Ans) (hB : Along BOk (init c) as) : (run (init c) as).status.numCompleted ≤ m + c.nWorkers := by
  have := (GInv.reach_completed hm (reach_run c hB)).g2 (by rw [run_cfg]; exact hw) (Or.inl markInv_completed)
  rwa [run_cfg] at this

/-- **Overshoot with `wait_trial_completion_when_stopping`** (any configuration): the trials that `_schedule_new_tasks`
started in the iteration in which the count passed `m` may complete afterwards; never more than `m + 2·n_workers`. -/
theorem completed_overshoot_wait (c : Cfg) (m : Nat) (hm : c.crit.maxCompleted = some m) (as : List Ans)
    (hB : Along BOk (init c) as) : (run (init c) as).status.numCompleted ≤ m + 2 * c.nWorkers := by
  have := (GInv.reach_completed hm (reach_run c hB)).g5
  rwa [run_cfg] at this

/-- inside the loop the completed trials and the running ones together never exceed `m + 2·n_workers` -/
theorem completed_plus_running (c : Cfg) (m : Nat) (hm : c.crit.maxCompleted = some m) (as : List Ans)
    (hB : Along BOk (init c) as) (hf : finPc (run (init c) as).pc = false) :
    psi pCompleted (run (init c) as).running (run (init c) as).status.last ≤ m + 2 * c.nWorkers := by
  have := (GInv.reach_completed hm (reach_run c hB)).g3 (ip_of_loop hf)
  rwa [run_cfg] at this

/-- **`m + n_workers` is exceeded with `wait_trial_completion_when_stopping=True`.**  `max_num_trials_completed = 0`, two
workers: trials 0 and 1 complete in iteration 2 (count 2 = m + n_workers at the evaluation that finds the criterion
true), the same iteration starts trials 2 and 3 (its stopping condition was still false), the loop waits for them and
`run()` returns normally with 4 completed trials.  Contract B holds. -/
theorem completed_overshoot_counterexample :
    Witness.cwCfg.wait = true ∧ Witness.cwCfg.crit.maxCompleted = some 0 ∧ Witness.cwCfg.nWorkers = 2 ∧
    Along BOk (init Witness.cwCfg) (Witness.twoPrefix ++ Witness.twoWaitRest) ∧
    (run (init Witness.cwCfg) Witness.twoPrefix).pc = .loopHead ∧
    (run (init Witness.cwCfg) Witness.twoPrefix).stopReached = true ∧
    (run (init Witness.cwCfg) Witness.twoPrefix).status.numCompleted = 2 ∧
    (run (init Witness.cwCfg) Witness.twoPrefix).running = [2, 3] ∧
    (run (init Witness.cwCfg) (Witness.twoPrefix ++ Witness.twoWaitRest)).pc = .done ∧
    (run (init Witness.cwCfg) (Witness.twoPrefix ++ Witness.twoWaitRest)).err = none ∧
    (run (init Witness.cwCfg) (Witness.twoPrefix ++ Witness.twoWaitRest)).status.numCompleted = 4 :=
  ⟨rfl, rfl, rfl, And.imp_left (along_of bOk_of) (by decide +kernel)⟩

/-- the same for `max_num_trials_finished`: the budget itself is respected up to `tuning_status.update` while the
stopping condition is false -/
theorem finished_before (c : Cfg) (m : Nat) (hm : c.crit.maxFinished = some m) (as : List Ans)
    (hB : Along BOk (init c) as) (hs : (run (init c) as).stopReached = false)
    (hp : prePc (run (init c) as).pc = true) : (run (init c) as).status.numFinished ≤ m :=
  (GInv.reach_finished hm (reach_run c hB)).g1 hs hp

/-- the count when the criterion first holds (any configuration) -/
theorem finished_first (c : Cfg) (m : Nat) (hm : c.crit.maxFinished = some m) (as : List Ans)
    (hB : Along BOk (init c) as) (hs : (run (init c) as).stopReached = false)
    (hf : finPc (run (init c) as).pc = false) : (run (init c) as).status.numFinished ≤ m + c.nWorkers := by
  have := (GInv.reach_finished hm (reach_run c hB)).g4 hs hf
  rwa [run_cfg] at this

/-- **Overshoot, partial**: without `wait_trial_completion_when_stopping` the number of finished trials never exceeds
`m + n_workers` at any point of the run up to `mark_running_job_as_stopped` (`markedPc`: the control points after it) —
in particular when the loop is left, normally or by exception, and while `stop_all` works.
Without `hw`: `finished_overshoot_counterexample`; past the mark: `finished_marked_counterexample`. -/
theorem finished_overshoot_partial (c : Cfg) (m : Nat) (hm : c.crit.maxFinished = some m) (hw : c.wait = false)
    (as : List Ans) (hB : Along BOk (init c) as) (hk : markedPc (run (init c) as).pc = false) :
    (run (init c) as).status.numFinished ≤ m + c.nWorkers := by
  have := (GInv.reach_finished hm (reach_run c hB)).g2 (by rw [run_cfg]; exact hw) (Or.inr hk)
  rwa [run_cfg] at this

/-- **Overshoot with `wait_trial_completion_when_stopping`** (any configuration), up to the entry of the `finally` block
(`ipPc`: the control points of the loop and `on_tuning_end`): never more than `m + 2·n_workers` finished trials. -/
theorem finished_overshoot_wait (c : Cfg) (m : Nat) (hm : c.crit.maxFinished = some m) (as : List Ans)
    (hB : Along BOk (init c) as) (hp : ipPc (run (init c) as).pc = true) :
    (run (init c) as).status.numFinished ≤ m + 2 * c.nWorkers := by
  have := (GInv.reach_finished hm (reach_run c hB)).g3 hp
  rw [run_cfg] at this
  exact Nat.le_trans (numIn_le_psi _ _ _) this

/-- with `wait_trial_completion_when_stopping=True` the bound `m + n_workers` is exceeded before the mark already
(same answers as `completed_overshoot_counterexample`; the state is the entry of the `finally` block) -/
theorem finished_overshoot_counterexample :
    Witness.fwCfg.wait = true ∧ Witness.fwCfg.crit.maxFinished = some 0 ∧ Witness.fwCfg.nWorkers = 2 ∧
    Along BOk (init Witness.fwCfg) (Witness.twoPrefix ++ Witness.twoWaitRest.take 19) ∧
    (run (init Witness.fwCfg) (Witness.twoPrefix ++ Witness.twoWaitRest.take 19)).pc = .finTuningEnd ∧
    (run (init Witness.fwCfg) (Witness.twoPrefix ++ Witness.twoWaitRest.take 19)).err = none ∧
    (run (init Witness.fwCfg) (Witness.twoPrefix ++ Witness.twoWaitRest.take 19)).status.numFinished = 4 :=
  ⟨rfl, rfl, rfl, And.imp_left (along_of bOk_of) (by decide +kernel)⟩

/-- **what `mark_running_job_as_stopped` does to the count**: every trial still recorded as in progress becomes a
finished one -/
theorem finished_mark (ts : TStatus) : ts.markStopped.numFinished = ts.numFinished + ts.numRunning :=
  (numIn_markStopped _ ts).trans ((numIn_congr (fun v => by cases v <;> rfl) ts).trans (numIn_finOrRun ts))

/-- without waiting, the count at the END of `run()` exceeds `m + n_workers`: `max_num_trials_finished = 0`, two workers;
when the loop is left 2 trials are finished (= m + n_workers) and 2 are running; `stop_all` stops them and
`mark_running_job_as_stopped` records them: 4 finished -/
theorem finished_marked_counterexample :
    Witness.fnCfg.wait = false ∧ Witness.fnCfg.crit.maxFinished = some 0 ∧ Witness.fnCfg.nWorkers = 2 ∧
    Along BOk (init Witness.fnCfg) (Witness.twoPrefix ++ Witness.twoStopRest) ∧
    Along RebindOk (init Witness.fnCfg) (Witness.twoPrefix ++ Witness.twoStopRest) ∧
    (run (init Witness.fnCfg) (Witness.twoPrefix ++ Witness.twoStopRest.take 15)).pc = .finMark ∧
    (run (init Witness.fnCfg) (Witness.twoPrefix ++ Witness.twoStopRest.take 15)).status.numFinished = 2 ∧
    (run (init Witness.fnCfg) (Witness.twoPrefix ++ Witness.twoStopRest)).pc = .done ∧
    (run (init Witness.fnCfg) (Witness.twoPrefix ++ Witness.twoStopRest)).err = none ∧
    (run (init Witness.fnCfg) (Witness.twoPrefix ++ Witness.twoStopRest)).status.numFinished = 4 :=
  ⟨rfl, rfl, rfl, And.imp (along_of bOk_of) (And.imp_left (along_of rebindOk_of)) (by decide +kernel)⟩

/-- **The count at the end of `run()`, partial**: finished trials and trials recorded as in progress together never
exceed `m + 2·n_workers` — at any point of any run, with or without waiting, in particular after
`mark_running_job_as_stopped` (when none is in progress any more) — PROVIDED the local `running_trials_ids` of
`_schedule_new_tasks` is never rebound (`RebindOk`; for free with `start_jobs_without_delay=True`, `finished_end_swd`).
Full statement (without `hR`) is false: `finished_end_counterexample`. -/
theorem finished_end_partial (c : Cfg) (m : Nat) (hm : c.crit.maxFinished = some m) (as : List Ans)
    (hB : Along BOk (init c) as) (hR : Along RebindOk (init c) as) :
    (run (init c) as).status.numFinished + (run (init c) as).status.numRunning ≤ m + 2 * c.nWorkers := by
  have := (GInv.reach_finOrRun hm (reach_run c (hB.and hR))).g5
  rwa [run_cfg, numIn_finOrRun] at this

/-- the hypothesis of `finished_end_partial` holds for free with `start_jobs_without_delay=True` -/
theorem finished_end_swd (c : Cfg) (m : Nat) (hm : c.crit.maxFinished = some m) (hs : c.swd = true) (as : List Ans)
    (hB : Along BOk (init c) as) :
    (run (init c) as).status.numFinished + (run (init c) as).status.numRunning ≤ m + 2 * c.nWorkers :=
  finished_end_partial c m hm as hB (rebindOk_of_swd c hs as)

/-- **F15 breaks the `m + 2·n_workers` bound.**  One worker, `start_jobs_without_delay=False`,
`max_num_trials_finished = 0`: the busy list `[]` is shorter than the running set `{0}`, trial 1 is started into the
rebound set and stays in progress unseen; trial 0 completes, trial 2 is started; at the end 1 completed + 2 stopped
= 3 finished > 0 + 2·1.  Contract B holds; `RebindOk` is what fails. -/
theorem finished_end_counterexample :
    Witness.frCfg.swd = false ∧ Witness.frCfg.crit.maxFinished = some 0 ∧ Witness.frCfg.nWorkers = 1 ∧
    Along BOk (init Witness.frCfg) Witness.frRun ∧
    alongB rebindOkB (init Witness.frCfg) Witness.frRun = false ∧
    (run (init Witness.frCfg) Witness.frRun).pc = .done ∧
    (run (init Witness.frCfg) Witness.frRun).err = none ∧
    (run (init Witness.frCfg) Witness.frRun).status.numFinished = 3 :=
  ⟨rfl, rfl, rfl, And.imp_left (along_of bOk_of) (by decide +kernel)⟩

/-- while the stopping condition is false the budget itself is respected up to `tuning_status.update` (no contract) -/
theorem evals_before (c : Cfg) (m : Nat) (hm : c.crit.maxEvals = some m) (as : List Ans)
    (hs : (run (init c) as).stopReached = false) (hp : prePc (run (init c) as).pc = true) :
    (run (init c) as).status.overall.count ≤ m :=
  (EInv.reach hm (reach_any c as)).e1 hs hp

/-- **the count when the criterion first holds**: at most `m` plus the number of results that the last poll
delivered (`allRes` is `new_results` of the last `fetch_status_results`) -/
theorem evals_first (c : Cfg) (m : Nat) (hm : c.crit.maxEvals = some m) (as : List Ans)
    (hs : (run (init c) as).stopReached = false) (hf : finPc (run (init c) as).pc = false) :
    (run (init c) as).status.overall.count ≤ m + (run (init c) as).allRes.length :=
  (EInv.reach hm (reach_any c as)).e2 hs hf

/-- **Overshoot, partial**: without `wait_trial_completion_when_stopping` the number of reported results never exceeds
`m` plus the size of the last poll's result list, at any point of any run, in particular when `run()` returns.
The bound `m + n_workers` is false (`evals_workers_counterexample`); with waiting every further poll adds its
results (`evals_wait_counterexample`). -/
theorem evals_overshoot_partial (c : Cfg) (m : Nat) (hm : c.crit.maxEvals = some m) (hw : c.wait = false)
    (as : List Ans) : (run (init c) as).status.overall.count ≤ m + (run (init c) as).allRes.length :=
  (EInv.reach hm (reach_any c as)).e3 (by rw [run_cfg]; exact hw)

/-- **not bounded by `n_workers`**: one worker, `max_num_evaluations = 0`; one poll delivers three results of the one
running trial: 3 > 0 + 1 when the criterion is evaluated and when `run()` returns.  Contract B holds, no waiting. -/
theorem evals_workers_counterexample :
    Witness.evCfg.wait = false ∧ Witness.evCfg.crit.maxEvals = some 0 ∧ Witness.evCfg.nWorkers = 1 ∧
    Along BOk (init Witness.evCfg) (Witness.evPrefix ++ Witness.evRest) ∧
    (run (init Witness.evCfg) Witness.evPrefix).stopReached = false ∧
    (run (init Witness.evCfg) Witness.evPrefix).status.overall.count = 3 ∧
    (run (init Witness.evCfg) Witness.evPrefix).allRes.length = 3 ∧
    (run (init Witness.evCfg) (Witness.evPrefix ++ Witness.evRest)).pc = .done ∧
    (run (init Witness.evCfg) (Witness.evPrefix ++ Witness.evRest)).err = none ∧
    (run (init Witness.evCfg) (Witness.evPrefix ++ Witness.evRest)).status.overall.count = 3 :=
  ⟨rfl, rfl, rfl, And.imp_left (along_of bOk_of) (by decide +kernel)⟩

/-- with `wait_trial_completion_when_stopping=True` the results of later polls add up: 4 reported results, the last
poll delivered 2, `m = 0` -/
theorem evals_wait_counterexample :
    Witness.ewCfg.wait = true ∧ Witness.ewCfg.crit.maxEvals = some 0 ∧ Witness.ewCfg.nWorkers = 2 ∧
    (run (init Witness.ewCfg) (Witness.twoPrefix ++ Witness.twoWaitRest)).pc = .done ∧
    (run (init Witness.ewCfg) (Witness.twoPrefix ++ Witness.twoWaitRest)).err = none ∧
    (run (init Witness.ewCfg) (Witness.twoPrefix ++ Witness.twoWaitRest)).status.overall.count = 4 ∧
    (run (init Witness.ewCfg) (Witness.twoPrefix ++ Witness.twoWaitRest)).allRes.length = 2 :=
  ⟨rfl, rfl, rfl, by decide +kernel⟩

/-- `completed_before` / `completed_first`: iteration 2 of the two-worker run, just before and just after
`tuning_status.update` (stopping condition false): 0 ≤ m = 0 completed, then 2 = m + n_workers -/
example :
    (run (init Witness.cnCfg) (Witness.twoPrefix.take 41)).pc = .afterUpd ∧
    prePc (run (init Witness.cnCfg) (Witness.twoPrefix.take 41)).pc = true ∧
    (run (init Witness.cnCfg) (Witness.twoPrefix.take 41)).stopReached = false ∧
    (run (init Witness.cnCfg) (Witness.twoPrefix.take 41)).status.numCompleted = 0 ∧
    (run (init Witness.cnCfg) (Witness.twoPrefix.take 42)).pc = .schedNew ∧
    (run (init Witness.cnCfg) (Witness.twoPrefix.take 42)).stopReached = false ∧
    (run (init Witness.cnCfg) (Witness.twoPrefix.take 42)).status.numCompleted = 2 := by
  decide +kernel

example : (run (init Witness.cnCfg) (Witness.twoPrefix.take 42)).status.numCompleted ≤ 0 + 2 :=
  have h : alongB bOkB (init Witness.cnCfg) (Witness.twoPrefix.take 42) = true ∧
      (run (init Witness.cnCfg) (Witness.twoPrefix.take 42)).stopReached = false ∧
      finPc (run (init Witness.cnCfg) (Witness.twoPrefix.take 42)).pc = false := by decide +kernel
  completed_first Witness.cnCfg 0 rfl _ (along_of bOk_of h.1) h.2.1 h.2.2

/-- `completed_overshoot_partial` on the whole run without waiting (the bound is attained: 2 completed) -/
example : (run (init Witness.cnCfg) (Witness.twoPrefix ++ Witness.twoStopRest)).status.numCompleted ≤ 0 + 2 :=
  completed_overshoot_partial Witness.cnCfg 0 rfl rfl _ (along_of bOk_of (by decide +kernel))

example : (run (init Witness.cnCfg) (Witness.twoPrefix ++ Witness.twoStopRest)).pc = .done ∧
    (run (init Witness.cnCfg) (Witness.twoPrefix ++ Witness.twoStopRest)).status.numCompleted = 2 := by decide +kernel

/-- `completed_overshoot_wait` / `completed_plus_running`: the bound `m + 2·n_workers = 4` is attained -/
example : (run (init Witness.cwCfg) (Witness.twoPrefix ++ Witness.twoWaitRest)).status.numCompleted ≤ 0 + 2 * 2 :=
  completed_overshoot_wait Witness.cwCfg 0 rfl _ completed_overshoot_counterexample.2.2.2.1

example : psi pCompleted (run (init Witness.cwCfg) Witness.twoPrefix).running
    (run (init Witness.cwCfg) Witness.twoPrefix).status.last = 4 := by decide +kernel

/-- `finished_before`, `finished_first`, `finished_overshoot_partial`: the run without waiting, at the `while` test
that leaves the loop: 2 finished = m + n_workers, not yet marked -/
example :
    (run (init Witness.fnCfg) Witness.twoPrefix).pc = .loopHead ∧
    markedPc (run (init Witness.fnCfg) Witness.twoPrefix).pc = false ∧
    (run (init Witness.fnCfg) Witness.twoPrefix).status.numFinished = 2 ∧
    (run (init Witness.fnCfg) (Witness.twoPrefix.take 41)).stopReached = false ∧
    prePc (run (init Witness.fnCfg) (Witness.twoPrefix.take 41)).pc = true ∧
    (run (init Witness.fnCfg) (Witness.twoPrefix.take 55)).stopReached = false ∧
    (run (init Witness.fnCfg) (Witness.twoPrefix.take 55)).pc = .evalStop ∧
    (run (init Witness.fnCfg) (Witness.twoPrefix.take 55)).status.numFinished = 2 := by
  decide +kernel

example : (run (init Witness.fnCfg) Witness.twoPrefix).status.numFinished ≤ 0 + 2 :=
  have h : alongB bOkB (init Witness.fnCfg) Witness.twoPrefix = true ∧
      markedPc (run (init Witness.fnCfg) Witness.twoPrefix).pc = false := by decide +kernel
  finished_overshoot_partial Witness.fnCfg 0 rfl rfl _ (along_of bOk_of h.1) h.2

/-- `finished_mark` on the status at the mark of that run: 2 finished + 2 in progress become 4 finished -/
example :
    (run (init Witness.fnCfg) (Witness.twoPrefix ++ Witness.twoStopRest.take 15)).status.numRunning = 2 ∧
    (run (init Witness.fnCfg) (Witness.twoPrefix ++ Witness.twoStopRest.take 15)).status.markStopped.numFinished = 4 := by
  decide +kernel

/-- `finished_end_partial` / `finished_end_swd`: the bound `m + 2·n_workers = 4` is attained at the end of that run -/
example : (run (init Witness.fnCfg) (Witness.twoPrefix ++ Witness.twoStopRest)).status.numFinished
    + (run (init Witness.fnCfg) (Witness.twoPrefix ++ Witness.twoStopRest)).status.numRunning ≤ 0 + 2 * 2 :=
  finished_end_swd Witness.fnCfg 0 rfl rfl _ finished_marked_counterexample.2.2.2.1

/-- `evals_before`, `evals_first`, `evals_overshoot_partial` on the three-results run: before the update 0 ≤ m, after
it 3 = m + |new_results| -/
example :
    (run (init Witness.evCfg) (Witness.evPrefix.take 34)).pc = .afterUpd ∧
    (run (init Witness.evCfg) (Witness.evPrefix.take 34)).stopReached = false ∧
    (run (init Witness.evCfg) (Witness.evPrefix.take 34)).status.overall.count = 0 ∧
    (run (init Witness.evCfg) Witness.evPrefix).pc = .schedNew ∧
    finPc (run (init Witness.evCfg) Witness.evPrefix).pc = false := by
  decide +kernel

example : (run (init Witness.evCfg) (Witness.evPrefix ++ Witness.evRest)).status.overall.count
    ≤ 0 + (run (init Witness.evCfg) (Witness.evPrefix ++ Witness.evRest)).allRes.length :=
  evals_overshoot_partial Witness.evCfg 0 rfl rfl _

end SyneTune.C12b
