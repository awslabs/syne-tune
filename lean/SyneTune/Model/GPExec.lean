/-
Executable twin of the Gaussian-process numerics of
`syne_tune/optimizer/schedulers/searchers/bayesopt/gpautograd/posterior_utils.py`,
`custom_op.py` and of the acquisition heads of `models/meanstd_acqfunc_impl.py`
(C08, C09).  Core Lean only.

Everything is written over an arbitrary carrier `α` with the arithmetic operations the
Python code uses.  The driver instantiates `α := Rat` (exact evaluation of the same
expressions the code evaluates in floating point); the theorems of `Lemmas/GP.lean`,
`Lemmas/CholeskyVJP.lean`, `Lemmas/EI.lean` instantiate `α := ℝ`.

Vectors are `Vec α n = Vector α n`, matrices `Mat α n m = Vector (Vector α m) n`
(row major, like the numpy arrays); `A[i][j]` is the entry in row `i`, column `j`.

What is *not* here (trusted, exercised by the correspondence): LAPACK `potrf`/`trsm`,
`sqrt`, `exp`, `erfc`, `log`, IEEE round-off, the jitter search of `AddJitterOp`.
`sqrt` enters `cholUpdate` as an oracle argument; `exp`/`erfc` enter the acquisition
heads as the already evaluated numbers `phi`, `Phi`.
-/
namespace SyneTune.GP

abbrev Vec (α : Type) (n : Nat) := Vector α n
abbrev Mat (α : Type) (n m : Nat) := Vector (Vector α m) n

variable {α : Type}

def Vec.of {n : Nat} (f : Fin n → α) : Vec α n := Vector.ofFn f
def Mat.of {n m : Nat} (f : Fin n → Fin m → α) : Mat α n m := Vector.ofFn fun i => Vector.ofFn (f i)

@[simp] theorem Vec.of_getElem {n : Nat} (f : Fin n → α) (i : Nat) (h : i < n) :
    (Vec.of f)[i] = f ⟨i, h⟩ := by
  simp [Vec.of]

@[simp] theorem Mat.of_getElem {n m : Nat} (f : Fin n → Fin m → α) (i j : Nat) (hi : i < n) (hj : j < m) :
    (Mat.of f)[i][j] = f ⟨i, hi⟩ ⟨j, hj⟩ := by
  simp [Mat.of]

theorem Vec.of_get {n : Nat} (f : Fin n → α) (i : Fin n) : (Vec.of f)[i] = f i :=
  Vec.of_getElem f i i.isLt

theorem Mat.of_get {n m : Nat} (f : Fin n → Fin m → α) (i : Fin n) (j : Fin m) :
    (Mat.of f)[i][j] = f i j :=
  Mat.of_getElem f i j i.isLt j.isLt

/-! ### sums, products, borders -/

section arith
variable [Zero α] [Add α] [Mul α]

/-- `np.sum` of a vector: `x₀ + (x₁ + (… + 0))`. -/
def sumFin {n : Nat} (f : Fin n → α) : α := (List.ofFn f).sum

def dot {n : Nat} (u v : Fin n → α) : α := sumFin fun i => u i * v i

/-- `anp.matmul(A, B)` -/
def matMul {n k m : Nat} (A : Mat α n k) (B : Mat α k m) : Mat α n m :=
  Mat.of fun i j => dot (fun l : Fin k => A[i][l]) (fun l : Fin k => B[l][j])

end arith

def transpose {n m : Nat} (A : Mat α n m) : Mat α m n := Mat.of fun i j => A[j][i]

/-- column `j` as a vector -/
def col {n m : Nat} (A : Mat α n m) (j : Fin m) : Vec α n := Vec.of fun i => A[i][j]

/-- matrix from its columns -/
def ofCols {n m : Nat} (C : Fin m → Vec α n) : Mat α n m :=
  let cs := Vector.ofFn C
  Mat.of fun i j => cs[j][i]

/-- all but the last entry -/
def initV {n : Nat} (x : Vec α (n + 1)) : Vec α n := Vec.of fun i => x[i.castSucc]

/-- leading principal `n × n` block -/
def lead {n : Nat} (A : Mat α (n + 1) (n + 1)) : Mat α n n := Mat.of fun i j => A[i.castSucc][j.castSucc]

/-- the last row without its last entry -/
def lastRow {n : Nat} (A : Mat α (n + 1) (n + 1)) : Vec α n := Vec.of fun j => A[Fin.last n][j.castSucc]

/-- the bordered matrix `[[A, c], [r, d]]`
(`concatenate([concatenate([A, r], axis=0), concatenate([c, d], axis=0)], axis=1)`) -/
def border {n : Nat} (A : Mat α n n) (c r : Vec α n) (d : α) : Mat α (n + 1) (n + 1) :=
  (Vector.ofFn fun i : Fin n => (A[i]).push c[i]).push (r.push d)

/-! ### triangular solves (`aspl.solve_triangular(L, ·, lower=True[, trans="T"])`) -/

section solve
variable [Zero α] [Add α] [Mul α] [Sub α] [Div α]

/-- forward substitution: the `x` with `L x = b` for lower triangular `L`
(`xᵢ = (bᵢ − Σ_{j<i} Lᵢⱼ xⱼ) / Lᵢᵢ`; the strict upper part of `L` is never read). -/
def solveLower : (n : Nat) → Mat α n n → Vec α n → Vec α n
  | 0, _, _ => #v[]
  | n + 1, L, b =>
    let x' := solveLower n (lead L) (initV b)
    let xn := (b[Fin.last n] - dot (fun j : Fin n => L[Fin.last n][j.castSucc]) (fun j : Fin n => x'[j])) / L[Fin.last n][Fin.last n]
    x'.push xn

/-- back substitution with the transpose: the `x` with `Lᵀ x = b` for lower triangular `L`
(`trans="T"`; again only the lower part of `L` is read). -/
def solveLowerT : (n : Nat) → Mat α n n → Vec α n → Vec α n
  | 0, _, _ => #v[]
  | n + 1, L, b =>
    let xn := b[Fin.last n] / L[Fin.last n][Fin.last n]
    let x' := solveLowerT n (lead L) (Vec.of fun i => b[i.castSucc] - L[Fin.last n][i.castSucc] * xn)
    x'.push xn

/-- matrix right-hand side: column by column -/
def solveLowerM {n m : Nat} (L : Mat α n n) (B : Mat α n m) : Mat α n m :=
  ofCols fun j => solveLower n L (col B j)

def solveLowerTM {n m : Nat} (L : Mat α n n) (B : Mat α n m) : Mat α n m :=
  ofCols fun j => solveLowerT n L (col B j)

end solve

/-- `anp.maximum(a, b)` for non-NaN arguments -/
def maxOf [LT α] [DecidableLT α] (a b : α) : α := if a < b then b else a

/-! ### `custom_op.py: AddJitterOp` (forward) -/

section jitter
variable [Zero α] [One α] [Add α] [Mul α] [Sub α] [Div α] [NatCast α] [LT α] [DecidableLT α]

/-- what `spl.cholesky(A, lower=True)` decides: all pivots of the elimination (taken from the last
row upwards, reading only the lower triangle) exceed `eps`.  `eps = 0` is positive definiteness in
exact arithmetic; the driver also evaluates `eps = ±2⁻⁴⁰·scale` to classify the decision as forced
(same answer) or free (LAPACK's answer on a numerically singular matrix is not modelled). -/
def isPD (eps : α) : (n : Nat) → Mat α n n → Bool
  | 0, _ => true
  | n + 1, A =>
    let d := A[Fin.last n][Fin.last n]
    if eps < d then
      isPD eps n (Mat.of fun i j => A[i.castSucc][j.castSucc] - A[Fin.last n][i.castSucc] * A[Fin.last n][j.castSucc] / d)
    else false

/-- `x + _get_constant_identity(x, c)` -/
def addDiag {n : Nat} (x : Mat α n n) (c : α) : Mat α n n :=
  Mat.of fun i j => if i = j then x[i][j] + c else x[i][j]

structure JitterOut (α : Type) (n : Nat) where
  sys : Mat α n n
  jitter : α
  /-- number of failed factorisations before the successful one -/
  steps : Nat

/-- the `while must_increase_jitter and jitter <= jitter_upperbound` loop; `k` counts the failed
attempts so far (`jitter == 0.0` exactly when `k = 0`); `none` = the final `assert`. -/
def jitterLoop {n : Nat} (eps : α) (x : Mat α n n) (sigsq init growth ub : α) : Nat → Nat → α → Option (JitterOut α n)
  | 0, _, _ => none
  | fuel + 1, k, jitter =>
    if ub < jitter then none
    else
      let A := addDiag x (sigsq + jitter)
      if isPD eps n A then some { sys := A, jitter := jitter, steps := k }
      else jitterLoop eps x sigsq init growth ub fuel (k + 1) (if k = 0 then init else jitter * growth)

/-- `AddJitterOp(flatten_and_concat(x, sigsq_init), initial_jitter_factor, jitter_growth)`;
`ubFactor = JITTER_UPPERBOUND_FACTOR`; `eps` the pivot threshold of `isPD` (`0` = exact). -/
def addJitter {n : Nat} (eps : α) (x : Mat α n n) (sigsq initFactor growth ubFactor : α) (fuel : Nat := 64) :
    Option (JitterOut α n) :=
  let meanDiag := sumFin (fun i : Fin n => x[i][i]) / (n : α)
  let m := maxOf 1 meanDiag
  jitterLoop eps x sigsq (initFactor * m) growth (ubFactor * m) fuel 0 0

end jitter

/-! ### `predict_posterior_marginals`, `sample_posterior_joint` (mean and covariance part) -/

section predict
variable [Zero α] [Add α] [Mul α] [Sub α] [Div α]

/-- `kernel(X1, X2) * covariance_scale` -/
def scaleM {n m : Nat} (K : Mat α n m) (s : α) : Mat α n m := Mat.of fun i j => K[i][j] * s

/-- `matmul(transpose(linv_k_tr_te), pred_mat) + reshape(mean(test_features), (-1, 1))` -/
def predMean {n t m : Nat} (V : Mat α n t) (P : Mat α n m) (ms : Vec α t) : Mat α t m :=
  Mat.of fun i j => dot (fun k : Fin n => V[k][i]) (fun k : Fin n => P[k][j]) + ms[i]

/-- `kernel.diagonal(test_features) * covariance_scale - sum(square(linv_k_tr_te), axis=0)` -/
def predVarRaw {n t : Nat} (V : Mat α n t) (kd : Vec α t) : Vec α t :=
  Vec.of fun i => kd[i] - sumFin (fun k : Fin n => V[k][i] * V[k][i])

/-- `kernel(test, test) * covariance_scale - dot(transpose(linv_k_tr_te), linv_k_tr_te)` -/
def jointCov {n t : Nat} (V : Mat α n t) (Kss : Mat α t t) : Mat α t t :=
  Mat.of fun i j => Kss[i][j] - dot (fun k : Fin n => V[k][i]) (fun k : Fin n => V[k][j])

structure Marginals (α : Type) (t m : Nat) where
  means : Mat α t m
  vars : Vec α t

/-- `predict_posterior_marginals(features, mean, kernel, chol_fact, pred_mat, test_features)`:
`Ks = kernel(features, test_features)`, `kd = kernel.diagonal(test_features)`,
`ms = mean(test_features)`, `floor = MIN_POSTERIOR_VARIANCE`. -/
def predictMarginals [LT α] [DecidableLT α] {n t m : Nat} (L : Mat α n n)
    (P : Mat α n m) (Ks : Mat α n t) (scale : α) (kd ms : Vec α t) (floor : α) :
    Marginals α t m :=
  let V := solveLowerM L (scaleM Ks scale)
  let raw := predVarRaw V (Vec.of fun i => kd[i] * scale)
  { means := predMean V P ms
    vars := Vec.of fun i => maxOf raw[i] floor }

structure Joint (α : Type) (t m : Nat) where
  mean : Mat α t m
  cov : Mat α t t
  /-- `posterior_cov + jitter_init * I`, the matrix handed to the Cholesky factorisation
  when `AddJitterOp` adds no further jitter -/
  sys : Mat α t t

/-- mean and covariance computed by `sample_posterior_joint`. -/
def posteriorJoint {n t m : Nat} (L : Mat α n n) (P : Mat α n m)
    (Ks : Mat α n t) (Kss : Mat α t t) (scale : α) (ms : Vec α t) (jit : α) :
    Joint α t m :=
  let V := solveLowerM L (scaleM Ks scale)
  let C := jointCov V (scaleM Kss scale)
  { mean := predMean V P ms
    cov := C
    sys := Mat.of fun i j => if i = j then C[i][j] + jit else C[i][j] }

end predict

/-! ### `negative_log_marginal_likelihood` without the transcendental part -/

section nll
variable [Zero α] [One α] [Add α] [Mul α] [Neg α] [LT α] [DecidableLT α]

/-- `anp.sum(anp.square(pred_mat))` -/
def sqNorm {n m : Nat} (P : Mat α n m) : α := sumFin fun i : Fin n => sumFin fun j : Fin m => P[i][j] * P[i][j]

def absOf (x : α) : α := if x < 0 then -x else x

def prodFin {n : Nat} (f : Fin n → α) : α := (List.ofFn f).foldr (· * ·) 1

/-- `∏ |Lᵢᵢ|`; the code's `logdet_cholfact` is `2 · log` of it (`= 2 Σ log |Lᵢᵢ|`). -/
def diagAbsProd {n : Nat} (L : Mat α n n) : α := prodFin fun i : Fin n => absOf L[i][i]

end nll

/-! ### `cholesky_update` / `sample_and_cholesky_update` -/

section update
variable [Zero α] [Add α] [Mul α] [Sub α] [Div α] [LT α] [DecidableLT α]

structure Update (α : Type) (n m : Nat) where
  lvec : Vec α n
  lsq : α
  lscal : α
  L : Mat α (n + 1) (n + 1)
  P : Mat α (n + 1) m

/-- `_compute_lvec`: `solve_triangular(chol_fact, kernel(features, feature) * covariance_scale)` -/
def computeLvec {n : Nat} (L : Mat α n n) (kvec : Vec α n) (scale : α) : Vec α n :=
  solveLower n L (Vec.of fun i => kvec[i] * scale)

/-- `cholesky_update(features, mean, kernel, chol_fact, pred_mat, noise_variance, feature, target, lvec)`.
`kdiag = kernel.diagonal(feature)`, `mscal = mean(feature)`,
`minDiag = MIN_CHOLESKY_DIAGONAL_VALUE`, `sqrt` the square-root oracle. -/
def cholUpdateWith {n m : Nat} (sqrt : α → α) (minDiag : α) (L : Mat α n n)
    (P : Mat α n m) (scale kdiag noise mscal : α) (target : Vec α m) (lvec : Vec α n) :
    Update α n m :=
  let kscal := kdiag * scale
  let lsq := maxOf (kscal + noise - sumFin (fun k : Fin n => lvec[k] * lvec[k])) (minDiag * minDiag)
  let lscal := sqrt lsq
  let pvec : Vec α m := Vec.of fun j => (target[j] - mscal - dot (fun k : Fin n => lvec[k]) (fun k : Fin n => P[k][j])) / lscal
  { lvec := lvec, lsq := lsq, lscal := lscal
    L := border L (Vec.of fun _ => 0) lvec lscal
    P := P.push pvec }

/-- `cholesky_update(...)` with `lvec=None`; `kvec = kernel(features, feature)`. -/
def cholUpdate {n m : Nat} (sqrt : α → α) (minDiag : α) (L : Mat α n n)
    (P : Mat α n m) (kvec : Vec α n) (scale kdiag noise mscal : α) (target : Vec α m) :
    Update α n m :=
  cholUpdateWith sqrt minDiag L P scale kdiag noise mscal target (computeLvec L kvec scale)

structure SampleUpdate (α : Type) (n m : Nat) where
  target : Vec α m
  upd : Update α n m

/-- `sample_and_cholesky_update(...)` with the standard-normal draws `n01` made explicit
(already zeroed where `mean_impute_mask` is set); `minVar = MIN_POSTERIOR_VARIANCE`. -/
def sampleAndUpdate {n m : Nat} (sqrt : α → α) (minDiag minVar : α) (L : Mat α n n)
    (P : Mat α n m) (kvec : Vec α n) (scale kdiag noise mscal : α) (n01 : Vec α m) :
    SampleUpdate α n m :=
  let lvec := computeLvec L kvec scale
  let predStd := sqrt (maxOf (kdiag * scale - sumFin (fun k : Fin n => lvec[k] * lvec[k])) minVar)
  let target : Vec α m :=
    Vec.of fun j => (dot (fun k : Fin n => lvec[k]) (fun k : Fin n => P[k][j]) + mscal) + n01[j] * predStd
  { target := target
    upd := cholUpdateWith sqrt minDiag L P scale kdiag noise mscal target lvec }

end update

/-! ### `custom_op.py`: backward passes -/

section vjp
variable [Zero α] [Add α] [Mul α] [Sub α] [Div α]

/-- `copyltu(x) = tril(x) + transpose(tril(x, -1))`: lower triangle (with diagonal) copied
to the upper triangle. -/
def copyltu {n : Nat} (X : Mat α n n) : Mat α n n :=
  Mat.of fun i j => if j.val ≤ i.val then X[i][j] else X[j][i]

/-- `np.tril` -/
def tril {n : Nat} (X : Mat α n n) : Mat α n n :=
  Mat.of fun i j => if j.val ≤ i.val then X[i][j] else 0

/-- `cholesky_factorization_backward(l, lbar)`:
```
abar = copyltu(matmul(transpose(l), lbar))
abar = transpose(solve_triangular(l, abar, lower=True, trans="T"))
abar = solve_triangular(l, abar, lower=True, trans="T")
return 0.5 * abar
``` -/
def cholBackward [OfNat α 2] {n : Nat} (L Lbar : Mat α n n) : Mat α n n :=
  let M := copyltu (matMul (transpose L) Lbar)
  let A1 := transpose (solveLowerTM L M)
  let W := solveLowerTM L A1
  Mat.of fun i j => W[i][j] / 2

/-- `AddJitterOp_vjp(...)(g) = append(reshape(g, (-1,)), sum(diag(g)))`: cotangents of the
matrix argument and of the scalar `sigsq_init`. -/
def jitterVjp {n : Nat} (g : Mat α n n) : Mat α n n × α :=
  (g, sumFin fun i : Fin n => g[i][i])

end vjp

/-! ### acquisition heads (`meanstd_acqfunc_impl.py`) -/

section heads
variable [Zero α] [Add α] [Mul α] [Sub α] [Div α] [Neg α] [NatCast α]

/-- `get_quantiles`: `s[s < 1e-10] = 1e-10` -/
def clampStd [LT α] [DecidableLT α] (s c : α) : α := if s < c then c else s

/-- `u = (fmin - m - acquisition_par) / s` -/
def eiU (best mu jit sd : α) : α := (best - mu - jit) / sd

/-- `EIAcquisitionFunction._compute_head` for one input row:
`np.mean((-stds) * (u * Phi + phi), axis=1)` -/
def eiHead {nf : Nat} (sd : α) (u Phi phi : Fin nf → α) : α :=
  sumFin (fun j => (-sd) * (u j * Phi j + phi j)) / (nf : α)

structure HeadGrad (α : Type) (nf : Nat) where
  hval : α
  dmean : Fin nf → α
  dstd : α

/-- `EIAcquisitionFunction._compute_head_and_gradient`:
`f_acqu = std * (u * Phi + phi)`, `hval = -np.mean(f_acqu)`,
`dh_dmean = Phi / nf`, `dh_dstd = np.mean(-phi)`. -/
def eiHeadGrad {nf : Nat} (sd : α) (u Phi phi : Fin nf → α) : HeadGrad α nf :=
  { hval := -(sumFin (fun j => sd * (u j * Phi j + phi j)) / (nf : α))
    dmean := fun j => Phi j / (nf : α)
    dstd := sumFin (fun j => -phi j) / (nf : α) }

/-- `LCBAcquisitionFunction._compute_head`: `np.mean(means - stds * kappa, axis=1)` -/
def lcbHead {nf : Nat} (kappa sd : α) (mu : Fin nf → α) : α :=
  sumFin (fun j => mu j - sd * kappa) / (nf : α)

/-- `LCBAcquisitionFunction._compute_head_and_gradient`:
`dh_dmean = ones_like(mean) / nf`, `dh_dstd = (-kappa) * ones_like(std)` -/
def lcbHeadGrad [One α] {nf : Nat} (kappa sd : α) (mu : Fin nf → α) : HeadGrad α nf :=
  { hval := sumFin (fun j => mu j - sd * kappa) / (nf : α)
    dmean := fun _ => 1 / (nf : α)
    dstd := (-kappa) * 1 }

end heads

end SyneTune.GP
